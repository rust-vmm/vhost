import VhostModel.Base
/-!
# Base definitions for the kernel ioctl backends (property C19)

* row types of the generated tables (`Gen/Ioctl.lean`)
* `layoutK`: the `repr(C)` layout algorithm of `Base.layoutOf`, written with structural recursion only
  (so the kernel can evaluate it: `decide` works on concrete tables) and extended with unions
* byte images: `poke`/`peek` (write / read a little-endian field at an offset) and `imageOf` (a zeroed
  buffer with a list of fields written into it); their lemmas are in `Lemmas/Image.lean`

Core Lean only.
-/
namespace Base

/-! ## generated-table row types -/

inductive IoKind where
  | io | ior | iow | iowr
  deriving Repr, DecidableEq, Inhabited

/-- one `ioctl_io*_nr!(NAME, ty, nr[, argty])` item -/
structure IoctlRow where
  name : String
  kind : IoKind
  ty : Nat
  nr : Nat
  arg : Option FieldTy
  deriving Repr, DecidableEq, Inhabited

/-- one backend method that issues an ioctl -/
structure OpRow where
  scope : String
  method : String
  wrapper : String
  request : String
  fd : String
  arg : String
  inits : List (String × String)
  deriving Repr, DecidableEq, Inhabited

/-- one branch of `send_iotlb_msg` -/
structure IotlbBranch where
  cond : String
  struct : String
  typeConst : String
  assigns : List (List String × String)
  writeArgs : List String
  deriving Repr, DecidableEq, Inhabited

/-- one `VhostIotlbMsgParser` impl -/
structure IotlbParser where
  struct : String
  typeConst : String
  zeroCheck : List String
  assigns : List (String × List String × String)
  deriving Repr, DecidableEq, Inhabited

/-! ## layout, structurally recursive, with unions -/

def saWith (look : String → Option SizeAlign) : FieldTy → Option SizeAlign
  | .int b => some ⟨b, b⟩
  | .arr e n => (saWith look e).map fun sa => ⟨sa.size * n, sa.align⟩
  | .struct nm => look nm

/-- struct members in order (same rule as `Base.layoutWith`) -/
def layFields (sa : FieldTy → Option SizeAlign) (packed : Bool) :
    List (String × FieldTy) → Nat → Nat → List (String × Nat × Nat) → Option Layout
  | [], off, al, acc => some ⟨if packed then off else alignUp off al, if packed then 1 else al, acc.reverse⟩
  | (nm, ty) :: rest, off, al, acc =>
    match sa ty with
    | none => none
    | some s =>
      let a := if packed then 1 else s.align
      let o := alignUp off a
      layFields sa packed rest (o + s.size) (max al a) ((nm, o, s.size) :: acc)

/-- union members: all at offset 0; size = largest member rounded up to the alignment -/
def layUnion (sa : FieldTy → Option SizeAlign) :
    List (String × FieldTy) → Nat → Nat → List (String × Nat × Nat) → Option Layout
  | [], sz, al, acc => some ⟨alignUp sz al, al, acc.reverse⟩
  | (nm, ty) :: rest, sz, al, acc =>
    match sa ty with
    | none => none
    | some s => layUnion sa rest (max sz s.size) (max al s.align) ((nm, 0, s.size) :: acc)

/-- `fuel` bounds the nesting depth of struct-typed members (`fuel = 1`: no nested structs) -/
def layoutK (tbl : List StructDef) : Nat → StructDef → Option Layout
  | 0, _ => none
  | fuel + 1, sd =>
    let look : String → Option SizeAlign := fun nm =>
      match tbl.find? (·.name == nm) with
      | none => none
      | some sd' => (layoutK tbl fuel sd').map fun l => ⟨l.size, l.align⟩
    if sd.repr == .union then layUnion (saWith look) sd.fields 0 1 []
    else layFields (saWith look) (sd.repr == .packed) sd.fields 0 1 []

def layoutKByName (tbl : List StructDef) (nm : String) : Option Layout :=
  match tbl.find? (·.name == nm) with
  | none => none
  | some sd => layoutK tbl 5 sd

/-- which struct a member holds -/
def memberStruct (tbl : List StructDef) (s f : String) : Option String :=
  match tbl.find? (·.name == s) with
  | none => none
  | some sd => match sd.fields.find? (·.1 == f) with
    | some (_, .struct n) => some n
    | _ => none

/-- absolute offset and width of a member path -/
def leafAtK (tbl : List StructDef) : String → List String → Option (Nat × Nat)
  | _, [] => none
  | s, [f] => (layoutKByName tbl s).bind fun l => (l.fields.find? (·.1 == f)).map (·.2)
  | s, f :: rest =>
    match (layoutKByName tbl s).bind fun l => (l.fields.find? (·.1 == f)).map (·.2), memberStruct tbl s f with
    | some (off, _), some inner => (leafAtK tbl inner rest).map fun (o, w) => (off + o, w)
    | _, _ => none

/-! ## byte images -/

/-- read `w` bytes at `off` as a little-endian number -/
def peek (bs : Bytes) (off w : Nat) : Nat := leVal ((bs.drop off).take w)

/-- write `v` (low `w` bytes, little-endian) at `off` -/
def poke (bs : Bytes) (off w v : Nat) : Bytes := bs.take off ++ (leBytes w v ++ bs.drop (off + w))

/-- a field to be written: offset, width, value -/
abbrev Leaf := Nat × Nat × Nat

def zeros (n : Nat) : Bytes := List.replicate n 0

/-- zeroed buffer of `size` bytes with the leaves written in order -/
def imageOf (size : Nat) (ls : List Leaf) : Bytes :=
  ls.foldl (fun bs l => poke bs l.1 l.2.1 l.2.2) (zeros size)

/-- pairwise disjoint byte ranges -/
def LeafDisjoint (a b : Leaf) : Prop := a.1 + a.2.1 ≤ b.1 ∨ b.1 + b.2.1 ≤ a.1

instance (a b : Leaf) : Decidable (LeafDisjoint a b) := by unfold LeafDisjoint; exact inferInstance

end Base

/-! ## line protocol of the `kern` family (shared by model driver, spec driver; no model or spec content) -/
namespace Base.K

inductive Call where
  | io (nr : Nat) (arg : Bytes)
  | wr (bs : Bytes)
  | rd (n : Nat)
  deriving Repr, DecidableEq, Inhabited

inductive Ret where
  | ok
  | okv (v : Nat)
  | okb (bs : Bytes)
  | ok2 (a b : Nat)
  | ok5 (iova size ua perm ty : Nat)
  | lay (size align : Nat) (fields : List (String × Nat))
  | err (cls : String)
  deriving Repr, DecidableEq, Inhabited

structure Obs where
  calls : List Call
  ret : Ret
  acked : Option Nat := none
  deriving Repr, DecidableEq, Inhabited

/-- scenario: `kern be= op= a= buf= mem= feat= wb= rc=` -/
structure Inp where
  be : String
  op : String
  a : List Nat
  buf : Bytes
  mem : List (Nat × Nat × Nat)   -- guest address, size, host address
  feat : Nat
  wb : Bytes
  rc : Nat                        -- 0: the kernel returns 0; otherwise -1
  deriving Repr, Inhabited

def hexB (bs : Bytes) : String := if bs.isEmpty then "-" else hexOfBytes bs

def Call.render : Call → String
  | .io nr arg => s!"io:{hexOfNat nr}:{hexB arg}"
  | .wr bs => s!"wr:{hexB bs}"
  | .rd n => s!"rd:{hexOfNat n}"

def Ret.render : Ret → String
  | .ok => "ok"
  | .okv v => s!"ok:{hexOfNat v}"
  | .okb bs => s!"okb:{hexB bs}"
  | .ok2 a b => s!"ok2:{hexOfNat a}:{hexOfNat b}"
  | .ok5 a b c d e => s!"ok5:{hexOfNat a}:{hexOfNat b}:{hexOfNat c}:{hexOfNat d}:{hexOfNat e}"
  | .lay s a fs => s!"lay:{s}:{a}" ++ String.join (fs.map fun (f, o) => s!":{f}@{o}")
  | .err c => s!"err:{c}"

def Obs.render (o : Obs) : String :=
  let cs := if o.calls.isEmpty then "-" else ",".intercalate (o.calls.map Call.render)
  s!"calls={cs} ret={o.ret.render}" ++ (match o.acked with | some a => s!" acked={hexOfNat a}" | none => "")

def kvOf (toks : List String) (key : String) : Option String :=
  (toks.find? (fun t => t.startsWith (key ++ "="))).map fun t => (t.drop (key.length + 1)).toString

def hexList? (s : String) : Option (List Nat) :=
  if s == "-" then some [] else (s.splitOn ",").mapM natOfHex?

def bytes? (s : String) : Option Bytes := if s == "-" then some [] else bytesOfHex? s

def mem? (s : String) : Option (List (Nat × Nat × Nat)) :=
  if s == "-" then some [] else
  (s.splitOn ",").mapM fun r =>
    match r.splitOn ":" with
    | [g, z, h] => do pure (← natOfHex? g, ← natOfHex? z, ← natOfHex? h)
    | _ => none

def parseInp (toks : List String) : Option Inp := do
  let be ← kvOf toks "be"
  let op ← kvOf toks "op"
  let a ← hexList? (← kvOf toks "a")
  let buf ← bytes? (← kvOf toks "buf")
  let mem ← mem? (← kvOf toks "mem")
  let feat ← natOfHex? (← kvOf toks "feat")
  let wb ← bytes? (← kvOf toks "wb")
  let rc ← natOfHex? (← kvOf toks "rc")
  pure { be, op, a, buf, mem, feat, wb, rc }

def parseCall (s : String) : Option Call :=
  match s.splitOn ":" with
  | ["io", nr, arg] => do pure (.io (← natOfHex? nr) (← bytes? arg))
  | ["wr", bs] => do pure (.wr (← bytes? bs))
  | ["rd", n] => do pure (.rd (← natOfHex? n))
  | _ => none

def parseRet (s : String) : Option Ret :=
  match s.splitOn ":" with
  | ["ok"] => some .ok
  | ["ok", v] => (natOfHex? v).map .okv
  | ["okb", b] => (bytes? b).map .okb
  | ["ok2", a, b] => do pure (.ok2 (← natOfHex? a) (← natOfHex? b))
  | ["ok5", a, b, c, d, e] => do pure (.ok5 (← natOfHex? a) (← natOfHex? b) (← natOfHex? c) (← natOfHex? d) (← natOfHex? e))
  | "lay" :: s :: a :: fs => do
    let fl ← fs.mapM fun f => match f.splitOn "@" with
      | [n, o] => o.toNat?.map fun o => (n, o)
      | _ => none
    pure (.lay (← s.toNat?) (← a.toNat?) fl)
  | ["err", c] => some (.err c)
  | _ => none

def parseObs (toks : List String) : Option Obs := do
  let cs ← kvOf toks "calls"
  let calls ← if cs == "-" then some [] else (cs.splitOn ",").mapM parseCall
  let ret ← parseRet (← kvOf toks "ret")
  let acked ← match kvOf toks "acked" with
    | none => some none
    | some a => (natOfHex? a).map some
  pure { calls, ret, acked }

/-- the stand-in kernel's write-back pattern: `wb` repeated cyclically over `n` bytes -/
def cyc (wb : Bytes) (n : Nat) : Bytes :=
  if wb.isEmpty then zeros n else (List.range n).map fun i => wb.getD (i % wb.length) 0

end Base.K
