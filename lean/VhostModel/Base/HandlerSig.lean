/-!
# Events of a method of the daemon's request handler (shared by the generated table and the model)

`tools/rs2lean_handler.py` reads `vhost-user-backend/src/handler.rs` and writes `Gen/HandlerOps.lean` in this vocabulary:
per method of `impl VhostUserBackendReqHandlerMut for VhostUserHandler<T>`, in source order, the list of *events* of its
body.  `Model/HandlerTable.lean` states in the same vocabulary what the four models of the handler (`Model.RingReg`,
`Model.Vring`, `Model.MemTable`, `Model.Bitmap`) assume; `Props/HandlerOps.lean` compares the two and ties the table to
the executable models.

`HAct` are the events without sub-events, `HEvent` adds the four that carry event lists (a private helper's body, the two
kinds of loop, the two kinds of branch).  All fields are `Nat` / `String` / `Bool` / `List String`; strings occur only as
constructor arguments.  Conditions and values are named by the canonical rendering of the Rust expression; the ones that
are pure arithmetic over the arguments and the handler's fields come with a Lean function of `HIn`
(`Gen.HandlerOps.boolExprs` / `natExprs`).
-/
namespace Base

/-- events without sub-events; `err` is the `VhostUserError` variant returned (`"*"`: the callee's error as it is) -/
inductive HAct where
  -- guards: the steps that can fail
  /-- `let vring = self.vrings.get(index as usize).ok_or(err)?` -/
  | indexBound (err : String)
  /-- `check_feature(F)?` with `F` the virtio feature of this bit number: `self.acked_features & F == 0` fails -/
  | featureAcked (bit : Nat) (err : String)
  /-- `if cond { return Err(err) }` -/
  | valueCheck (cond : String) (err : String)
  /-- `let Some(..) = what else { return Err(err) }` -/
  | requireSome (what : String) (err : String)
  /-- `let bindTo = self.vmm_va_to_gpa(arg).map_err(..err..)?` -/
  | addrTranslate (arg : String) (err : String) (bindTo : String)
  /-- `[let bindTo =] vring.method(args).map_err(|_| err)?` -/
  | vringTry (method : String) (args : List String) (err : String) (bindTo : String)
  /-- `self.backend.method(args).map_err(..err..)?` -/
  | backendTry (method : String) (args : List String) (err : String)
  /-- a fallible call into vm-memory / the bitmap module / userfaultfd, propagated with `?` -/
  | libTry (what : String) (err : String)
  -- effects
  /-- `self.name = val` -/
  | setField (name : String) (val : String)
  /-- `vring.method(args)` (a setter of `VringT`) -/
  | vringCall (method : String) (args : List String)
  /-- `let bindTo = vring.method()` (`get_ref`: the ring's lock is taken; `queue_next_avail`) -/
  | vringGet (method : String) (bindTo : String)
  /-- `self.backend.method(args)` -/
  | backendCall (method : String) (args : List String)
  /-- `backend.method(args)` on the `Backend` channel handed over by SET_BACKEND_REQ_FD -/
  | channelCall (method : String) (args : List String)
  /-- an infallible call with an effect outside the handler (`libc::dup`, `File::from_raw_fd`) -/
  | libCall (what : String)
  /-- `if let Err(e) = self.handlers[thread_index].register_event(fd, IN, evt_idx) { if e.kind() != tolerated { return Err(err(e)) } }` -/
  | epollRegister (tolerated : String) (err : String)
  /-- `let _ = self.handlers[thread_index].unregister_event(fd, IN, evt_idx)` -/
  | epollUnregister
  /-- `self.atomic_mem.lock().unwrap().replace(mem)` -/
  | memReplace
  /-- `self.mappings = mappings` (the local table built before) -/
  | mappingsAssign
  /-- `self.mappings.push(what)` -/
  | mappingsPush (what : String)
  /-- `self.mappings.retain(|mapping| cond)` -/
  | mappingsRetain (cond : String)
  /-- `self.logmem = Some(logmem)` -/
  | logAssign
  /-- `region.bitmap().replace(bitmap)` -/
  | bitmapReplace
  /-- `let mut name = Vec::new()` -/
  | localNew (name : String)
  /-- `name.push(what)` -/
  | localPush (name : String) (what : String)
  /-- `let name = expr` for an expression without an effect -/
  | bind (name : String) (expr : String)
  /-- `break` -/
  | brk
  -- results
  /-- `Ok(())` -/
  | ok
  /-- `Ok(expr)` -/
  | okValue (expr : String)
  /-- `Ok(self.backend.method(args))` -/
  | okBackend (method : String) (args : List String)
  /-- `self.backend.method(args).map_err(..err..)` as the result -/
  | retBackend (method : String) (args : List String) (err : String)
  /-- `Err(e)` -/
  | err (e : String)
  /-- the value of a function that does not return a `Result` -/
  | value (expr : String)
  /-- end of a function returning `()` -/
  | done
  deriving Repr, DecidableEq, Inhabited

inductive HEvent where
  | act (a : HAct)
  /-- `self.name(args)` (`propagates`: under `?`, or as the function's result) with the events of the helper's own body -/
  | helperCall (name : String) (args : List String) (propagates : Bool) (body : List HEvent)
  /-- `for (index, vring) in self.vrings.iter().enumerate()` / `for vring in self.vrings.iter_mut()` -/
  | forEachVring (body : List HEvent)
  /-- `for .. in coll` for the other collections -/
  | forEach (coll : String) (body : List HEvent)
  /-- `if cond { thn } else { els }` -/
  | ifCond (cond : String) (thn els : List HEvent)
  /-- `if let Some(..) = what { thn } else { els }` -/
  | ifSome (what : String) (thn els : List HEvent)
  deriving Repr, Inhabited

namespace HEvent

@[match_pattern, simp] abbrev indexBound (e : String) : HEvent := .act (.indexBound e)
@[match_pattern, simp] abbrev featureAcked (b : Nat) (e : String) : HEvent := .act (.featureAcked b e)
@[match_pattern, simp] abbrev valueCheck (c e : String) : HEvent := .act (.valueCheck c e)
@[match_pattern, simp] abbrev requireSome (w e : String) : HEvent := .act (.requireSome w e)
@[match_pattern, simp] abbrev addrTranslate (a e b : String) : HEvent := .act (.addrTranslate a e b)
@[match_pattern, simp] abbrev vringTry (m : String) (a : List String) (e b : String) : HEvent := .act (.vringTry m a e b)
@[match_pattern, simp] abbrev backendTry (m : String) (a : List String) (e : String) : HEvent := .act (.backendTry m a e)
@[match_pattern, simp] abbrev libTry (w e : String) : HEvent := .act (.libTry w e)
@[match_pattern, simp] abbrev setField (n v : String) : HEvent := .act (.setField n v)
@[match_pattern, simp] abbrev vringCall (m : String) (a : List String) : HEvent := .act (.vringCall m a)
@[match_pattern, simp] abbrev vringGet (m b : String) : HEvent := .act (.vringGet m b)
@[match_pattern, simp] abbrev backendCall (m : String) (a : List String) : HEvent := .act (.backendCall m a)
@[match_pattern, simp] abbrev channelCall (m : String) (a : List String) : HEvent := .act (.channelCall m a)
@[match_pattern, simp] abbrev libCall (w : String) : HEvent := .act (.libCall w)
@[match_pattern, simp] abbrev epollRegister (t e : String) : HEvent := .act (.epollRegister t e)
@[match_pattern, simp] abbrev epollUnregister : HEvent := .act .epollUnregister
@[match_pattern, simp] abbrev memReplace : HEvent := .act .memReplace
@[match_pattern, simp] abbrev mappingsAssign : HEvent := .act .mappingsAssign
@[match_pattern, simp] abbrev mappingsPush (w : String) : HEvent := .act (.mappingsPush w)
@[match_pattern, simp] abbrev mappingsRetain (c : String) : HEvent := .act (.mappingsRetain c)
@[match_pattern, simp] abbrev logAssign : HEvent := .act .logAssign
@[match_pattern, simp] abbrev bitmapReplace : HEvent := .act .bitmapReplace
@[match_pattern, simp] abbrev localNew (n : String) : HEvent := .act (.localNew n)
@[match_pattern, simp] abbrev localPush (n w : String) : HEvent := .act (.localPush n w)
@[match_pattern, simp] abbrev bind (n e : String) : HEvent := .act (.bind n e)
@[match_pattern, simp] abbrev brk : HEvent := .act .brk
@[match_pattern, simp] abbrev ok : HEvent := .act .ok
@[match_pattern, simp] abbrev okValue (e : String) : HEvent := .act (.okValue e)
@[match_pattern, simp] abbrev okBackend (m : String) (a : List String) : HEvent := .act (.okBackend m a)
@[match_pattern, simp] abbrev retBackend (m : String) (a : List String) (e : String) : HEvent := .act (.retBackend m a e)
@[match_pattern, simp] abbrev err (e : String) : HEvent := .act (.err e)
@[match_pattern, simp] abbrev value (e : String) : HEvent := .act (.value e)
@[match_pattern, simp] abbrev done : HEvent := .act .done

/-! ### decidable comparison (the derive handler does not cover nested inductives) -/

mutual
def beq : HEvent → HEvent → Bool
  | .act x, .act y => x == y
  | .helperCall n a p b, .helperCall n' a' p' b' => n == n' && a == a' && p == p' && beqL b b'
  | .forEachVring b, .forEachVring b' => beqL b b'
  | .forEach c b, .forEach c' b' => c == c' && beqL b b'
  | .ifCond c t f, .ifCond c' t' f' => c == c' && beqL t t' && beqL f f'
  | .ifSome c t f, .ifSome c' t' f' => c == c' && beqL t t' && beqL f f'
  | _, _ => false
def beqL : List HEvent → List HEvent → Bool
  | [], [] => true
  | x :: xs, y :: ys => beq x y && beqL xs ys
  | _, _ => false
end

mutual
theorem beq_sound : ∀ (a b : HEvent), beq a b = true → a = b
  | .act x, .act y, h => by simp [beq] at h; rw [h]
  | .helperCall n a p b, .helperCall n' a' p' b', h => by
      simp [beq] at h; obtain ⟨⟨⟨h1, h2⟩, h3⟩, h4⟩ := h; rw [h1, h2, h3, beqL_sound _ _ h4]
  | .forEachVring b, .forEachVring b', h => by simp [beq] at h; rw [beqL_sound _ _ h]
  | .forEach c b, .forEach c' b', h => by simp [beq] at h; rw [h.1, beqL_sound _ _ h.2]
  | .ifCond c t f, .ifCond c' t' f', h => by
      simp [beq] at h; obtain ⟨⟨h1, h2⟩, h3⟩ := h; rw [h1, beqL_sound _ _ h2, beqL_sound _ _ h3]
  | .ifSome c t f, .ifSome c' t' f', h => by
      simp [beq] at h; obtain ⟨⟨h1, h2⟩, h3⟩ := h; rw [h1, beqL_sound _ _ h2, beqL_sound _ _ h3]
  | .act _, .helperCall .., h | .act _, .forEachVring _, h | .act _, .forEach .., h | .act _, .ifCond .., h
  | .act _, .ifSome .., h => by simp [beq] at h
  | .helperCall .., .act _, h | .helperCall .., .forEachVring _, h | .helperCall .., .forEach .., h
  | .helperCall .., .ifCond .., h | .helperCall .., .ifSome .., h => by simp [beq] at h
  | .forEachVring _, .act _, h | .forEachVring _, .helperCall .., h | .forEachVring _, .forEach .., h
  | .forEachVring _, .ifCond .., h | .forEachVring _, .ifSome .., h => by simp [beq] at h
  | .forEach .., .act _, h | .forEach .., .helperCall .., h | .forEach .., .forEachVring _, h
  | .forEach .., .ifCond .., h | .forEach .., .ifSome .., h => by simp [beq] at h
  | .ifCond .., .act _, h | .ifCond .., .helperCall .., h | .ifCond .., .forEachVring _, h
  | .ifCond .., .forEach .., h | .ifCond .., .ifSome .., h => by simp [beq] at h
  | .ifSome .., .act _, h | .ifSome .., .helperCall .., h | .ifSome .., .forEachVring _, h
  | .ifSome .., .forEach .., h | .ifSome .., .ifCond .., h => by simp [beq] at h
theorem beqL_sound : ∀ (a b : List HEvent), beqL a b = true → a = b
  | [], [], _ => rfl
  | x :: xs, y :: ys, h => by simp [beqL] at h; rw [beq_sound _ _ h.1, beqL_sound _ _ h.2]
  | [], _ :: _, h => by simp [beqL] at h
  | _ :: _, [], h => by simp [beqL] at h
end

mutual
theorem beq_refl : ∀ (a : HEvent), beq a a = true
  | .act x => by simp [beq]
  | .helperCall _ _ _ b => by simp [beq, beqL_refl b]
  | .forEachVring b => by simp [beq, beqL_refl b]
  | .forEach _ b => by simp [beq, beqL_refl b]
  | .ifCond _ t f => by simp [beq, beqL_refl t, beqL_refl f]
  | .ifSome _ t f => by simp [beq, beqL_refl t, beqL_refl f]
theorem beqL_refl : ∀ (a : List HEvent), beqL a a = true
  | [] => rfl
  | x :: xs => by simp [beqL, beq_refl x, beqL_refl xs]
end

instance : DecidableEq HEvent := fun a b =>
  if h : beq a b = true then isTrue (beq_sound a b h) else isFalse (fun e => h (e ▸ beq_refl a))

end HEvent

/-- a method (or helper) and the events of its body -/
abbrev HRow := String × List HEvent

/-- the events of method `n` (empty for an unknown name) -/
def rowOf (t : List HRow) (n : String) : List HEvent := (t.lookup n).getD []

/-- What a translated expression may refer to: the arguments of the methods, the fields of `VhostUserHandler`, the locals
bound by earlier events, the state of the ring at hand and the variables of the loops over `self.mappings` and
`self.queues_per_thread` — each by its Rust name (`mapping.vmm_addr` ↦ `mapping_vmm_addr`, `self.backend.features()` ↦
`backend_features`, `self.mappings.is_empty()` ↦ `mappings_empty`, `vring_state.get_queue().ready()` ↦ `ring_ready`, …).
Integers are naturals below `2^bits` of their Rust type. -/
structure HIn where
  -- arguments
  index : Nat := 0
  num : Nat := 0
  base : Nat := 0
  features : Nat := 0
  descriptor : Nat := 0
  used : Nat := 0
  available : Nat := 0
  offset : Nat := 0
  size : Nat := 0
  enable : Bool := false
  vmm_va : Nat := 0
  feat : Nat := 0
  region_guest_phys_addr : Nat := 0
  region_memory_size : Nat := 0
  region_user_addr : Nat := 0
  -- fields of the handler
  owned : Bool := false
  features_acked : Bool := false
  acked_features : Nat := 0
  acked_protocol_features : Nat := 0
  num_queues : Nat := 0
  max_queue_size : Nat := 0
  mappings_empty : Bool := true
  backend_features : Nat := 0
  -- locals bound by earlier events
  desc_table : Nat := 0
  avail_ring : Nat := 0
  used_ring : Nat := 0
  idx : Nat := 0
  next_avail : Nat := 0
  -- the ring at hand
  ring_ready : Bool := false
  ring_enabled : Bool := false
  ring_kick_some : Bool := false
  -- loop variables
  mapping_vmm_addr : Nat := 0
  mapping_size : Nat := 0
  mapping_gpa_base : Nat := 0
  queues_mask : Nat := 0
  deriving Repr, Inhabited

/-- a translated condition: identifier, value, side condition under which its machine arithmetic is defined -/
abbrev HBoolExpr := String × (HIn → Bool) × (HIn → Bool)
abbrev HNatExpr := String × (HIn → Nat) × (HIn → Bool)

def boolOf (t : List HBoolExpr) (id : String) : HIn → Bool := ((t.lookup id).map (·.1)).getD (fun _ => false)
def natOf (t : List HNatExpr) (id : String) : HIn → Nat := ((t.lookup id).map (·.1)).getD (fun _ => 0)

end Base
