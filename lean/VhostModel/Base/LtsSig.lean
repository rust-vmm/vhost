import VhostModel.Base.HandlerSig
/-!
# Events of the functions behind the two transition systems `Model.Worker` (C12) and `Model.Shutdown` (C16)

`tools/rs2lean_lts.py` reads `vhost-user-backend/src/{event_loop.rs, vring.rs, handler.rs, lib.rs}` *with* the statements
under `#[cfg(feature = "verif-hooks")]` and writes `Gen/LtsSteps.lean` in this vocabulary: per function the events of its
body, hold points included, and per function the *segments* — the residual programs from function entry and from every
hold point up to the next hold points.  `Model/LtsTable.lean` states in the same vocabulary which segment each step of the
two models stands for; `Props/LtsSteps.lean` compares the two and ties the table to the executable step functions.

* `LAct` — events without sub-events: everything of `Base.HAct` (`.h a`; guards, vring calls, epoll register / unregister,
  returns, …) plus the hold points and the operations of the worker loop and of the shutdown paths.
* `LEvent` — `act a` or `node kind strings body₁ body₂`: the constructs that carry event lists.  The readable
  constructors (`ifCond c t f`, `helperCall n args p body`, `loop label bind body`, `matchOn bind scrut arms`, …) are
  `@[match_pattern]` abbreviations of `node`; one recursive constructor keeps `DecidableEq` and the functions on trees
  short.
* frames of a residual program: `loopFrom label bind cur body` / `forFrom coll cur body` / `forVringFrom cur body` — we are
  inside an iteration of the loop with `cur` left of it, after which the loop goes on with `body`; a `helperCall` whose
  body is the rest of the helper's body.
* `segmentsOf` — the derivation of the segments from a row, in Lean (the translator derives them on its own;
  `Props.LtsSteps.segments_derivation_agrees` compares the two derivations).
-/
namespace Base

inductive LAct where
  /-- an event of the handler vocabulary -/
  | h (a : HAct)
  /-- `#[cfg(feature = "verif-hooks")] vhost::vhost_user::verif_hooks::hold(name, ctx)` -/
  | hold (name : String)
  /-- `continue ['label]` -/
  | cont (label : String)
  /-- `break 'label` -/
  | brkTo (label : String)
  /-- `break value` (the value of the enclosing `loop`) -/
  | brkVal (value : String)
  /-- `what?` on a value bound before (`res?` in an arm) -/
  | propagate (what : String)
  /-- `self.epoll.wait(-1, &mut events[..])` -/
  | epollWait
  /-- `kick.consume()` (`propagates`: under `?`) -/
  | consume (propagates : Bool)
  /-- `self.backend.handle_event(device_event, evset, &self.vrings, self.thread_id).map_err(err)?` -/
  | backendHandleEvent (err : String)
  /-- `flag.store(value, Ordering::order)` -/
  | atomicStore (flag value order : String)
  /-- `flag.load(Ordering::order)` -/
  | atomicLoad (flag order : String)
  /-- `let _ = what.shutdown(Shutdown::Both)` -/
  | sockShutdown (what : String)
  /-- `what.join()` (`err`: `.map_err(err)?`, empty: the result is looked at by the next event) -/
  | threadJoin (what err : String)
  /-- `handler.handle_request().map_err(err)` (the result is looked at by the next event) -/
  | handleRequest (err : String)
  /-- `let _ = eventfd.notify()` on a worker's exit event -/
  | exitEventSend
  /-- `let bindTo = thread::Builder::new().name(..).spawn(move || row).map_err(err)?`; the closure is the row `row` -/
  | spawn (bindTo err row : String)
  /-- `drop(guard)` -/
  | dropGuard (guard : String)
  deriving Repr, DecidableEq, Inhabited

inductive LKind where
  | helperCall (propagates : Bool)
  | forEachVring | forEach | ifCond | ifSome | ifLet | letElse | loop | matchOn | arm | closure | readKick
  | loopFrom | forFrom | forVringFrom
  deriving Repr, DecidableEq, Inhabited

inductive LEvent where
  | act (a : LAct)
  | node (k : LKind) (ss : List String) (b1 b2 : List LEvent)
  deriving Repr, Inhabited

namespace LEvent

-- the handler vocabulary
@[match_pattern, simp] abbrev indexBound (e : String) : LEvent := .act (.h (.indexBound e))
@[match_pattern, simp] abbrev featureAcked (b : Nat) (e : String) : LEvent := .act (.h (.featureAcked b e))
@[match_pattern, simp] abbrev valueCheck (c e : String) : LEvent := .act (.h (.valueCheck c e))
@[match_pattern, simp] abbrev libTry (w e : String) : LEvent := .act (.h (.libTry w e))
@[match_pattern, simp] abbrev setField (n v : String) : LEvent := .act (.h (.setField n v))
@[match_pattern, simp] abbrev vringCall (m : String) (a : List String) : LEvent := .act (.h (.vringCall m a))
@[match_pattern, simp] abbrev vringTry (m : String) (a : List String) (e b : String) : LEvent := .act (.h (.vringTry m a e b))
@[match_pattern, simp] abbrev vringGet (m b : String) : LEvent := .act (.h (.vringGet m b))
@[match_pattern, simp] abbrev backendCall (m : String) (a : List String) : LEvent := .act (.h (.backendCall m a))
@[match_pattern, simp] abbrev libCall (w : String) : LEvent := .act (.h (.libCall w))
@[match_pattern, simp] abbrev epollRegister (t e : String) : LEvent := .act (.h (.epollRegister t e))
@[match_pattern, simp] abbrev epollUnregister : LEvent := .act (.h .epollUnregister)
@[match_pattern, simp] abbrev bind (n e : String) : LEvent := .act (.h (.bind n e))
@[match_pattern, simp] abbrev brk : LEvent := .act (.h .brk)
@[match_pattern, simp] abbrev ok : LEvent := .act (.h .ok)
@[match_pattern, simp] abbrev okValue (e : String) : LEvent := .act (.h (.okValue e))
@[match_pattern, simp] abbrev err (e : String) : LEvent := .act (.h (.err e))
@[match_pattern, simp] abbrev value (e : String) : LEvent := .act (.h (.value e))
@[match_pattern, simp] abbrev done : LEvent := .act (.h .done)
-- new events without sub-events
@[match_pattern, simp] abbrev hold (n : String) : LEvent := .act (.hold n)
@[match_pattern, simp] abbrev cont (l : String) : LEvent := .act (.cont l)
@[match_pattern, simp] abbrev brkTo (l : String) : LEvent := .act (.brkTo l)
@[match_pattern, simp] abbrev brkVal (v : String) : LEvent := .act (.brkVal v)
@[match_pattern, simp] abbrev propagate (w : String) : LEvent := .act (.propagate w)
@[match_pattern, simp] abbrev epollWait : LEvent := .act .epollWait
@[match_pattern, simp] abbrev consume (p : Bool) : LEvent := .act (.consume p)
@[match_pattern, simp] abbrev backendHandleEvent (e : String) : LEvent := .act (.backendHandleEvent e)
@[match_pattern, simp] abbrev atomicStore (f v o : String) : LEvent := .act (.atomicStore f v o)
@[match_pattern, simp] abbrev atomicLoad (f o : String) : LEvent := .act (.atomicLoad f o)
@[match_pattern, simp] abbrev sockShutdown (w : String) : LEvent := .act (.sockShutdown w)
@[match_pattern, simp] abbrev threadJoin (w e : String) : LEvent := .act (.threadJoin w e)
@[match_pattern, simp] abbrev handleRequest (e : String) : LEvent := .act (.handleRequest e)
@[match_pattern, simp] abbrev exitEventSend : LEvent := .act .exitEventSend
@[match_pattern, simp] abbrev spawn (b e r : String) : LEvent := .act (.spawn b e r)
@[match_pattern, simp] abbrev dropGuard (g : String) : LEvent := .act (.dropGuard g)
-- events with sub-events
/-- `self.name(args)` (`propagates`: under `?`) with the events of the helper's own body -/
@[match_pattern, simp] abbrev helperCall (n : String) (a : List String) (p : Bool) (b : List LEvent) : LEvent :=
  .node (.helperCall p) (n :: a) b []
/-- `for (index, vring) in self.vrings.iter().enumerate()` -/
@[match_pattern, simp] abbrev forEachVring (b : List LEvent) : LEvent := .node .forEachVring [] b []
/-- `for .. in coll` -/
@[match_pattern, simp] abbrev forEach (c : String) (b : List LEvent) : LEvent := .node .forEach [c] b []
/-- `if cond { thn } else { els }` -/
@[match_pattern, simp] abbrev ifCond (c : String) (t f : List LEvent) : LEvent := .node .ifCond [c] t f
/-- `if let Some(..) = what { thn } else { els }` -/
@[match_pattern, simp] abbrev ifSome (w : String) (t f : List LEvent) : LEvent := .node .ifSome [w] t f
/-- `if let pat = what { thn } else { els }` -/
@[match_pattern, simp] abbrev ifLet (p w : String) (t f : List LEvent) : LEvent := .node .ifLet [p, w] t f
/-- `let pat = what else { els }` -/
@[match_pattern, simp] abbrev letElse (p w : String) (e : List LEvent) : LEvent := .node .letElse [p, w] e []
/-- `['label:] loop { body }`, bound to `bindTo` if it is the right-hand side of a `let` -/
@[match_pattern, simp] abbrev loop (l b : String) (body : List LEvent) : LEvent := .node .loop [l, b] body []
/-- `[let bindTo =] match scrut { arms }` (an effect of the scrutinee is the event in front) -/
@[match_pattern, simp] abbrev matchOn (b s : String) (arms : List LEvent) : LEvent := .node .matchOn [b, s] arms []
/-- `pat [if guard] => body`; `gbody`: the events of the guard (a local closure's body) -/
@[match_pattern, simp] abbrev arm (p g : String) (gbody body : List LEvent) : LEvent := .node .arm [p, g] gbody body
/-- `let name = || body` -/
@[match_pattern, simp] abbrev closure (n : String) (b : List LEvent) : LEvent := .node .closure [n] b []
/-- `let bindTo = vring.read_kick().map_err(err)?` with the events of `VringState::read_kick` -/
@[match_pattern, simp] abbrev readKick (e b : String) (body : List LEvent) : LEvent := .node .readKick [e, b] body []
@[match_pattern, simp] abbrev loopFrom (l b : String) (cur body : List LEvent) : LEvent := .node .loopFrom [l, b] cur body
@[match_pattern, simp] abbrev forFrom (c : String) (cur body : List LEvent) : LEvent := .node .forFrom [c] cur body
@[match_pattern, simp] abbrev forVringFrom (cur body : List LEvent) : LEvent := .node .forVringFrom [] cur body

/-! ### decidable comparison -/

mutual
def beq : LEvent → LEvent → Bool
  | .act x, .act y => x == y
  | .node k ss b1 b2, .node k' ss' b1' b2' => k == k' && ss == ss' && beqL b1 b1' && beqL b2 b2'
  | _, _ => false
def beqL : List LEvent → List LEvent → Bool
  | [], [] => true
  | x :: xs, y :: ys => beq x y && beqL xs ys
  | _, _ => false
end

mutual
theorem beq_sound : ∀ (a b : LEvent), beq a b = true → a = b
  | .act x, .act y, h => by simp [beq] at h; rw [h]
  | .node k ss b1 b2, .node k' ss' b1' b2', h => by
      simp [beq] at h; obtain ⟨⟨⟨h1, h2⟩, h3⟩, h4⟩ := h; rw [h1, h2, beqL_sound _ _ h3, beqL_sound _ _ h4]
  | .act _, .node .., h => by simp [beq] at h
  | .node .., .act _, h => by simp [beq] at h
theorem beqL_sound : ∀ (a b : List LEvent), beqL a b = true → a = b
  | [], [], _ => rfl
  | x :: xs, y :: ys, h => by simp [beqL] at h; rw [beq_sound _ _ h.1, beqL_sound _ _ h.2]
  | [], _ :: _, h => by simp [beqL] at h
  | _ :: _, [], h => by simp [beqL] at h
end

mutual
theorem beq_refl : ∀ (a : LEvent), beq a a = true
  | .act x => by simp [beq]
  | .node _ _ b1 b2 => by simp [beq, beqL_refl b1, beqL_refl b2]
theorem beqL_refl : ∀ (a : List LEvent), beqL a a = true
  | [] => rfl
  | x :: xs => by simp [beqL, beq_refl x, beqL_refl xs]
end

instance : DecidableEq LEvent := fun a b =>
  if h : beq a b = true then isTrue (beq_sound a b h) else isFalse (fun e => h (e ▸ beq_refl a))

end LEvent

/-- a function (or segment) and its events -/
abbrev LRow := String × List LEvent

/-- per function its segments -/
abbrev LSegs := List (String × List LRow)

def lrowOf (t : List LRow) (n : String) : List LEvent := (t.lookup n).getD []

/-- segment `p` of function `f` -/
def segOf (t : LSegs) (f p : String) : List LEvent := lrowOf ((t.lookup f).getD []) p

/-! ## the derivation of the segments -/

namespace LSeg

/-- how control can leave an event list -/
structure Out where
  fall : Bool := false
  hold : Bool := false
  ret : Bool := false
  /-- an unlabelled `break` (or `break value`) -/
  brk : Bool := false
  /-- an unlabelled `continue` -/
  again : Bool := false
  /-- labels of `break 'l` / `continue 'l` -/
  to : List String := []
  deriving DecidableEq, Repr

def Out.union (a b : Out) : Out :=
  ⟨a.fall || b.fall, a.hold || b.hold, a.ret || b.ret, a.brk || b.brk, a.again || b.again, a.to ++ b.to⟩

/-- a loop labelled `l` whose body leaves with `b`: a `break` of this loop falls out of it -/
def loopOut (l : String) (b : Out) : Out :=
  { fall := b.brk || b.to.contains l, hold := b.hold, ret := b.ret, brk := false, again := false,
    to := b.to.filter (· != l) }

/-- a `for` loop: it can always end -/
def forOut (b : Out) : Out := { fall := true, hold := b.hold, ret := b.ret, brk := false, again := false, to := b.to }

def actOut : LAct → Out
  | .hold _ => { hold := true }
  | .h .ok | .h (.okValue _) | .h (.okBackend _ _) | .h (.retBackend _ _ _) | .h (.err _) | .h .done => { ret := true }
  | .h .brk | .brkVal _ => { brk := true }
  | .cont l => if l = "" then { again := true } else { to := [l] }
  | .brkTo l => { to := [l] }
  | .propagate _ => { fall := true, ret := true }
  | _ => { fall := true }

mutual
def out : LEvent → Out
  | .act a => actOut a
  | .node k ss b1 b2 =>
    match k with
    | .ifCond | .ifSome | .ifLet => (outL b1).union (outL b2)
    | .letElse => (outL b1).union { fall := true }
    | .helperCall _ | .readKick => let b := outL b1; { hold := b.hold, fall := b.ret || b.fall }
    | .matchOn => if b1.isEmpty then { fall := true } else outArms b1
    | .arm => outL b2
    | .loop => loopOut (ss.headD "") (outL b1)
    | .loopFrom =>
      let c := outL b1
      let r := loopOut (ss.headD "") { c with fall := false }
      if c.fall || c.again then r.union (loopOut (ss.headD "") (outL b2)) else r
    | .forEach | .forEachVring => forOut (outL b1)
    | .forFrom | .forVringFrom => forOut ((outL b1).union (outL b2))
    | .closure => { fall := true }
def outL : List LEvent → Out
  | [] => { fall := true }
  | e :: es => let o := out e; if o.fall then ({ o with fall := false } : Out).union (outL es) else o
def outArms : List LEvent → Out
  | [] => {}
  | e :: es => (out e).union (outArms es)
end

def stops (e : LEvent) : Bool := !(out e).fall

mutual
def prune : LEvent → LEvent
  | .act a => .act a
  | .node k ss b1 b2 =>
    match k with
    | .closure => .node k ss b1 b2
    | .matchOn => .node k ss (pruneArms b1) b2
    | _ => .node k ss (pruneL b1) (pruneL b2)
def pruneL : List LEvent → List LEvent
  | [] => []
  | e :: es => let e' := prune e; if stops e' then [e'] else e' :: pruneL es
def pruneArms : List LEvent → List LEvent
  | [] => []
  | e :: es => prune e :: pruneArms es
end

/-- result of looking for the `n`-th hold point `name`: not there (with the occurrences still to skip), or the program
left after it -/
inductive Res where
  | no (n : Nat)
  | found (r : List LEvent)

mutual
def resid (name : String) : LEvent → Nat → Res
  | .act (.hold h), n => if h = name then (match n with | 0 => .found [] | n + 1 => .no n) else .no n
  | .act _, n => .no n
  | .node k ss b1 b2, n =>
    match k with
    | .helperCall _ | .readKick =>
      (match residL name b1 n with
       | .found r => .found [.node k ss r b2]
       | .no n => .no n)
    | .ifCond | .ifSome | .ifLet =>
      (match residL name b1 n with
       | .found r => .found r
       | .no n => residL name b2 n)
    | .letElse => residL name b1 n
    | .matchOn => residArms name b1 n
    | .arm =>
      (match residL name b1 n with
       | .found r => .found r
       | .no n => residL name b2 n)
    | .loop =>
      (match residL name b1 n with
       | .found r => .found [.node .loopFrom ss r b1]
       | .no n => .no n)
    | .forEach =>
      (match residL name b1 n with
       | .found r => .found [.node .forFrom ss r b1]
       | .no n => .no n)
    | .forEachVring =>
      (match residL name b1 n with
       | .found r => .found [.node .forVringFrom ss r b1]
       | .no n => .no n)
    | _ => .no n
def residL (name : String) : List LEvent → Nat → Res
  | [], n => .no n
  | e :: es, n =>
    match resid name e n with
    | .found r => .found (r ++ es)
    | .no n => residL name es n
def residArms (name : String) : List LEvent → Nat → Res
  | [], n => .no n
  | e :: es, n =>
    match resid name e n with
    | .found r => .found r
    | .no n => residArms name es n
end

mutual
/-- the hold points of a tree, in order -/
def holds : LEvent → List String
  | .act (.hold h) => [h]
  | .act _ => []
  | .node k _ b1 b2 =>
    match k with
    | .closure => []
    | _ => holdsL b1 ++ holdsL b2
def holdsL : List LEvent → List String
  | [] => []
  | e :: es => holds e ++ holdsL es
end

/-- `name`, `name#1`, … -/
def pointName (h : String) (k : Nat) : String := if k = 0 then h else h ++ "#" ++ toString k

def segsFrom (row : List LEvent) : List String → List String → List LRow
  | [], _ => []
  | h :: hs, seen =>
    let k := seen.count h
    (pointName h k, match residL h row k with
                    | .found r => pruneL r
                    | .no _ => []) :: segsFrom row hs (h :: seen)

/-- the segments of a row: from function entry, and from every hold point -/
def segmentsOf (row : List LEvent) : List LRow := ("entry", pruneL row) :: segsFrom row (holdsL row) []

def segmentsOfRows (rows : List LRow) : LSegs := rows.map fun r => (r.1, segmentsOf r.2)

/-! ### source edits as tree rewrites -/

mutual
/-- every event `e` (at any depth) with `f e = some r` is replaced by the events `r`; the others are kept and entered -/
def rewrite (f : LEvent → Option (List LEvent)) : LEvent → LEvent
  | .act a => .act a
  | .node k ss b1 b2 => .node k ss (rewriteL f b1) (rewriteL f b2)
def rewriteL (f : LEvent → Option (List LEvent)) : List LEvent → List LEvent
  | [] => []
  | e :: es =>
    (match f e with
     | some r => r
     | none => [rewrite f e]) ++ rewriteL f es
end

def rewriteRows (f : LEvent → Option (List LEvent)) (rows : List LRow) : List LRow := rows.map fun r => (r.1, rewriteL f r.2)
def rewriteSegs (f : LEvent → Option (List LEvent)) (t : LSegs) : LSegs := t.map fun r => (r.1, rewriteRows f r.2)

end LSeg

end Base
