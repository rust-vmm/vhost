import VhostModel.Base.Imp
/-!
# `ImpFe`: the layer of `Imp` for the reply readers of `frontend.rs`

`Base/Imp.lean` interprets the loops and framing functions of `connection.rs`.  The reply readers of
`FrontendInternal` (`recv_reply*`, `wait_for_ack`, `check_*`, `new_request_header`), the header accessors of
`message.rs` they use and the part of every API method that runs after the reader returned are straight-line code over

* the fields of `FrontendInternal` (`Self`),
* message structs held as byte strings (`FFrame.b`; a field is read through the layout: `FExp.field`),
* received descriptors `Option<Vec<File>>` (`FFrame.f`; moved, and closed when dropped — `FStmt.dropF`, emitted by the
  translator where Rust drops the value) and single `File`s (a descriptor number in `FFrame.n`),
* `Result`s (`FFrame.r`), whose errors are those of `connection.rs` (`FErr.conn`) or the local refusals of the frontend.

`tools/rs2lean_ferecv.py` translates them into terms of `FStmt` (`Gen/FeRecv.lean`).  The socket is touched only through
`FStmt.callConn`: a call of an already generated `Gen.ConnLoops` term (`recv_body::<T>`, `recv_data`), run by
`Imp.exec` on the same `World` (stream, chooser state, heap, closed descriptors) with the environment of the generic
parameter `T` (`FEnv.conn`).  There is no loop at this level: the fuel is only handed down to `Imp.exec`.

`Imp.lean` is used, not changed: `Imp.exec` is reached only through `FStmt.callConn`.  Core Lean only.
-/
namespace ImpFe
open Imp (Var Fd Bytes Stuck World upd)

/-- the numeric fields of `struct FrontendInternal` that the translated functions read or write -/
inductive Field where
  | virtio_features | acked_virtio_features | protocol_features | acked_protocol_features | max_queue_num | hdr_flags
  deriving DecidableEq, Repr, Inhabited

/-- `struct FrontendInternal` without the socket (`main_sock` is the `World`); `error : Option<i32>` -/
structure Self where
  virtio_features : Nat := 0
  acked_virtio_features : Nat := 0
  protocol_features : Nat := 0
  acked_protocol_features : Nat := 0
  max_queue_num : Nat := 0
  hdr_flags : Nat := 0
  error : Option Nat := none
  deriving DecidableEq, Repr, Inhabited

def Self.get (s : Self) : Field → Nat
  | .virtio_features => s.virtio_features
  | .acked_virtio_features => s.acked_virtio_features
  | .protocol_features => s.protocol_features
  | .acked_protocol_features => s.acked_protocol_features
  | .max_queue_num => s.max_queue_num
  | .hdr_flags => s.hdr_flags

def Self.set (s : Self) (f : Field) (v : Nat) : Self :=
  match f with
  | .virtio_features => { s with virtio_features := v }
  | .acked_virtio_features => { s with acked_virtio_features := v }
  | .protocol_features => { s with protocol_features := v }
  | .acked_protocol_features => { s with acked_protocol_features := v }
  | .max_queue_num => { s with max_queue_num := v }
  | .hdr_flags => { s with hdr_flags := v }

/-- `vhost_user::Error` as far as these functions raise it: the errors of `connection.rs`, and the frontend's own -/
inductive FErr where
  | conn (e : Imp.Err)
  | invalidParam
  | backendInternalError
  | inactiveFeature (feat : Nat)
  | inactiveOperation (feat : Nat)
  deriving DecidableEq, Repr, Inhabited

/-- an `Ok(..)` payload: integers, the optional descriptors, the byte buffers (structs, `Vec<u8>`), each in order, and
at most one single `File` (`Ok(file)`, `Ok(Some(file))`; `Ok(None)` / `None` = no file) -/
structure FVal where
  nats : List Nat := []
  fds : Option (List Fd) := none
  bufs : List Bytes := []
  file : Option Fd := none
  deriving DecidableEq, Repr, Inhabited

inductive FRVal where
  | ok (v : FVal)
  | err (e : FErr)
  deriving DecidableEq, Repr, Inhabited

/-- a result of `connection.rs` seen from the frontend -/
def liftR : Imp.RVal → FRVal
  | .ok v => .ok { nats := v.nats, fds := v.fds, bufs := v.bufs }
  | .err e => .err (.conn e)

/-! ## syntax -/

inductive FExp where
  | lit (n : Nat)
  | var (v : Var)
  | self (f : Field)                                      -- `self.<field>` / `node.<field>` (`.bits()` of a flags field)
  | field (b : Var) (struct : String) (path : List String) -- `<struct value>.<field>`, through the layout of the struct
  | band (a b : FExp)
  | bor (a b : FExp)
  | add (a b : FExp)
  | sub (a b : FExp)                                      -- defined iff `b ≤ a`
  | sizeOf (T : String)                                   -- `mem::size_of::<T>()`
  | lenB (b : Var)                                        -- `.len()` of a byte slice / `Vec<u8>`
  | lenF (f : Var)                                        -- `.len()` of a `Vec<File>`

inductive FCond where
  | tt | ff
  | lt (a b : FExp) | le (a b : FExp) | eq (a b : FExp) | ne (a b : FExp) | gt (a b : FExp) | ge (a b : FExp)
  | and (a b : FCond)           -- `&&`
  | or (a b : FCond)            -- `||`
  | not (a : FCond)
  | ite (c t e : FCond)         -- `if c { t } else { e }` of type `bool`
  | fIsSome (f : Var)           -- `files.is_some()` (`is_none()` = `not`)
  | valid (T : String) (b : Var)  -- `body.is_valid()` for `T: VhostUserMsgValidator`
  | codeOk (e : FExp)           -- `R::try_from(e).is_ok()` (`enum_value!`: exactly the listed values)

inductive FFd where
  | none
  | move (f : Var)              -- `Option<Vec<File>>` is moved: the source is left empty

inductive FErrExp where
  | const (e : FErr)
  | ofRes (r : Var)             -- the error inside that result (`?`)
  | sockBroken (e : FExp)       -- `Error::SocketBroken(io::Error::from_raw_os_error(e))`
  | inactiveFeature (e : FExp)
  | inactiveOperation (e : FExp)

inductive FStmt where
  | skip
  | seq (a b : FStmt)
  | assign (v : Var) (e : FExp)
  | assignSelf (f : Field) (e : FExp)
  | assignF (f : Var) (e : FFd)
  /-- the value goes out of scope: the `File`s inside are closed -/
  | dropF (f : Var)
  /-- a struct literal: the fields in layout order with their widths, little-endian -/
  | mkBuf (b : Var) (fields : List (Nat × FExp))
  /-- `file = files.swap_remove(idx)` -/
  | takeFd (file : Var) (files : Var) (idx : FExp)
  | ite (c : FCond) (t e : FStmt)
  /-- `match self.error { Some(e) => someS, None => noneS }` -/
  | matchSelfError (e : Var) (someS noneS : FStmt)
  | ret (nats : List FExp) (fd : FFd) (bufs : List Var) (file : Option Var)
  | retErr (e : FErrExp)
  | fault
  /-- `res = self.main_sock.<name>::<T>(args)`: the generated `Gen.ConnLoops` term, run by `Imp.exec` -/
  | callConn (name : String) (T : String) (body : Imp.Stmt) (nArgs : List (Var × FExp)) (res : Var)
  /-- `res = name(args)` for a function of this layer; descriptor arguments are moved -/
  | callFe (name : String) (body : FStmt) (nArgs : List (Var × FExp)) (bArgs : List (Var × Var)) (fArgs : List (Var × Var))
      (res : Var)
  /-- `match res { Ok((n.., fds, bufs.., file)) => okS, Err(_) => errS }` -/
  | matchOk (res : Var) (okN : List Var) (okF : Option Var) (okB : List Var) (okFile : Option Var) (okS errS : FStmt)
  /-- `match res { Some(file) => someS, None => noneS }` for an `Option<File>` -/
  | matchFile (res : Var) (file : Var) (someS noneS : FStmt)

/-! ## state -/

structure FFrame where
  n : Nat → Nat := fun _ => 0
  f : Nat → Option (List Fd) := fun _ => none
  b : Nat → Bytes := fun _ => []
  r : Nat → FRVal := fun _ => .ok {}

/-- what the generic parameters and the peer contribute.  `base` gives chooser, closedness, errno classes, the header
size and validator; `tySize`/`tyValid` = `size_of::<T>()` / `T::is_valid` by type name; `fieldVal` reads a struct field;
`codes` = the values of `enum FrontendReq` -/
structure FEnv (σ : Type) where
  base : Imp.Env σ
  tySize : String → Nat
  tyValid : String → Bytes → Bool
  fieldVal : Bytes → String → List String → Nat
  codes : List Nat

/-- the environment of `Endpoint::<H>::f::<T>` -/
def FEnv.conn {σ : Type} (env : FEnv σ) (T : String) : Imp.Env σ :=
  { env.base with sizeT := env.tySize T, validT := env.tyValid T }

inductive FCtl where
  | normal
  | done (r : FRVal)
  /-- `inner` = the activation of `connection.rs` in which the call is stuck -/
  | stuck (s : Stuck) (inner : Imp.Frame)

abbrev FRes (σ : Type) := FCtl × FFrame × Self × World σ

/-! ## expressions -/

def evalX {σ : Type} (env : FEnv σ) (fr : FFrame) (sf : Self) : FExp → Option Nat
  | .lit n => some n
  | .var v => some (fr.n v.id)
  | .self f => some (sf.get f)
  | .field b s p => some (env.fieldVal (fr.b b.id) s p)
  | .band a b => match evalX env fr sf a, evalX env fr sf b with
    | some x, some y => some (x &&& y)
    | _, _ => none
  | .bor a b => match evalX env fr sf a, evalX env fr sf b with
    | some x, some y => some (x ||| y)
    | _, _ => none
  | .add a b => match evalX env fr sf a, evalX env fr sf b with
    | some x, some y => some (x + y)
    | _, _ => none
  | .sub a b => match evalX env fr sf a, evalX env fr sf b with
    | some x, some y => if y ≤ x then some (x - y) else none
    | _, _ => none
  | .sizeOf T => some (env.tySize T)
  | .lenB b => some (fr.b b.id).length
  | .lenF f => some ((fr.f f.id).getD []).length

def evalC {σ : Type} (env : FEnv σ) (fr : FFrame) (sf : Self) : FCond → Option Bool
  | .tt => some true
  | .ff => some false
  | .lt a b => match evalX env fr sf a, evalX env fr sf b with | some x, some y => some (decide (x < y)) | _, _ => none
  | .le a b => match evalX env fr sf a, evalX env fr sf b with | some x, some y => some (decide (x ≤ y)) | _, _ => none
  | .eq a b => match evalX env fr sf a, evalX env fr sf b with | some x, some y => some (decide (x = y)) | _, _ => none
  | .ne a b => match evalX env fr sf a, evalX env fr sf b with | some x, some y => some (decide (x ≠ y)) | _, _ => none
  | .gt a b => match evalX env fr sf a, evalX env fr sf b with | some x, some y => some (decide (x > y)) | _, _ => none
  | .ge a b => match evalX env fr sf a, evalX env fr sf b with | some x, some y => some (decide (x ≥ y)) | _, _ => none
  | .and a b => match evalC env fr sf a with
    | some true => evalC env fr sf b
    | some false => some false
    | none => none
  | .or a b => match evalC env fr sf a with
    | some true => some true
    | some false => evalC env fr sf b
    | none => none
  | .not a => (evalC env fr sf a).map (!·)
  | .ite c t e => match evalC env fr sf c with
    | some true => evalC env fr sf t
    | some false => evalC env fr sf e
    | none => none
  | .fIsSome f => some (fr.f f.id).isSome
  | .valid T b => some (env.tyValid T (fr.b b.id))
  | .codeOk e => (evalX env fr sf e).map (fun v => env.codes.contains v)

/-- value and the frame afterwards (a move empties its source) -/
def evalFd (fr : FFrame) : FFd → Option (List Fd) × FFrame
  | .none => (none, fr)
  | .move f => (fr.f f.id, { fr with f := upd fr.f f.id none })

def evalXs {σ : Type} (env : FEnv σ) (fr : FFrame) (sf : Self) : List FExp → Option (List Nat)
  | [] => some []
  | e :: es => match evalX env fr sf e, evalXs env fr sf es with
    | some x, some xs => some (x :: xs)
    | _, _ => none

/-- the bytes of a struct literal -/
def evalFields {σ : Type} (env : FEnv σ) (fr : FFrame) (sf : Self) : List (Nat × FExp) → Option Bytes
  | [] => some []
  | (w, e) :: rest => match evalX env fr sf e, evalFields env fr sf rest with
    | some x, some bs => some (Base.leBytes w x ++ bs)
    | _, _ => none

def errOfR (fr : FFrame) (r : Var) : FErr :=
  match fr.r r.id with
  | .err e => e
  | .ok _ => .conn (.errno 0)

def evalErr {σ : Type} (env : FEnv σ) (fr : FFrame) (sf : Self) : FErrExp → Option FErr
  | .const e => some e
  | .ofRes r => some (errOfR fr r)
  | .sockBroken e => (evalX env fr sf e).map (fun v => .conn (.sock .broken v))
  | .inactiveFeature e => (evalX env fr sf e).map .inactiveFeature
  | .inactiveOperation e => (evalX env fr sf e).map .inactiveOperation

/-- `Vec::swap_remove` -/
def swapRemove (l : List Fd) (i : Nat) : List Fd := (l.set i (l.getLast?.getD 0)).dropLast

/-! ## statements -/

def bindNs (σn : Nat → Nat) : List Var → List Nat → Nat → Nat
  | x :: xs, v :: vs => bindNs (upd σn x.id v) xs vs
  | _, _ => σn

def bindBs (σb : Nat → Bytes) : List Var → List Bytes → Nat → Bytes
  | x :: xs, v :: vs => bindBs (upd σb x.id v) xs vs
  | _, _ => σb

def argsN {σ : Type} (env : FEnv σ) (caller : FFrame) (sf : Self) : List (Var × FExp) → (Nat → Nat) → Option (Nat → Nat)
  | [], σn => some σn
  | (p, e) :: rest, σn => match evalX env caller sf e with
    | some v => argsN env caller sf rest (upd σn p.id v)
    | none => none

def argsB (caller : FFrame) : List (Var × Var) → (Nat → Bytes) → (Nat → Bytes)
  | [], s => s
  | (p, a) :: rest, s => argsB caller rest (upd s p.id (caller.b a.id))

def argsF (caller : FFrame) : List (Var × Var) → (Nat → Option (List Fd)) → (Nat → Option (List Fd))
  | [], s => s
  | (p, a) :: rest, s => argsF caller rest (upd s p.id (caller.f a.id))

/-- the caller's descriptor variables after they were moved into the callee -/
def movedF : List (Var × Var) → (Nat → Option (List Fd)) → (Nat → Option (List Fd))
  | [], s => s
  | (_, a) :: rest, s => movedF rest (upd s a.id none)

def exec {σ : Type} (env : FEnv σ) : FStmt → Nat → FFrame → Self → World σ → FRes σ
  | .skip, _, fr, sf, w => (.normal, fr, sf, w)
  | .seq a b, fuel, fr, sf, w =>
    match exec env a fuel fr sf w with
    | (.normal, fr', sf', w') => exec env b fuel fr' sf' w'
    | r => r
  | .assign v e, _, fr, sf, w =>
    match evalX env fr sf e with
    | some x => (.normal, { fr with n := upd fr.n v.id x }, sf, w)
    | none => (.stuck .fault {}, fr, sf, w)
  | .assignSelf f e, _, fr, sf, w =>
    match evalX env fr sf e with
    | some x => (.normal, fr, sf.set f x, w)
    | none => (.stuck .fault {}, fr, sf, w)
  | .assignF f e, _, fr, sf, w =>
    let r := evalFd fr e
    (.normal, { r.2 with f := upd r.2.f f.id r.1 }, sf, w)
  | .dropF f, _, fr, sf, w =>
    (.normal, { fr with f := upd fr.f f.id none }, sf, { w with closed := w.closed ++ (fr.f f.id).getD [] })
  | .mkBuf b fields, _, fr, sf, w =>
    match evalFields env fr sf fields with
    | some bs => (.normal, { fr with b := upd fr.b b.id bs }, sf, w)
    | none => (.stuck .fault {}, fr, sf, w)
  | .takeFd file files idx, _, fr, sf, w =>
    match evalX env fr sf idx, fr.f files.id with
    | some i, some l =>
      match l[i]? with
      | some x => (.normal, { fr with n := upd fr.n file.id x, f := upd fr.f files.id (some (swapRemove l i)) }, sf, w)
      | none => (.stuck .fault {}, fr, sf, w)
    | _, _ => (.stuck .fault {}, fr, sf, w)
  | .ite c t e, fuel, fr, sf, w =>
    match evalC env fr sf c with
    | some true => exec env t fuel fr sf w
    | some false => exec env e fuel fr sf w
    | none => (.stuck .fault {}, fr, sf, w)
  | .matchSelfError e someS noneS, fuel, fr, sf, w =>
    match sf.error with
    | some x => exec env someS fuel { fr with n := upd fr.n e.id x } sf w
    | none => exec env noneS fuel fr sf w
  | .ret nats fd bufs file, _, fr, sf, w =>
    match evalXs env fr sf nats with
    | some ns =>
      let r := evalFd fr fd
      (.done (.ok { nats := ns, fds := r.1, bufs := bufs.map (fun v => fr.b v.id), file := file.map (fun v => fr.n v.id) }), r.2, sf, w)
    | none => (.stuck .fault {}, fr, sf, w)
  | .retErr e, _, fr, sf, w =>
    match evalErr env fr sf e with
    | some x => (.done (.err x), fr, sf, w)
    | none => (.stuck .fault {}, fr, sf, w)
  | .fault, _, fr, sf, w => (.stuck .fault {}, fr, sf, w)
  | .callConn _ T body nArgs res, fuel, fr, sf, w =>
    match argsN env fr sf nArgs (fun _ => 0) with
    | none => (.stuck .fault {}, fr, sf, w)
    | some σn =>
      match Imp.exec (env.conn T) body fuel { n := σn } w with
      | (.done rv, _, w') => (.normal, { fr with r := upd fr.r res.id (liftR rv) }, sf, w')
      | (.stuck s, fr', w') => (.stuck s fr', fr, sf, w')
      | (_, _, w') => (.stuck .fault {}, fr, sf, w')
  | .callFe _ body nArgs bArgs fArgs res, fuel, fr, sf, w =>
    match argsN env fr sf nArgs (fun _ => 0) with
    | none => (.stuck .fault {}, fr, sf, w)
    | some σn =>
      match exec env body fuel { n := σn, b := argsB fr bArgs (fun _ => []), f := argsF fr fArgs (fun _ => none) } sf w with
      | (.done rv, _, sf', w') => (.normal, { fr with f := movedF fArgs fr.f, r := upd fr.r res.id rv }, sf', w')
      | (.stuck s i, _, sf', w') => (.stuck s i, { fr with f := movedF fArgs fr.f }, sf', w')
      | (.normal, _, sf', w') => (.stuck .fault {}, { fr with f := movedF fArgs fr.f }, sf', w')
  | .matchOk res okN okF okB okFile okS errS, fuel, fr, sf, w =>
    match fr.r res.id with
    | .ok v =>
      let fr1 := { fr with n := bindNs fr.n okN v.nats, b := bindBs fr.b okB v.bufs }
      let fr2 := match okF with
        | some f => { fr1 with f := upd fr1.f f.id v.fds }
        | none => fr1
      let fr3 := match okFile, v.file with
        | some x, some fd => { fr2 with n := upd fr2.n x.id fd }
        | _, _ => fr2
      exec env okS fuel fr3 sf w
    | .err _ => exec env errS fuel fr sf w
  | .matchFile res file someS noneS, fuel, fr, sf, w =>
    match fr.r res.id with
    | .ok v =>
      match v.file with
      | some x => exec env someS fuel { fr with n := upd fr.n file.id x } sf w
      | none => exec env noneS fuel fr sf w
    | .err _ => (.stuck .fault {}, fr, sf, w)

/-! ## one-step rewriting rules (one per statement form)

`simp only` with `exec_seq`, the equations of `andThen` and the rules of the statements at hand runs a term up to its next undecided test.
The rules are proved `by rfl`, not `:= rfl`: a definitional rule is applied by `simp` without a proof step, and the kernel then runs the
term again when it checks the proof. -/
section rules
variable {σ : Type} (env : FEnv σ) (F : Nat) (fr : FFrame) (sf : Self) (w : World σ)

/-- `a; b` once `a` has run: `b` goes on from where `a` ended normally; a `return` or a stuck call ends the sequence.
The continuation is a statement, not a function, so rewriting never looks inside it before its turn. -/
def andThen {σ : Type} (env : FEnv σ) (F : Nat) (r : FRes σ) (b : FStmt) : FRes σ :=
  match r with
  | (.normal, fr, sf, w) => exec env b F fr sf w
  | r => r
@[simp] theorem andThen_normal (b : FStmt) : andThen env F (.normal, fr, sf, w) b = exec env b F fr sf w := by rfl
@[simp] theorem andThen_done (r : FRVal) (b : FStmt) : andThen env F (.done r, fr, sf, w) b = (.done r, fr, sf, w) := by rfl
@[simp] theorem andThen_stuck (x : Stuck) (i : Imp.Frame) (b : FStmt) :
    andThen env F (.stuck x i, fr, sf, w) b = (.stuck x i, fr, sf, w) := by rfl

@[simp] theorem exec_skip : exec env .skip F fr sf w = (.normal, fr, sf, w) := by rfl
@[simp] theorem exec_seq (a b : FStmt) : exec env (.seq a b) F fr sf w = andThen env F (exec env a F fr sf w) b := by rfl
@[simp] theorem exec_assign (v : Var) (e : FExp) : exec env (.assign v e) F fr sf w =
    match evalX env fr sf e with
    | some x => (.normal, { fr with n := upd fr.n v.id x }, sf, w)
    | none => (.stuck .fault {}, fr, sf, w) := by rfl
@[simp] theorem exec_assignSelf (f : Field) (e : FExp) : exec env (.assignSelf f e) F fr sf w =
    match evalX env fr sf e with
    | some x => (.normal, fr, sf.set f x, w)
    | none => (.stuck .fault {}, fr, sf, w) := by rfl
@[simp] theorem exec_assignF (f : Var) (e : FFd) : exec env (.assignF f e) F fr sf w =
    (.normal, { (evalFd fr e).2 with f := upd (evalFd fr e).2.f f.id (evalFd fr e).1 }, sf, w) := by rfl
@[simp] theorem exec_dropF (f : Var) : exec env (.dropF f) F fr sf w =
    (.normal, { fr with f := upd fr.f f.id none }, sf, { w with closed := w.closed ++ (fr.f f.id).getD [] }) := by rfl
@[simp] theorem exec_mkBuf (b : Var) (fields : List (Nat × FExp)) : exec env (.mkBuf b fields) F fr sf w =
    match evalFields env fr sf fields with
    | some bs => (.normal, { fr with b := upd fr.b b.id bs }, sf, w)
    | none => (.stuck .fault {}, fr, sf, w) := by rfl
theorem exec_takeFd (file files : Var) (idx : FExp) : exec env (.takeFd file files idx) F fr sf w =
    match evalX env fr sf idx, fr.f files.id with
    | some i, some l =>
      match l[i]? with
      | some x => (.normal, { fr with n := upd fr.n file.id x, f := upd fr.f files.id (some (swapRemove l i)) }, sf, w)
      | none => (.stuck .fault {}, fr, sf, w)
    | _, _ => (.stuck .fault {}, fr, sf, w) := by rfl
@[simp] theorem exec_ite (c : FCond) (t e : FStmt) : exec env (.ite c t e) F fr sf w =
    match evalC env fr sf c with
    | some true => exec env t F fr sf w
    | some false => exec env e F fr sf w
    | none => (.stuck .fault {}, fr, sf, w) := by rfl
theorem exec_matchSelfError (e : Var) (a b : FStmt) : exec env (.matchSelfError e a b) F fr sf w =
    match sf.error with
    | some x => exec env a F { fr with n := upd fr.n e.id x } sf w
    | none => exec env b F fr sf w := by rfl
@[simp] theorem exec_ret (nats : List FExp) (fd : FFd) (bufs : List Var) (file : Option Var) :
    exec env (.ret nats fd bufs file) F fr sf w =
    match evalXs env fr sf nats with
    | some ns =>
      (.done (.ok { nats := ns, fds := (evalFd fr fd).1, bufs := bufs.map (fun v => fr.b v.id), file := file.map (fun v => fr.n v.id) }),
        (evalFd fr fd).2, sf, w)
    | none => (.stuck .fault {}, fr, sf, w) := by rfl
@[simp] theorem exec_retErr (e : FErrExp) : exec env (.retErr e) F fr sf w =
    match evalErr env fr sf e with
    | some x => (.done (.err x), fr, sf, w)
    | none => (.stuck .fault {}, fr, sf, w) := by rfl
@[simp] theorem exec_fault : exec env .fault F fr sf w = (.stuck .fault {}, fr, sf, w) := by rfl
theorem exec_callConn (nm T : String) (body : Imp.Stmt) (nA : List (Var × FExp)) (res : Var) :
    exec env (.callConn nm T body nA res) F fr sf w =
    match argsN env fr sf nA (fun _ => 0) with
    | none => (.stuck .fault {}, fr, sf, w)
    | some σn =>
      match Imp.exec (env.conn T) body F { n := σn } w with
      | (.done rv, _, w') => (.normal, { fr with r := upd fr.r res.id (liftR rv) }, sf, w')
      | (.stuck s, fr', w') => (.stuck s fr', fr, sf, w')
      | (_, _, w') => (.stuck .fault {}, fr, sf, w') := by rfl
/-- the call rule for a function of `connection.rs` whose run is known (the counterpart of `Imp.exec_call_of`) -/
theorem exec_callConn_of (nm T : String) (body : Imp.Stmt) (nA : List (Var × FExp)) (res : Var) {σn : Nat → Nat}
    (hn : argsN env fr sf nA (fun _ => 0) = some σn) {c : Imp.Ctl} {fr' : Imp.Frame} {w' : World σ} :
    Imp.exec (env.conn T) body F { n := σn } w = (c, fr', w') →
    exec env (.callConn nm T body nA res) F fr sf w =
      match c with
      | .done rv => (.normal, { fr with r := upd fr.r res.id (liftR rv) }, sf, w')
      | .stuck s => (.stuck s fr', fr, sf, w')
      | _ => (.stuck .fault {}, fr, sf, w') := by
  intro hx
  rw [exec_callConn, hn]
  simp only []
  rw [hx]
  cases c <;> rfl
theorem exec_callFe (nm : String) (body : FStmt) nA bA fA (res : Var) :
    exec env (.callFe nm body nA bA fA res) F fr sf w =
    match argsN env fr sf nA (fun _ => 0) with
    | none => (.stuck .fault {}, fr, sf, w)
    | some σn =>
      match exec env body F { n := σn, b := argsB fr bA (fun _ => []), f := argsF fr fA (fun _ => none) } sf w with
      | (.done rv, _, sf', w') => (.normal, { fr with f := movedF fA fr.f, r := upd fr.r res.id rv }, sf', w')
      | (.stuck s i, _, sf', w') => (.stuck s i, { fr with f := movedF fA fr.f }, sf', w')
      | (.normal, _, sf', w') => (.stuck .fault {}, { fr with f := movedF fA fr.f }, sf', w') := by rfl
theorem exec_matchOk (res : Var) (okN : List Var) (okF : Option Var) (okB : List Var) (okS errS : FStmt) :
    exec env (.matchOk res okN okF okB none okS errS) F fr sf w =
    match fr.r res.id with
    | .ok v => exec env okS F
        { fr with n := bindNs fr.n okN v.nats, b := bindBs fr.b okB v.bufs, f := okF.elim fr.f fun f => upd fr.f f.id v.fds } sf w
    | .err _ => exec env errS F fr sf w := by
  cases okF <;> simp only [exec] <;> cases fr.r res.id <;> rfl
/-- `let PAT = res?;` -/
theorem exec_try (res : Var) (okN : List Var) (okF : Option Var) (okB : List Var) :
    exec env (.matchOk res okN okF okB none .skip (.retErr (.ofRes res))) F fr sf w =
    match fr.r res.id with
    | .ok v => (.normal, { fr with n := bindNs fr.n okN v.nats, b := bindBs fr.b okB v.bufs,
                                   f := okF.elim fr.f fun f => upd fr.f f.id v.fds }, sf, w)
    | .err e => (.done (.err e), fr, sf, w) := by
  rw [exec_matchOk]
  cases h : fr.r res.id <;> simp only [exec_skip, exec_retErr, evalErr, errOfR, h]
theorem exec_matchFile (res file : Var) (a b : FStmt) : exec env (.matchFile res file a b) F fr sf w =
    match fr.r res.id with
    | .ok v =>
      (match v.file with
       | some x => exec env a F { fr with n := upd fr.n file.id x } sf w
       | none => exec env b F fr sf w)
    | .err _ => (.stuck .fault {}, fr, sf, w) := by rfl

/-! `simp only [↓evalC_or, ↓evalC_and, evalC, …]`: with `↓` these fire before the equations of `evalC`. -/
theorem evalC_or (a b : FCond) : evalC env fr sf (.or a b) =
    (evalC env fr sf a).bind fun x => if x then some true else evalC env fr sf b := by
  simp only [evalC]; rcases evalC env fr sf a with _ | _ | _ <;> rfl
theorem evalC_and (a b : FCond) : evalC env fr sf (.and a b) =
    (evalC env fr sf a).bind fun x => if x then evalC env fr sf b else some false := by
  simp only [evalC]; rcases evalC env fr sf a with _ | _ | _ <;> rfl
theorem ite_some_or (c d : Bool) : (if c = true then some true else some d) = some (c || d) := by cases c <;> rfl
theorem ite_some_and (c d : Bool) : (if c = true then some d else some false) = some (c && d) := by cases c <;> rfl

@[simp] theorem bindNs_nil (s : Nat → Nat) (vs : List Nat) : bindNs s [] vs = s := by cases vs <;> rfl
@[simp] theorem bindNs_cons (s : Nat → Nat) (x : Var) (xs : List Var) (v : Nat) (vs : List Nat) :
    bindNs s (x :: xs) (v :: vs) = bindNs (upd s x.id v) xs vs := rfl
@[simp] theorem bindNs_nil' (s : Nat → Nat) (xs : List Var) : bindNs s xs [] = s := by cases xs <;> rfl
@[simp] theorem bindBs_nil (s : Nat → Bytes) (vs : List Bytes) : bindBs s [] vs = s := by cases vs <;> rfl
@[simp] theorem bindBs_cons (s : Nat → Bytes) (x : Var) (xs : List Var) (v : Bytes) (vs : List Bytes) :
    bindBs s (x :: xs) (v :: vs) = bindBs (upd s x.id v) xs vs := rfl
@[simp] theorem bindBs_nil' (s : Nat → Bytes) (xs : List Var) : bindBs s xs [] = s := by cases xs <;> rfl
end rules

end ImpFe
