import VhostModel.Model.BackendProxy
import VhostModel.Model.FrontendSrv
import VhostModel.Model.GpuProxy
import VhostModel.Lemmas.Stream
import VhostModel.Props.C01
import VhostModel.Lemmas.Layouts
import VhostModel.Lemmas.Wire
import VhostModel.Lemmas.Decode
/-! helper lemmas about `Model.RecvBody`, `Model.BackendProxy`, `Model.FrontendSrv`, `Model.GpuProxy` (structural facts;
the bridges to the Spec validity rules are in `Props.C06b`) -/
namespace Lemmas.BackendChannel
open Base Model.Stream Model.Msgs Model.RecvBody Lemmas.Stream Lemmas.Layouts
open Lemmas.Wire (segCells_map_b segCells_length segCells_tail segCells_head)
open Model.BackendSrv (Err Hdr encHdr hdrNewFlags)
open Model.Frontend (Reply RecvRes RecvOut parseHdr)

/-! ### headers -/
theorem encHdr_length (c f s : Nat) : (encHdr c f s).length = 12 := by simp [encHdr]

theorem parseHdr_encHdr (c f s : Nat) (hc : c < 2^32) (hf : f < 2^32) (hs : s < 2^32) : parseHdr (encHdr c f s) = ⟨c, f, s⟩ := by
  obtain ⟨_, a, b, d⟩ := Props.C01.encHdr_fields c f s hc hf hs
  rw [parseHdr, a, b, d]

theorem decHeader_of_length (bs : Bytes) (hl : bs.length = 12) :
    decHeader bs = some ⟨bv 32 (parseHdr bs).code, bv 32 (parseHdr bs).flags, bv 32 (parseHdr bs).size⟩ := by
  simp [decHeader, getField, structSize, fieldAt, layout_hdr, hl, parseHdr]

theorem decGpuHeader_of_length (bs : Bytes) (hl : bs.length = 12) :
    decGpuHeader bs = some ⟨bv 32 (parseHdr bs).code, bv 32 (parseHdr bs).flags, bv 32 (parseHdr bs).size⟩ := by
  simp [decGpuHeader, getField, structSize, fieldAt, layout_gpuhdr, hl, parseHdr]

theorem parseHdr_take (bs : Bytes) : parseHdr (bs.take 12) = parseHdr bs := by
  simp [parseHdr, List.take_take, List.drop_take]

/-- every acknowledgement header the frontend's server can write passes the backend-channel header validator -/
theorem hdrValidB_ack : ∀ c ∈ [1, 2, 3, 4, 5, 6, 7, 8, 9, 10], hdrValidB (encHdr c 5 8) = true := by decide

theorem u64Ok_of_length (bs : Bytes) (h : bs.length = 8) : u64Ok bs = true := by
  simp [u64Ok, decU64, getField, structSize, fieldAt, layout_u64, h, Gen.VhostUserU64.isValid]

/-! ### `recv_body` -/

/-- what `recv_body::<T>` accepts: exactly `12 + n` bytes — the bytes received, never anything else —, a header and a
body that pass their validators -/
theorem recvBody_ok_sound {σ : Type} (ch : Chooser σ) (cl : Bool) (hdrOk : Bytes → Bool) (n : Nat) (bodyOk : Bytes → Bool)
    (cst : σ) (s : List Cell) (r : Reply) (h : (recvBody ch cl hdrOk n bodyOk cst s).res = .ok r) :
    ∃ hb, hb.length = 12 ∧ r.body.length = n ∧ hdrOk hb = true ∧ r.hdr = parseHdr hb ∧ bodyOk r.body = true ∧ r.payload = [] ∧
      hb ++ r.body = (recvAll ch 32 cl (12 + n) cst s true).bytes := by
  revert h
  fun_cases recvBody ch cl hdrOk n bodyOk cst s
  case case4 r hlen hb body hval _ =>
    intro h
    cases h
    simp only [bne_iff_ne, ne_eq, Decidable.not_not, Bool.or_eq_true, Bool.not_eq_true', not_or, Bool.not_eq_false] at hlen hval
    exact ⟨hb, by simp [hb, hlen], by simp [body, hlen], hval.1, rfl, hval.2, rfl, List.take_append_drop 12 r.bytes⟩
  all_goals exact nofun

/-- `recv_data` reports `full` only with exactly the requested number of bytes -/
theorem recvData_full_length {σ : Type} (ch : Chooser σ) (cl : Bool) :
    ∀ (want : Nat) (st : σ) (s : List Cell), (recvData ch cl want st s).outcome = .full →
      (recvData ch cl want st s).bytes.length = want := by
  intro want st s
  fun_induction recvData ch cl want st s with
  | case1 st s => intro _; rfl
  | case2 n st => intro h; cases cl <;> simp at h
  | case3 want st c s k0 st' hnext k chunk rest cf hne => intro h; simp at h
  | case4 want st c s k0 st' hnext k chunk rest cf he r ih =>
    intro h
    have hk2 : k ≤ want + 1 := clampK_le_want _ _ _
    have hk3 : k ≤ s.length + 1 := clampK_le_avail _ _ _
    have hr : r.bytes.length = want + 1 - k := ih h
    show (chunk.map (·.b) ++ r.bytes).length = want + 1
    have hc : chunk.length = k := by simp only [chunk, List.length_take, List.length_cons]; omega
    rw [List.length_append, List.length_map, hc, hr]
    omega

/-- past the first byte of one `sendmsg` no cell carries descriptors -/
theorem segCells_drop (msg : Bytes) (fds : List Fd) (k : Nat) (hk : 0 < k) :
    ((segCells msg fds).drop k).map (·.b) = msg.drop k ∧ ∀ c ∈ (segCells msg fds).drop k, c.fds = [] := by
  cases msg with
  | nil => simp [segCells]
  | cons b bs =>
    obtain ⟨k', rfl⟩ : ∃ k', k = k' + 1 := ⟨k - 1, by omega⟩
    simp only [segCells, List.drop_succ_cons]
    refine ⟨by rw [← List.map_drop]; simp [Function.comp_def], ?_⟩
    intro c hc
    have := List.mem_of_mem_drop hc
    simp only [List.mem_map] at this; obtain ⟨x, _, rfl⟩ := this; rfl

theorem recvAll_segCells {σ : Type} (ch : Chooser σ) (cap : Nat) (cl : Bool) (msg : Bytes) (fds : List Fd) (rest : List Cell)
    (want : Nat) (cst : σ) (h0 : 0 < want) (hw : want ≤ msg.length) (hf : fds.length ≤ cap) :
    ∃ st', recvAll ch cap cl want cst (segCells msg fds ++ rest) true =
      ⟨msg.take want, fds, [], (segCells msg fds).drop want ++ rest, st', .done⟩ := by
  have p1 := segCells_length msg fds
  have p2 := segCells_map_b msg fds
  have p3 := segCells_tail msg fds
  have p4 := segCells_head msg fds (by rintro rfl; simp at hw; omega)
  generalize segCells msg fds = m at p1 p2 p3 p4 ⊢
  cases m with
  | nil => simp at p1; omega
  | cons x xs =>
    simp only [List.head?_cons, Option.map_some, Option.getD_some, List.tail_cons] at p3 p4
    have htake : ((x :: xs) ++ rest).take want = (x :: xs).take want := List.take_append_of_le_length (by omega)
    have htail : ∀ c ∈ (((x :: xs) ++ rest).take want).tail, c.fds = [] := by
      obtain ⟨w, rfl⟩ : ∃ w, want = w + 1 := ⟨want - 1, by omega⟩
      intro c hc
      rw [htake] at hc
      exact p3 c (List.mem_of_mem_take hc)
    have hfd : ((((x :: xs) ++ rest).take want).flatMap (·.fds)).length ≤ cap := by
      obtain ⟨w, rfl⟩ : ∃ w, want = w + 1 := ⟨want - 1, by omega⟩
      have : (xs.take w).flatMap (·.fds) = [] :=
        List.flatMap_eq_nil_iff.2 fun c hc => p3 c (List.mem_of_mem_take hc)
      rw [htake, List.take_succ_cons, List.flatMap_cons, this, List.append_nil, p4]; exact hf
    obtain ⟨c1, c2, c3⟩ := recvAll_complete ch cap cl want cst ((x :: xs) ++ rest) true (by simp at p1 ⊢; omega) hfd
    obtain ⟨d1, d2⟩ := recvAll_fds_of_read ch cap cl want cst ((x :: xs) ++ rest) true htail (by simpa [p4] using hf) h0
    have d2 := d2 rfl
    rw [htake, List.map_take, p2] at c1
    rw [List.drop_append_of_le_length (by omega)] at c2
    simp only [show ((x :: xs) ++ rest).head? = some x from rfl, Option.map_some, Option.getD_some, p4, if_true] at d1 d2
    generalize recvAll ch cap cl want cst ((x :: xs) ++ rest) true = r at c1 c2 c3 d1 d2
    obtain ⟨_, _, _, _, st', _⟩ := r
    subst c1 c2 c3 d1 d2
    exact ⟨st', rfl⟩

/-- if the stream starts with the `12 + n` bytes of a message that carries no descriptors, `recv_body` reads exactly
them — for every chooser, whatever follows — and leaves the rest untouched -/
theorem recvBody_of_prefix {σ : Type} (ch : Chooser σ) (cl : Bool) (hdrOk : Bytes → Bool) (n : Nat) (bodyOk : Bytes → Bool)
    (cst : σ) (msg : Bytes) (rest : List Cell) (hl : msg.length = 12 + n)
    (hh : hdrOk (msg.take 12) = true) (hbdy : bodyOk (msg.drop 12) = true) :
    (recvBody ch cl hdrOk n bodyOk cst (segCells msg [] ++ rest)).res = .ok ⟨parseHdr (msg.take 12), msg.drop 12, [], none⟩ ∧
    (recvBody ch cl hdrOk n bodyOk cst (segCells msg [] ++ rest)).rest = rest ∧
    (recvBody ch cl hdrOk n bodyOk cst (segCells msg [] ++ rest)).closed = [] := by
  obtain ⟨st', e⟩ := recvAll_segCells ch 32 cl msg [] rest (12 + n) cst (by omega) (by omega) (by simp)
  have hdrop : (segCells msg []).drop (12 + n) = [] :=
    List.drop_of_length_le (by rw [segCells_length]; omega)
  rw [List.take_of_length_le (by omega), hdrop] at e
  simp [recvBody, e, hl, hh, hbdy]

section Proxy
open Model.BackendProxy

/-- 9 = version 1 | NEED_REPLY, 1 = version 1 -/
theorem reqFlags_eq (st : PSt) : reqFlags st = if st.replyAck then 9 else 1 := by
  cases h : st.replyAck <;> simp [reqFlags, h] <;> rfl

theorem request_ok (st : PSt) (c : Call) (req : Req) (h : request st c = .ok req) :
    c.kind.gate st = true ∧ st.error = none ∧ structSize c.kind.bodyTy = some c.body.length ∧
    req = ⟨⟨c.kind.code, reqFlags st, c.body.length⟩, c.body, if c.kind.hasFd then c.fds else []⟩ := by
  revert h
  fun_cases request st c
  case case6 hg he n hn _ hl =>
    intro h
    cases h
    simp only [bne_iff_ne, ne_eq, Decidable.not_not, Bool.not_eq_true', Bool.not_eq_false] at hl hg
    exact ⟨hg, he, hl ▸ hn, by rw [hl]⟩
  all_goals exact nofun

theorem callRecv_proj {σ : Type} (ch : Chooser σ) (cl : Bool) (st : PSt) (req : Req) (cst : σ) (str : List Cell) :
    ((∃ v, (callRecv ch cl st req cst str).ret = .ok v) ↔ ∃ r, (waitAck ch cl st req.hdr cst str).res = .ok r) ∧
    ((callRecv ch cl st req cst str).ret = .blocked ↔ (waitAck ch cl st req.hdr cst str).res = .blocked) ∧
    (∀ r, (waitAck ch cl st req.hdr cst str).res = .ok r → (callRecv ch cl st req cst str).ret = .ok (leVal r.body)) ∧
    (callRecv ch cl st req cst str).rest = (waitAck ch cl st req.hdr cst str).rest ∧
    (callRecv ch cl st req cst str).wire = wire req ∧ (callRecv ch cl st req cst str).wireFds = req.fds := by
  simp only [callRecv]
  cases (waitAck ch cl st req.hdr cst str).res <;> simp

end Proxy

section Gpu
open Model.GpuProxy

theorem gpu_request_ok (st : GSt) (c : Call) (req : Req) (h : request st c = .ok req) :
    methods.find? (·.name == c.name) = some req.m ∧
    (req.m.send ≠ .header → req.m.bodyTy.bind structSize = some c.body.length) ∧
    (req.m.send = .payload → c.payload.length ≤ maxMsgSize - c.body.length) ∧
    req.hdr.code = req.m.code ∧ req.hdr.flags = 0 ∧
    req.bytes = encHdr req.m.code 0 req.hdr.size ++ (if req.m.send = .header then [] else c.body) ++
      (if req.m.send = .payload then c.payload else []) ∧
    req.hdr.size = (if req.m.send = .header then 0 else c.body.length) + (if req.m.send = .payload then c.payload.length else 0) := by
  revert h
  fun_cases request st c
  case case3 m hm _ hs => rintro ⟨⟩; simp [hm, hs]
  case case7 m hm _ ty hty hs n hn _ hl =>
    rintro ⟨⟩
    simp only [bne_iff_ne, ne_eq, Decidable.not_not] at hl
    simp [hm, hs, hty, hn, hl]
  case case12 m hm _ ty hty hs n hn hmax hpl hl len =>
    rintro ⟨⟩
    simp only [bne_iff_ne, ne_eq, Decidable.not_not] at hl
    have hlt : n + c.payload.length < 2^32 := by simp [maxMsgSize] at hpl hmax; omega
    simp [hm, hs, hty, hn, hl, len, Nat.mod_eq_of_lt hlt, Nat.not_lt.1 hpl]
  all_goals exact nofun

end Gpu

/-! ### the frontend's request server -/
section FrontendSrv
open Model.FrontendSrv

/-- flags 5 = REPLY | version 1 -/
theorem ackBytes_parts (code v : Nat) : (ackBytes code v).take 12 = encHdr code 5 8 ∧
    (ackBytes code v).drop 12 = leBytes 8 v ∧ (ackBytes code v).length = 20 :=
  ⟨List.take_left' (encHdr_length code 5 8), List.drop_left' (encHdr_length code 5 8), by simp [ackBytes, encHdr]⟩

open Model.BackendSrv (bitSet) in
theorem checkSize_iff (h : Hdr) (size expected : Nat) :
    checkSize h size expected = true ↔
      h.size = expected ∧ h.flags.testBit 2 = false ∧ h.flags % 4 = 1 ∧ size = expected := by
  simp [checkSize, Hdr.isReply, bitSet, and_assoc]

theorem find_arm {c : Nat} {a : Arm} (h : arms.find? (·.code == c) = some a) : a ∈ arms ∧ a.code = c := by
  have h1 := List.find?_some h
  have h2 := List.mem_of_find?_eq_some h
  exact ⟨h2, by simpa using h1⟩

/-- one `handle_request` over any stream and chooser either fails before the dispatch (nothing invoked, nothing written, no
panic) or runs the dispatch on a framed request: 12 header bytes that pass the header validator, an attached-file list that
passes `check_attached_files`, and a body of exactly the declared size -/
theorem step_cases {σ : Type} (ch : Chooser σ) (cl : Bool) (st : FSt) (cst : σ) (s : List Cell) (h : HOut) :
    ((step ch cl st cst s h).o.calls = [] ∧ (step ch cl st cst s h).o.out = [] ∧ (step ch cl st cst s h).o.res ≠ .panic) ∨
    ∃ hb buf files closed, hb.length = 12 ∧ hdrValidB hb = true ∧ filesOk (parseHdr hb).code files = true ∧
      buf.length = (parseHdr hb).size ∧
      (step ch cl st cst s h).o = { dispatch st (parseHdr hb) buf files h with closed := closed } := by
  fun_cases step ch cl st cst s h
  -- the two exits through the dispatch: no body, and a body that `recv_data` delivered in full
  case case7 r _ hlen hval hdr files hfo hz o _ =>
    exact .inr ⟨r.bytes, [], files, _, by simpa using hlen, by simpa using hval, by simpa using hfo,
      by simpa using Eq.symm (beq_iff_eq.1 hz), rfl⟩
  case case12 r _ hlen hval hdr files hfo _ _ d hfull o _ =>
    exact .inr ⟨r.bytes, d.bytes, files, _, by simpa using hlen, by simpa using hval, by simpa using hfo,
      recvData_full_length ch cl _ _ _ hfull, rfl⟩
  -- every other exit: an error or `blocked`, with the default `calls` and `out`
  all_goals exact .inl ⟨rfl, rfl, nofun⟩

/-- **framing**: a message written with one `sendmsg` (header ++ body, descriptors as its ancillary data), followed by
anything, delivered in any segmentation: one `handle_request` reads exactly that message — header fields, body, files —
runs the dispatch on it and leaves the rest of the stream untouched -/
theorem step_of_message {σ : Type} (ch : Chooser σ) (cl : Bool) (st : FSt) (cst : σ) (code flags n : Nat) (body : Bytes)
    (fds : List Fd) (rest : List Cell) (h : HOut)
    (herr : st.error = none) (hc : code < 2^32) (hf : flags < 2^32) (hn : n ≤ Gen.Consts.MAX_MSG_SIZE) (hb : body.length = n)
    (hval : hdrValidB (encHdr code flags n) = true)
    (hfo : filesOk code (if fds.isEmpty then none else some fds) = true) (hfl : fds.length ≤ 32) :
    ∃ closed cst', step ch cl st cst (segCells (encHdr code flags n ++ body) fds ++ rest) h =
      ⟨{ dispatch st ⟨code, flags, n⟩ body (if fds.isEmpty then none else some fds) h with closed := closed }, rest, cst'⟩ := by
  have hmax : Gen.Consts.MAX_MSG_SIZE = 4096 := by decide
  have hel := encHdr_length code flags n
  generalize hmsg : encHdr code flags n ++ body = msg
  have hml : msg.length = 12 + n := by rw [← hmsg, List.length_append, hel, hb]
  have htk : msg.take 12 = encHdr code flags n := by rw [← hmsg, List.take_left' hel]
  have hdr : msg.drop 12 = body := by rw [← hmsg, List.drop_left' hel]
  obtain ⟨st', e⟩ := recvAll_segCells ch 32 cl msg fds rest 12 cst (by omega) (by omega) hfl
  rw [htk] at e
  -- `recv_data` reads the body in full because no descriptor rides on its bytes
  obtain ⟨q1, q2⟩ := segCells_drop msg fds 12 (by omega)
  rw [hdr] at q1
  generalize (segCells msg fds).drop 12 = tl at e q1 q2
  have htl : tl.length = n := by rw [← hb, ← q1, List.length_map]
  obtain ⟨r1, r2, _, r4⟩ := recvData_complete ch cl n st' (tl ++ rest)
    (by simp; omega) (by rw [List.take_left' htl]; exact q2)
  rw [List.take_left' htl, q1] at r1
  rw [List.drop_left' htl] at r2
  unfold step
  simp only [herr, e, hel, hval, parseHdr_encHdr code flags n hc hf (by omega), hfo]
  by_cases hz : n = 0
  · subst hz
    obtain rfl : body = [] := List.eq_nil_of_length_eq_zero hb
    obtain rfl : tl = [] := List.eq_nil_of_length_eq_zero htl
    exact ⟨_, _, by simp; exact ⟨rfl, rfl⟩⟩
  · exact ⟨_, _, by simp [hz, Nat.not_lt.2 hn, r1, r2, r4]; exact ⟨rfl, rfl⟩⟩

end FrontendSrv

end Lemmas.BackendChannel
