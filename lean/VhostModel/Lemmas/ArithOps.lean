import VhostModel.Base.ArithSig
import VhostModel.Lemmas.Bits
import VhostModel.Lemmas.BitmapC15
import VhostModel.Lemmas.Routing
/-! helper lemmas for `Props.{BitmapOps,RoutingOps,MemOps}`: the vocabulary of `Base/ArithSig.lean` against the
operators the hand-written models use -/
namespace Lemmas.ArithOps
open ArithSig

/-! ## bitmap -/

theorem le_usizeMax_iff (n : Nat) : n ≤ Model.Bitmap.usizeMax ↔ n < 2 ^ 64 := by
  unfold Model.Bitmap.usizeMax; omega

theorem checkedAdd_model (a b : Nat) : Model.Bitmap.checkedAdd a b = ArithSig.checkedAdd 64 a b := by
  simp only [Model.Bitmap.checkedAdd, ArithSig.checkedAdd, le_usizeMax_iff]

theorem satAdd_model (a b : Nat) : Model.Bitmap.satAdd a b = ArithSig.satAdd 64 a b := by
  simp only [Model.Bitmap.satAdd, ArithSig.satAdd, le_usizeMax_iff]; rfl

/-- 64-bit `saturating_add` is the sum capped at `usize::MAX` -/
theorem satAdd_eq_min (a b : Nat) : ArithSig.satAdd 64 a b = min (a + b) (2 ^ 64 - 1) := by
  rw [← satAdd_model, Lemmas.BitmapC15.satAdd_eq_min]; rfl

theorem shl_one (bits k : Nat) : shl bits 1 k = 2 ^ k % 2 ^ bits := by
  unfold shl; rw [Nat.one_shiftLeft]

/-- `1 << k` as `u8` is the model's mask -/
theorem bitMask_eq (k : Nat) : Model.Bitmap.bitMask k = UInt8.ofNat (shl 8 1 k) := by
  apply UInt8.toNat_inj.1
  unfold Model.Bitmap.bitMask
  rw [UInt8.toNat_ofNat', UInt8.toNat_ofNat', shl_one, Nat.mod_mod]

theorem bitMask_toNat (k : Nat) : (Model.Bitmap.bitMask k).toNat = shl 8 1 k := by
  unfold Model.Bitmap.bitMask
  rw [UInt8.toNat_ofNat', shl_one]

theorem takeWhile_all {α : Type} (p q : α → Bool) (l : List α) (h : ∀ a ∈ l, p a = true → q a = true) :
    (l.takeWhile p).all q = true := by
  induction l with
  | nil => rfl
  | cons a t ih =>
    rw [List.takeWhile_cons]
    cases hp : p a
    · rfl
    · simp only [if_true, List.all_cons, Bool.and_eq_true]
      exact ⟨h a (by simp) hp, ih (fun b hb => h b (by simp [hb]))⟩

theorem and_shl_one_ne_zero (b k : Nat) (hk : k < 8) : ((b &&& shl 8 1 k) != 0) = b.testBit k := by
  rw [shl_one, Nat.mod_eq_of_lt (Nat.pow_lt_pow_right (by omega) hk), Base.and_two_pow]
  cases b.testBit k <;> simp

/-! ## routing -/

theorem countOnes_eq_popcount (m : Model.Routing.U64) : countOnes 64 m.toNat = Model.Routing.popcount m := by
  unfold countOnes Model.Routing.popcount
  rw [Lemmas.Routing.popcountGo_eq_countP]

/-- the model's event index on naturals -/
theorem evtIdx_toNat (m : Model.Routing.U64) (q : Nat) :
    Model.Routing.evtIdx m q = countOnes 64 m.toNat - countOnes 64 (m.toNat >>> q) := by
  unfold Model.Routing.evtIdx
  rw [countOnes_eq_popcount, ← BitVec.toNat_ushiftRight, countOnes_eq_popcount]

/-- the `u32` subtraction of the two population counts cannot underflow -/
theorem countOnes_shift_le (x q : Nat) (hx : x < 2 ^ 64) (hq : q ≤ 64) : countOnes 64 (x >>> q) ≤ countOnes 64 x := by
  unfold countOnes
  rw [← Lemmas.Routing.popcountGo_eq_countP, ← Lemmas.Routing.popcountGo_eq_countP,
    Lemmas.Routing.popcount_split 64 x q hx hq]
  omega

end Lemmas.ArithOps
