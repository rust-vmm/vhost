import VhostModel.Lemmas.FeRecvCalls
import VhostModel.Lemmas.FdLinear
import VhostModel.Props.FeRecvHdr

/-!
# The reply readers of `FrontendInternal`, interpreted

`ReaderSpec w sf shape M out`: the interpreter's result `out` (started in world `w`, node `sf`) is what the model's reader
result `M` says — same rest of the stream and chooser state, the node unchanged, and
* `M.res = ok r`  ⇒ the function returned `Ok(shape r)` and closed exactly `M.closed`;
* `M.res = err e` ⇒ it returned `Err(fe)` with `errMap fe = e` and closed exactly `M.closed`;
* `M.res = blocked` ⇒ it is blocked inside `connection.rs`; what it closed so far plus the descriptors held by the blocked
  activation (`rfds` of `recv_into_iovec_all`) are `M.closed`.

`reader_exec` is the shape four of the five readers share; `recv_reply_with_files` calls `recv_reply_with_optional_files`.
-/
namespace Lemmas.FeRecv
open ImpFe
open Props.FeRecv (get_size_matches is_reply_matches is_need_reply_matches is_reply_for_matches)
open Imp (Var World upd upd_apply Stuck Fd Bytes)
open Model.Stream (Cell Chooser recvAll recvData RecvAll RecvData)
open Model.Frontend (Reply RecvOut RecvRes ReplyKind parseHdr hdrValid sizeOfTy bodyValidTy isReplyFor recvBody)
open Model.BackendSrv (bitSet)

def ReaderSpec {σ : Type} (w : World σ) (sf : Self) (shape : Reply → FVal) (M : RecvOut σ) (out : FRes σ) : Prop :=
  out.2.2.2.stream = M.rest ∧ out.2.2.2.cst = M.cst ∧ out.2.2.1 = sf ∧
  match M.res with
  | .ok r => out.1 = .done (.ok (shape r)) ∧ out.2.2.2.closed = w.closed ++ M.closed
  | .err e => (∃ fe, out.1 = .done (.err fe) ∧ errMap fe = e) ∧ out.2.2.2.closed = w.closed ++ M.closed
  | .blocked => ∃ inner, out.1 = .stuck .blocked inner ∧ out.2.2.2.closed ++ (inner.f 0).getD [] = w.closed ++ M.closed

section intro
variable {σ : Type} {w w' : World σ} {sf : Self} {shape : Reply → FVal} {M : RecvOut σ} {fr' : FFrame}

theorem ReaderSpec.ok {r : Reply} {v : FVal} (hM : M.res = .ok r) (hv : v = shape r) (h1 : w'.stream = M.rest) (h2 : w'.cst = M.cst)
    (h3 : w'.closed = w.closed ++ M.closed) : ReaderSpec w sf shape M (.done (.ok v), fr', sf, w') := by
  subst hv
  unfold ReaderSpec
  rw [hM]
  exact ⟨h1, h2, rfl, rfl, h3⟩

theorem ReaderSpec.err {fe : FErr} (hM : M.res = .err (errMap fe)) (h1 : w'.stream = M.rest) (h2 : w'.cst = M.cst)
    (h3 : w'.closed = w.closed ++ M.closed) : ReaderSpec w sf shape M (.done (.err fe), fr', sf, w') := by
  unfold ReaderSpec
  rw [hM]
  exact ⟨h1, h2, rfl, ⟨fe, rfl, rfl⟩, h3⟩

/-- a reader's result is a `return` or a blocked call: what follows it does not run -/
theorem ReaderSpec.andThen_eq {out : FRes σ} (h : ReaderSpec w sf shape M out) (env : FEnv σ) (F : Nat) (k : FStmt) :
    andThen env F out k = out := by
  obtain ⟨c, fr, sf', w'⟩ := out
  obtain ⟨_, _, _, h4⟩ := h
  cases hres : M.res <;> rw [hres] at h4
  · obtain ⟨rfl, _⟩ : _ ∧ _ := h4; rfl
  · obtain ⟨⟨fe, rfl, _⟩, _⟩ : _ ∧ _ := h4; rfl
  · obtain ⟨inner, rfl, _⟩ := h4; rfl

end intro

section conds
variable {σ : Type} (ch : Chooser σ) (cl : Bool) (fr : FFrame) (sf : Self)

/-- `size_of::<T>() > MAX_MSG_SIZE || hdr.is_reply()`: the first disjunct is static and false -/
theorem evalC_szOrReply (T : String) (n : Nat) (hn : sizeOfTy T = some n) (hsz : n ≤ 0x1000) (v : Var) (hh : (fr.b v.id).length = 12) :
    evalC (stdEnv ch cl) fr sf (.or (.gt (.sizeOf T) (.lit 4096)) (Gen.FeRecv.Hdr.isReply v)) = some (parseHdr (fr.b v.id)).isReply := by
  have hT : (stdEnv ch cl).tySize T = n := congrArg (·.getD 0) hn
  simp only [evalC, evalX, is_reply_matches ch cl fr sf v hh, hT, show decide (n > 4096) = false from by simpa using hsz]

/-- `!body.is_valid()` never fires: `recv_body::<T>` has tested it -/
theorem evalC_or_not_valid (c : FCond) (b : Bool) (T : String) (body : Var) (hc : evalC (stdEnv ch cl) fr sf c = some b)
    (hv : bodyValidTy T (fr.b body.id) = some true) :
    evalC (stdEnv ch cl) fr sf (.or c (.not (.valid T body))) = some b := by
  have : (stdEnv ch cl).tyValid T (fr.b body.id) = true := by
    show (bodyValidTy T (fr.b body.id) == some true) = true
    rw [hv]; rfl
  simp only [↓evalC_or, evalC, hc, this, Option.map_some, Option.bind_some, ite_some_or, Bool.not_true, Bool.or_false]

theorem evalC_notIrf_or_files (reply hdr files : Var) (b : Bool) (of : Option (List Fd))
    (hirf : evalC (stdEnv ch cl) fr sf (Gen.FeRecv.Hdr.isReplyFor reply hdr) = some b) (hf : fr.f files.id = of) :
    evalC (stdEnv ch cl) fr sf (.or (.not (Gen.FeRecv.Hdr.isReplyFor reply hdr)) (.fIsSome files)) = some (!b || of.isSome) := by
  simp only [↓evalC_or, evalC, hirf, hf, Option.map_some, Option.bind_some, ite_some_or]

theorem files_none_of_check {b : Bool} {of : Option (List Fd)} (h : (!b || of.isSome) = false) : of = none := by
  cases of with
  | none => rfl
  | some l => cases b <;> cases h

end conds

/-- `if guard { early }; self.check_state()?; let (reply, body, files) = self.main_sock.recv_body::<T>()?;
if c || !body.is_valid() { drop(files); return Err(InvalidMessage) }; tail` -/
theorem reader_exec {σ : Type} (ch : Chooser σ) (cl : Bool) (T : String) (n : Nat) (hn : sizeOfTy T = some n)
    (nm1 nm2 : String) (rcs rr hdr reply body files : Var) (hne : reply.id ≠ body.id) (hne1 : hdr.id ≠ reply.id) (hne2 : hdr.id ≠ body.id)
    (guard c : FCond) (early tail : FStmt) (F : Nat) (fr : FFrame) (sf : Self) (w : World σ) (hF : w.stream.length + 1 ≤ F)
    (herr : sf.error = none) (hh : (fr.b hdr.id).length = 12)
    (o : RecvOut σ) (ho : recvBody ch cl T w.cst w.stream = o) (shape : Reply → FVal) (g : Bool) (Mearly : RecvOut σ)
    (cnd : Reply → Bool) (tailM : Reply → RecvOut σ)
    (hg : evalC (stdEnv ch cl) fr sf guard = some g)
    (hearly : ReaderSpec w sf shape Mearly (ImpFe.exec (stdEnv ch cl) early F fr sf w))
    (hc : ∀ (r : Reply) (fr' : FFrame),
      evalC (stdEnv ch cl) fr' sf (Gen.FeRecv.Hdr.isReplyFor reply hdr) = some (isReplyFor r.hdr (parseHdr (fr.b hdr.id))) →
      fr'.f files.id = r.files → evalC (stdEnv ch cl) fr' sf c = some (cnd r))
    (htail : ∀ (r : Reply) (fr' : FFrame) (w' : World σ), g = false → o.res = .ok r → cnd r = false →
      (fr'.b reply.id).length = 12 → parseHdr (fr'.b reply.id) = r.hdr → r.body.length = n →
      fr'.b body.id = r.body → (∀ i, i ≠ reply.id → i ≠ body.id → fr'.b i = fr.b i) → fr'.f files.id = r.files →
      w'.stream = o.rest → w'.cst = o.cst → w'.closed = w.closed ++ o.closed →
      ReaderSpec w sf shape (tailM r) (ImpFe.exec (stdEnv ch cl) tail F fr' sf w')) :
    ReaderSpec w sf shape
      (if g = true then Mearly else
        match o.res with
        | .ok r => if cnd r = true then ⟨.err .invalidMsg, o.rest, o.cst, o.closed ++ r.files.getD []⟩ else tailM r
        | _ => o)
      (ImpFe.exec (stdEnv ch cl)
        (.seq (.ite guard early .skip)
          (.seq (.callFe nm1 Gen.FeRecv.CheckState.fnBody [] [] [] rcs)
            (.seq (.matchOk rcs [] none [] none .skip (.retErr (.ofRes rcs)))
              (.seq (.callConn nm2 T Gen.ConnLoops.RecvBody.fnBody [] rr)
                (.seq (.matchOk rr [] (some files) [reply, body] none .skip (.retErr (.ofRes rr)))
                  (.seq (.ite (.or c (.not (.valid T body))) (.seq (.dropF files) (.retErr (.const (.conn .invalidMessage)))) .skip)
                    tail)))))) F fr sf w) := by
  rw [exec_seq, exec_ite, hg]
  cases g
  case true => exact (hearly.andThen_eq _ F _).symm ▸ hearly
  simp only [exec_skip, andThen_normal, Bool.false_eq_true, if_false]
  rw [exec_seq, callFe_checkState _ _ _ _ _ _ _ herr, andThen_normal, exec_seq, exec_try]
  simp only [upd_apply, reduceIte, bindNs_nil, bindBs_nil, andThen_normal]
  rw [exec_seq]
  generalize hx : ImpFe.exec (stdEnv ch cl) (.callConn nm2 T Gen.ConnLoops.RecvBody.fnBody [] rr) F _ sf w = out
  obtain ⟨t1, t2, t3, t4⟩ := callConn_recvBody ch cl T n hn nm2 rr F _ sf w hF o ho out hx
  obtain ⟨c', fr2, sf2, w2⟩ := out
  subst t3
  cases hres : o.res with
  | blocked =>
    rw [hres] at t4
    obtain ⟨inner, rfl, u⟩ := t4
    unfold ReaderSpec
    rw [hres]
    exact ⟨t1, t2, rfl, inner, rfl, u⟩
  | err e =>
    rw [hres] at t4
    obtain ⟨u, fe, rfl, rfl, rfl⟩ := t4
    simp only [andThen_normal, exec_seq, exec_try, upd_apply, reduceIte, andThen_done]
    exact .err hres t1 t2 u
  | ok r =>
    rw [hres] at t4
    obtain ⟨u, hb, h1, h2, h3, h4, rfl, rfl⟩ := t4
    rw [andThen_normal, exec_seq, exec_try]
    simp only [upd_apply, reduceIte, bindNs_nil, bindBs_cons, bindBs_nil, Option.elim_some, andThen_normal]
    suffices hk : ∀ fr' : FFrame, fr'.b reply.id = hb → fr'.b hdr.id = fr.b hdr.id → fr'.b body.id = r.body → fr'.f files.id = r.files →
        (∀ i, i ≠ reply.id → i ≠ body.id → fr'.b i = fr.b i) →
        ReaderSpec w sf2 shape _ (ImpFe.exec (stdEnv ch cl) _ F fr' sf2 w2) from
      hk _ (by simp only [upd_apply, if_neg hne, if_true]) (by simp only [upd_apply, if_neg hne1, if_neg hne2])
        (by simp only [upd_apply, if_true]) (by simp only [upd_apply, if_true])
        (fun i hi1 hi2 => by simp only [upd_apply, if_neg hi1, if_neg hi2])
    intro fr' e1 e0 e2 e4 e3
    have hirf : evalC (stdEnv ch cl) fr' sf2 (Gen.FeRecv.Hdr.isReplyFor reply hdr) = some (isReplyFor r.hdr (parseHdr (fr.b hdr.id))) := by
      rw [is_reply_for_matches ch cl fr' sf2 reply hdr (by rw [e1]; exact h1) (by rw [e0]; exact hh), e1, e0, h2]
    rw [exec_seq, exec_ite, evalC_or_not_valid ch cl fr' sf2 c _ T body (hc r fr' hirf e4) (by rw [e2]; exact h4)]
    cases hcnd : cnd r
    · simp only [andThen_normal, exec_skip]
      exact htail r fr' w2 rfl hres hcnd (by rw [e1]; exact h1) (by rw [e1]; exact h2) h3 e2 e3 e4 t1 t2 u
    · simp only [exec_seq, andThen_normal, andThen_done, exec_dropF, exec_retErr, evalErr, if_true]
      exact .err rfl t1 t2 (by rw [u, e4, List.append_assoc])

theorem early_invalidParam {σ : Type} (env : FEnv σ) (F : Nat) (fr : FFrame) (sf : Self) (w : World σ) (shape : Reply → FVal) :
    ReaderSpec w sf shape ⟨.err .invalidParam, w.stream, w.cst, []⟩
      (ImpFe.exec env (.retErr (.const .invalidParam)) F fr sf w) :=
  .err rfl rfl rfl (List.append_nil _).symm

theorem recv_reply_exec {σ : Type} (ch : Chooser σ) (cl : Bool) (T : String) (n : Nat) (hn : sizeOfTy T = some n) (hsz : n ≤ 0x1000)
    (F : Nat) (fr : FFrame) (sf : Self) (w : World σ) (hF : w.stream.length + 1 ≤ F) (hh : (fr.b 0).length = 12)
    (herr : sf.error = none) :
    ReaderSpec w sf (fun r => { bufs := [r.body] })
      (recvH ch cl sf.acked_protocol_features (parseHdr (fr.b 0)) (.body T) w.cst w.stream)
      (ImpFe.exec (stdEnv ch cl) (Gen.FeRecv.RecvReply.fnBody T) F fr sf w) := by
  unfold Gen.FeRecv.RecvReply.fnBody
  simp only [recvH]
  refine reader_exec ch cl T n hn (hdr := Gen.FeRecv.RecvReply.hdr) (hne := by decide) (hne1 := by decide) (hne2 := by decide)
    (hF := hF) (herr := herr) (hh := hh) (ho := rfl) (hg := evalC_szOrReply ch cl fr sf T n hn hsz _ hh)
    (hearly := early_invalidParam _ F fr sf w _)
    (hc := fun r fr' hirf e4 => evalC_notIrf_or_files ch cl fr' sf _ _ _ _ _ hirf e4) (htail := ?_) ..
  intro r fr' w' _ hres hcnd h1 h2 h3 e2 e3 e4 q1 q2 q3
  have hnone : r.files = none := files_none_of_check hcnd
  simp only [exec_seq, andThen_normal, exec_dropF, exec_ret, evalXs, evalFd, List.map, e2]
  exact .ok hres rfl q1 q2 (by simp [q3, e4, hnone])

theorem recv_reply_with_optional_files_exec {σ : Type} (ch : Chooser σ) (cl : Bool) (T : String) (n : Nat) (hn : sizeOfTy T = some n)
    (hsz : n ≤ 0x1000) (F : Nat) (fr : FFrame) (sf : Self) (w : World σ) (hF : w.stream.length + 1 ≤ F)
    (hh : (fr.b 0).length = 12) (herr : sf.error = none) :
    ReaderSpec w sf (fun r => { bufs := [r.body], fds := r.files })
      (recvH ch cl sf.acked_protocol_features (parseHdr (fr.b 0)) (.bodyOptFiles T) w.cst w.stream)
      (ImpFe.exec (stdEnv ch cl) (Gen.FeRecv.RecvReplyWithOptionalFiles.fnBody T) F fr sf w) := by
  unfold Gen.FeRecv.RecvReplyWithOptionalFiles.fnBody
  simp only [recvH]
  refine reader_exec ch cl T n hn (hdr := Gen.FeRecv.RecvReplyWithOptionalFiles.hdr) (hne := by decide) (hne1 := by decide)
    (hne2 := by decide) (hF := hF) (herr := herr) (hh := hh) (ho := rfl) (hg := evalC_szOrReply ch cl fr sf T n hn hsz _ hh)
    (hearly := early_invalidParam _ F fr sf w _) (hc := fun r fr' hirf _ => by simp only [evalC, hirf, Option.map_some])
    (htail := ?_) ..
  intro r fr' w' _ hres hcnd h1 h2 h3 e2 e3 e4 q1 q2 q3
  simp only [exec_ret, evalXs, evalFd, List.map, e2, e4]
  exact .ok hres rfl q1 q2 q3

/-- `res = self.<reader>(&hdr)` -/
theorem reader_call {σ : Type} (env : FEnv σ) (nm : String) (callee : FStmt) (pH hdr res : Var)
    (F : Nat) (fr : FFrame) (sf : Self) (w : World σ) (shape : Reply → FVal) (M : RecvOut σ)
    (hS : ReaderSpec w sf shape M
      (ImpFe.exec env callee F { n := fun _ => 0, b := upd (fun _ => []) pH.id (fr.b hdr.id), f := fun _ => none } sf w))
    (out : FRes σ) (hout : ImpFe.exec env (.callFe nm callee [] [(pH, hdr)] [] res) F fr sf w = out) :
    ∃ w' : World σ, w'.stream = M.rest ∧ w'.cst = M.cst ∧
      ((∃ r, M.res = .ok r ∧ w'.closed = w.closed ++ M.closed ∧
          out = (.normal, { fr with r := upd fr.r res.id (.ok (shape r)) }, sf, w')) ∨
       (∃ fe, M.res = .err (errMap fe) ∧ w'.closed = w.closed ++ M.closed ∧
          out = (.normal, { fr with r := upd fr.r res.id (.err fe) }, sf, w')) ∨
       (∃ inner, M.res = .blocked ∧ w'.closed ++ (inner.f 0).getD [] = w.closed ++ M.closed ∧
          out = (.stuck .blocked inner, fr, sf, w'))) := by
  subst hout
  rw [exec_callFe]
  simp only [argsN, argsB, argsF, movedF]
  generalize ImpFe.exec env callee F { n := fun _ => 0, b := upd (fun _ => []) pH.id (fr.b hdr.id), f := fun _ => none } sf w = out
    at hS ⊢
  obtain ⟨c, fr2, sf2, w2⟩ := out
  obtain ⟨s1, s2, rfl, s4⟩ := hS
  refine ⟨w2, s1, s2, ?_⟩
  cases hres : M.res with
  | ok r =>
    rw [hres] at s4
    obtain ⟨rfl, u⟩ := s4
    exact .inl ⟨r, rfl, u, rfl⟩
  | err e =>
    rw [hres] at s4
    obtain ⟨⟨fe, rfl, rfl⟩, u⟩ := s4
    exact .inr (.inl ⟨fe, rfl, u, rfl⟩)
  | blocked =>
    rw [hres] at s4
    obtain ⟨inner, rfl, u⟩ := s4
    exact .inr (.inr ⟨inner, rfl, u, rfl⟩)

/-- the model's `recv_reply_with_files` is its `recv_reply_with_optional_files` followed by the `files.is_none()` test -/
theorem recvH_bodyFiles {σ : Type} (ch : Chooser σ) (cl : Bool) (ap : Nat) (rh : Model.BackendSrv.Hdr) (ty : String) (cst : σ) (str : List Cell)
    (M : RecvOut σ) (hM : recvH ch cl ap rh (.bodyOptFiles ty) cst str = M) :
    recvH ch cl ap rh (.bodyFiles ty) cst str =
      (match M.res with
       | .ok r => if r.files.isNone then ⟨.err .invalidMsg, M.rest, M.cst, M.closed⟩ else M
       | _ => M) := by
  subst hM
  simp only [recvH]
  cases hr : rh.isReply
  · simp only [Bool.false_eq_true, if_false]
    rcases ho : recvBody ch cl ty cst str with ⟨res, rest, cst', closed⟩
    cases res with
    | ok r => cases hi : isReplyFor r.hdr rh <;> simp [hi]
    | err e => rfl
    | blocked => rfl
  · simp

theorem recv_reply_with_files_exec {σ : Type} (ch : Chooser σ) (cl : Bool) (T : String) (n : Nat) (hn : sizeOfTy T = some n)
    (hsz : n ≤ 0x1000) (F : Nat) (fr : FFrame) (sf : Self) (w : World σ) (hF : w.stream.length + 1 ≤ F)
    (hh : (fr.b 0).length = 12) (herr : sf.error = none) :
    ReaderSpec w sf (fun r => { bufs := [r.body], fds := r.files })
      (recvH ch cl sf.acked_protocol_features (parseHdr (fr.b 0)) (.bodyFiles T) w.cst w.stream)
      (ImpFe.exec (stdEnv ch cl) (Gen.FeRecv.RecvReplyWithFiles.fnBody T) F fr sf w) := by
  have hS := recv_reply_with_optional_files_exec ch cl T n hn hsz F
    { n := fun _ => 0, b := upd (fun _ => []) 0 (fr.b 0), f := fun _ => none } sf w hF hh herr
  simp only [upd_apply, if_true] at hS
  unfold Gen.FeRecv.RecvReplyWithFiles.fnBody
  rw [recvH_bodyFiles ch cl _ _ T _ _ _ rfl]
  generalize recvH ch cl sf.acked_protocol_features (parseHdr (fr.b 0)) (.bodyOptFiles T) w.cst w.stream = M at hS ⊢
  obtain ⟨w', q1, q2, ⟨r, hres, u, hx⟩ | ⟨fe, hres, u, hx⟩ | ⟨inner, hres, u, hx⟩⟩ :=
    reader_call (stdEnv ch cl) "recv_reply_with_optional_files" _ Gen.FeRecv.RecvReplyWithOptionalFiles.hdr
      Gen.FeRecv.RecvReplyWithFiles.hdr Gen.FeRecv.RecvReplyWithFiles.r_body F fr sf w _ M hS _ rfl
  all_goals rw [exec_seq, hx]
  · rw [andThen_normal, exec_seq, exec_try, hres]
    cases hf : r.files with
    | none =>
      simp only [exec_seq, andThen_normal, andThen_done, exec_dropF, exec_ite, exec_retErr, upd_apply, if_true, bindNs_nil, bindBs_cons, bindBs_nil,
        Option.elim_some, evalC, Option.map_some, hf, Option.isSome_none, Bool.not_false, Option.isNone_none, evalErr]
      exact .err rfl q1 q2 (by simp [u])
    | some l =>
      simp only [exec_seq, andThen_normal, exec_skip, exec_ite, exec_ret, upd_apply, if_true, bindNs_nil, bindBs_cons, bindBs_nil, Option.elim_some,
        evalC, Option.map_some, hf, Option.isSome_some, Bool.not_true, Option.isNone_some, Bool.false_eq_true, if_false, evalXs, evalFd, List.map,
        Option.map_none]
      exact .ok hres (by rw [hf]) q1 q2 u
  · rw [andThen_normal, exec_seq, exec_try, hres]
    simp only [andThen_done, upd_apply, if_true]
    exact .err hres q1 q2 u
  · rw [hres]
    exact ⟨q1, q2, rfl, by rw [hres]; exact ⟨inner, rfl, u⟩⟩

theorem wait_for_ack_exec {σ : Type} (ch : Chooser σ) (cl : Bool)
    (F : Nat) (fr : FFrame) (sf : Self) (w : World σ) (hF : w.stream.length + 1 ≤ F)
    (hh : (fr.b 0).length = 12) (herr : sf.error = none) :
    ReaderSpec w sf (fun _ => {})
      (recvH ch cl sf.acked_protocol_features (parseHdr (fr.b 0)) .ack w.cst w.stream)
      (ImpFe.exec (stdEnv ch cl) Gen.FeRecv.WaitForAck.fnBody F fr sf w) := by
  have hc : evalC (stdEnv ch cl) fr sf
      (.or (.eq (.band (.self .acked_protocol_features) (.lit 0x8)) (.lit 0)) (.not (Gen.FeRecv.Hdr.isNeedReply Gen.FeRecv.WaitForAck.hdr)))
      = some (!bitSet sf.acked_protocol_features 3 || !(parseHdr (fr.b 0)).needReply) := by
    simp only [↓evalC_or, evalC, evalX, is_need_reply_matches ch cl fr sf Gen.FeRecv.WaitForAck.hdr hh, Option.map_some, Option.bind_some,
      ite_some_or, Self.get, bitSet, eq_dec]
    rw [← Lemmas.Helpers.and_two_pow_beq_zero]
  unfold Gen.FeRecv.WaitForAck.fnBody
  simp only [recvH]
  refine reader_exec ch cl "VhostUserU64" 8 so_U64 (hdr := Gen.FeRecv.WaitForAck.hdr) (hne := by decide) (hne1 := by decide)
    (hne2 := by decide) (hF := hF) (herr := herr) (hh := hh) (ho := rfl) (hg := hc) (hearly := ?_)
    (hc := fun r fr' hirf e4 => evalC_notIrf_or_files ch cl fr' sf _ _ _ _ _ hirf e4) (htail := ?_) ..
  · exact .ok rfl rfl rfl rfl (List.append_nil _).symm
  intro r fr' w' _ hres hcnd h1 h2 h3 e2 e3 e4 q1 q2 q3
  have hnone : r.files = none := files_none_of_check hcnd
  have hval : evalC (stdEnv ch cl) fr' sf (.ne (.field Gen.FeRecv.WaitForAck.body "VhostUserU64" ["value"]) (.lit 0))
      = some (Base.leVal r.body != 0) := by
    simp only [evalC, evalX, e2, ne_zero_dec]
    exact congrArg (fun x => some (x != 0)) (g_u64_value r.body h3)
  rw [exec_seq, exec_ite, hval]
  cases hz : (Base.leVal r.body != 0)
  · simp only [exec_seq, andThen_normal, exec_skip, exec_dropF, exec_ret, evalXs, evalFd, List.map, Option.map_none]
    exact .ok hres rfl q1 q2 (by simp [q3, e4, hnone])
  · simp only [exec_seq, andThen_normal, andThen_done, exec_dropF, exec_retErr, evalErr]
    exact .err rfl q1 q2 (by simp [q3, e4, hnone])

theorem recvAll_rest_le {σ : Type} (ch : Chooser σ) (cap : Nat) (cl : Bool) :
    ∀ (want : Nat) (st : σ) (s : List Cell) (first : Bool), (recvAll ch cap cl want st s first).rest.length ≤ s.length := by
  intro want st s first
  fun_induction recvAll ch cap cl want st s first with
  | case1 first st s => simp
  | case2 first n st => simp
  | case3 want st c s first k0 st' hnext k chunk rest cf _ r ih
  | case4 want st c s first k0 st' hnext k chunk rest cf _ r ih =>
    exact Nat.le_trans ih (by simp [rest, List.length_drop])

theorem recvBody_rest_le {σ : Type} (ch : Chooser σ) (cl : Bool) (ty : String) (cst : σ) (s : List Cell) :
    (recvBody ch cl ty cst s).rest.length ≤ s.length := by
  unfold recvBody
  split
  · exact Nat.le_refl _
  · have := recvAll_rest_le ch 32 cl
    simp only []
    split
    · exact this ..
    · split
      · exact this ..
      · split <;> exact this ..

theorem recv_reply_with_payload_exec {σ : Type} (ch : Chooser σ) (cl : Bool) (T : String) (n : Nat) (hn : sizeOfTy T = some n)
    (hsz : n ≤ 0x1000) (F : Nat) (fr : FFrame) (sf : Self) (w : World σ) (hF : w.stream.length + 1 ≤ F)
    (hh : (fr.b 0).length = 12) (herr : sf.error = none) :
    ReaderSpec w sf (fun r => { bufs := [r.body, r.payload], fds := r.files })
      (recvH ch cl sf.acked_protocol_features (parseHdr (fr.b 0)) (.payload T) w.cst w.stream)
      (ImpFe.exec (stdEnv ch cl) (Gen.FeRecv.RecvReplyWithPayload.fnBody T) F fr sf w) := by
  have hT : (stdEnv ch cl).tySize T = n := congrArg (·.getD 0) hn
  have hc : evalC (stdEnv ch cl) fr sf
      (.or (.or (.or (.gt (.sizeOf T) (.lit 4096)) (.le (Gen.FeRecv.Hdr.getSize Gen.FeRecv.RecvReplyWithPayload.hdr) (.sizeOf T)))
        (.gt (Gen.FeRecv.Hdr.getSize Gen.FeRecv.RecvReplyWithPayload.hdr) (.lit 4096))) (Gen.FeRecv.Hdr.isReply Gen.FeRecv.RecvReplyWithPayload.hdr))
      = some (decide ((parseHdr (fr.b 0)).size ≤ n) || decide ((parseHdr (fr.b 0)).size > 0x1000) || (parseHdr (fr.b 0)).isReply) := by
    simp only [↓evalC_or, evalC, evalX, is_reply_matches ch cl fr sf Gen.FeRecv.RecvReplyWithPayload.hdr hh,
      get_size_matches ch cl fr sf Gen.FeRecv.RecvReplyWithPayload.hdr hh, hT, show decide (n > 4096) = false from by simpa using hsz,
      Option.bind_some, ite_some_or, Bool.false_or]
  unfold Gen.FeRecv.RecvReplyWithPayload.fnBody
  simp only [recvH, hn]
  have hle := recvBody_rest_le ch cl T w.cst w.stream
  generalize ho : recvBody ch cl T w.cst w.stream = o at hle
  refine reader_exec ch cl T n hn (hdr := Gen.FeRecv.RecvReplyWithPayload.hdr) (hne := by decide) (hne1 := by decide)
    (hne2 := by decide) (hF := hF) (herr := herr) (hh := hh) (ho := ho) (hg := hc) (hearly := early_invalidParam _ F fr sf w _)
    (hc := fun r fr' hirf e4 => evalC_notIrf_or_files ch cl fr' sf _ _ _ _ _ hirf e4) (htail := ?_) ..
  intro r fr' w' hr hres hcnd h1 h2 h3 e2 e3 e4 q1 q2 q3
  have hgt : n ≤ (parseHdr (fr.b 0)).size := by
    simp only [Bool.or_eq_false_iff, decide_eq_false_iff_not] at hr
    omega
  have e0 : fr'.b 0 = fr.b 0 := e3 0 (by decide) (by decide)
  have hnone : r.files = none := files_none_of_check hcnd
  have hs0 : evalX (stdEnv ch cl) fr' sf (Gen.FeRecv.Hdr.getSize Gen.FeRecv.RecvReplyWithPayload.hdr) = some (parseHdr (fr.b 0)).size := by
    rw [get_size_matches ch cl fr' sf _ (by rw [e0]; exact hh), e0]
  have hs1 : ∀ nn, evalX (stdEnv ch cl) { fr' with n := nn } sf (Gen.FeRecv.Hdr.getSize Gen.FeRecv.RecvReplyWithPayload.reply)
      = some r.hdr.size := fun nn =>
    (get_size_matches ch cl { fr' with n := nn } sf _ h1).trans (congrArg (fun h => some h.size) h2)
  rw [exec_seq, exec_assign]
  simp only [evalX, hs0, hT, if_pos hgt, andThen_normal]
  rw [exec_seq, exec_ite]
  simp only [evalC, evalX, hs1, hT]
  by_cases hlt : r.hdr.size < n
  · simp only [exec_seq, andThen_normal, andThen_done, exec_dropF, exec_retErr, hlt, decide_true, evalErr]
    exact .err rfl q1 q2 (by simp [q3, e4, hnone])
  · simp only [hlt, decide_false, exec_assign, evalX, hs1, hT, if_pos (Nat.le_of_not_lt hlt), andThen_normal]
    rw [exec_seq, exec_ite]
    simp only [evalC, evalX, upd_apply, Nat.reduceEqDiff, if_true, if_false]
    by_cases hgt2 : r.hdr.size - n > (parseHdr (fr.b 0)).size - n
    · simp only [exec_seq, andThen_normal, andThen_done, exec_dropF, exec_retErr, hgt2, decide_true, evalErr]
      exact .err rfl q1 q2 (by simp [q3, e4, hnone])
    · simp only [hgt2, decide_false, exec_skip, andThen_normal]
      have hlost := Lemmas.FdLinear.recvData_lost_nil ch cl (r.hdr.size - n) o.cst o.rest
      have hol := Lemmas.Stream.recvData_outcome_len ch cl (r.hdr.size - n) o.cst o.rest
      generalize hD : recvData ch cl (r.hdr.size - n) o.cst o.rest = D at hlost hol ⊢
      obtain ⟨inner, e5, hx⟩ := callConn_recvData ch cl "recv_data" "VhostUserEmpty"
        (.var Gen.FeRecv.RecvReplyWithPayload.payload_size) Gen.FeRecv.RecvReplyWithPayload.r_bytes (r.hdr.size - n) F
        { fr' with n := upd (upd fr'.n 0 ((parseHdr (fr.b 0)).size - n)) 1 (r.hdr.size - n) } sf w'
        (by simp only [evalX, upd_apply, if_true]) (by rw [q1]; omega) D (by rw [q1, q2]; exact hD)
      rw [exec_seq, hx]
      rcases D with ⟨dbytes, dlost, drest, dst, dout⟩
      -- by the model's outcome of the payload read
      cases dout with
      | blocked =>
        simp only [Lemmas.ConnData.dataCtl, andThen_stuck]
        exact ⟨rfl, rfl, rfl, inner, rfl, by simp [Lemmas.ConnData.dataWorld, q3, e5, show dlost = [] from hlost (by simp)]⟩
      | enobufs =>
        simp only [Lemmas.ConnData.dataCtl, liftR, exec_seq, andThen_normal, andThen_done, exec_dropF, exec_retErr, exec_matchOk, upd_apply,
          if_true, evalErr, errOfR]
        exact .err rfl rfl rfl (by simp [Lemmas.ConnData.dataWorld, q3, e4, hnone])
      | short =>
        have hne : dbytes.length ≠ r.hdr.size - n := Nat.ne_of_lt (hol.2 rfl)
        simp only [Lemmas.ConnData.dataCtl, liftR, exec_seq, andThen_normal, andThen_done, exec_skip, exec_dropF, exec_ite, exec_retErr,
          exec_matchOk, upd_apply, if_true, bindNs_cons, bindNs_nil, bindBs_cons, bindBs_nil, Option.elim_none, evalC, evalX,
          Nat.reduceEqDiff, if_false, hne, ne_eq, not_false_eq_true, decide_true, evalErr]
        exact .err rfl rfl rfl (by simp [Lemmas.ConnData.dataWorld, q3, e4, hnone, show dlost = [] from hlost (by simp)])
      | full =>
        have hl : dbytes.length = r.hdr.size - n := hol.1 rfl
        simp only [Lemmas.ConnData.dataCtl, Lemmas.ConnData.dataBuf_full (D := ⟨dbytes, dlost, drest, dst, .full⟩) hl, liftR, hl, exec_seq,
          andThen_normal, exec_skip, exec_ite, exec_ret, exec_matchOk, upd_apply, if_true, bindNs_cons, bindNs_nil, bindBs_cons,
          bindBs_nil, Option.elim_none, evalC, evalX, Nat.reduceEqDiff, if_false, ne_eq, not_true_eq_false, decide_false, evalXs, evalFd,
          List.map, Option.map_none, e2, e4]
        exact .ok rfl rfl rfl rfl (by simp [Lemmas.ConnData.dataWorld, q3, show dlost = [] from hlost (by simp)])

end Lemmas.FeRecv
