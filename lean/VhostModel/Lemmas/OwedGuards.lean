import VhostModel.Lemmas.Owed
import VhostModel.Props.C04
/-!
# Helper lemmas for C04Owed: the abstraction to the Spec, what `classify` says, why an accepted request passes the guards of its arm

`covered` names, guard by guard, the entry of the Spec's tables that makes
an accepted request pass it (`arms_covered`: every guard of every arm is covered; `Facts.passes`).
-/
namespace Lemmas.OwedGuards
open Base Model.BackendSrv Model.Msgs Spec.Proto Lemmas.Owed Lemmas.BackendSrv
abbrev Fd := Model.Stream.Fd

/-- the negotiation state an observer of the wire sees -/
def absNeg (st : BSt) : Spec.Proto.Neg := ⟨st.virtio, st.acked, st.ackedProto⟩
/-- the framed request as the Spec sees it -/
def reqOf (hdr : Hdr) (buf : Bytes) (files : Option (List Fd)) : Spec.Proto.Req :=
  ⟨hdr.code, hdr.flags, hdr.size, buf, (files.getD []).length⟩
/-- the handler script: same fields on both sides -/
def hOut (h : Model.BackendSrv.HOut) : Spec.Proto.HOut := ⟨h.ok, h.v, h.b, h.file⟩

/-! ### `classify` is a chain of tests, each with its verdict; these two lemmas take one test off the chain -/

theorem of_ite_ne {α : Type} {c : Prop} [Decidable c] {a x b : α} (h : (if c then a else x) = b) (hab : a ≠ b) :
    ¬ c ∧ x = b := by
  by_cases hc : c
  · rw [if_pos hc] at h; exact absurd h hab
  · rw [if_neg hc] at h; exact ⟨hc, h⟩

theorem of_ite_eq {α : Type} {c : Prop} [Decidable c] {a x : α} (h : (if c then a else x) = a) : c ∨ ¬ c ∧ x = a := by
  by_cases hc : c
  · exact .inl hc
  · rw [if_neg hc] at h; exact .inr ⟨hc, h⟩

/-- everything `classify = accept` says, in the model's vocabulary -/
structure Facts (st : BSt) (hdr : Hdr) (buf : Bytes) (files : Option (List Fd)) : Prop where
  proto : ∀ b, gate hdr.code = some b → bitSet st.ackedProto b = true
  virtio : hdr.code = 18 → bitSet st.acked 30 = true
  impl : hdr.code ∈ implemented
  len : buf.length = hdr.size
  dec : bodyDecodable hdr.code buf = true
  valid : Spec.Proto.bodyValid hdr.code buf = true
  nfds : (files.getD []).length = filesPrescribed hdr.code buf
  notReply : hdr.flags.testBit 2 = false
  fixed : ∀ k, fixedSize hdr.code = some k → hdr.size = k
  small : hdr.size ≤ 4096
  hdrOk : Spec.validHeader Spec.frontendCodes hdr.code hdr.flags hdr.size

theorem facts_of_accept {st : BSt} {hdr : Hdr} {buf : Bytes} {files : Option (List Fd)}
    (ha : classify (absNeg st) (reqOf hdr buf files) = .accept) : Facts st hdr buf files := by
  unfold classify at ha
  dsimp only [reqOf] at ha
  obtain ⟨hv, ha⟩ := of_ite_ne ha nofun
  obtain ⟨hg, ha⟩ := of_ite_ne ha nofun
  obtain ⟨hi, ha⟩ := of_ite_ne ha nofun
  obtain ⟨-, ha⟩ := of_ite_ne ha nofun
  obtain ⟨hlen, ha⟩ := of_ite_ne ha nofun
  obtain ⟨hdec, ha⟩ := of_ite_ne ha nofun
  obtain ⟨hbv, ha⟩ := of_ite_ne ha nofun
  obtain ⟨hnf, ha⟩ := of_ite_ne ha nofun
  obtain ⟨hrep, ha⟩ := of_ite_ne ha nofun
  simp only [Bool.not_eq_true', Decidable.not_not, Bool.not_eq_true, bne_iff_ne, ne_eq,
    Bool.not_eq_false] at hv hg hi hlen hdec hbv hnf hrep
  simp only [gateOk, absNeg, Bool.and_eq_true, Bool.or_eq_true, bne_iff_ne, ne_eq] at hg
  refine ⟨fun b hb => ?_, fun hc => hg.2.resolve_left (fun h => h hc), List.contains_iff_mem.1 hi, hlen, hdec, hbv, hnf,
    hrep, fun k hk => ?_, (of_decide_eq_true hv).2.1, of_decide_eq_true hv⟩
  · have := hg.1; rw [hb] at this; exact this
  · rw [hk] at ha
    by_cases hs : hdr.size = k
    · exact hs
    · simp [hs] at ha

/-- the entry of the Spec's tables that demands what the guard checks -/
def covered (code : Nat) : Guard → Bool
  | .proto b => gate code == some b
  | .virtio b => code == 18 && b == 30
  | .sizeIs .zero => fixedSize code == some 0
  | .sizeIs .any => true
  | .sizeIs (.ofT ty) => (structSize ty).isSome && fixedSize code == structSize ty
  | .body ty => (structSize ty).isSome && fixedSize code == structSize ty && bodyArms.contains (code, ty)
  | .oneFile _ => [6, 32, 37, 42].contains code
  | .vringFd => [12, 13, 14].contains code
  | .enable01 => code == 18

theorem arms_covered : ∀ a ∈ arms, ∀ gd ∈ a.guards, covered a.code gd = true := by decide +kernel

theorem Facts.sizeOk {st : BSt} {hdr : Hdr} {buf : Bytes} {files : Option (List Fd)} (F : Facts st hdr buf files)
    {n : Nat} (h : hdr.size = n) : checkSize hdr buf.length n = true := by
  simp [checkSize, h, F.len, Hdr.isReply, bitSet, F.notReply]

/-- what the guards of an arm need of a request, in the model's vocabulary: the walk over `covered` uses nothing else -/
structure Passes (st : BSt) (hdr : Hdr) (buf : Bytes) (files : Option (List Fd)) : Prop where
  proto : ∀ b, gate hdr.code = some b → bitSet st.ackedProto b = true
  virtio : hdr.code = 18 → bitSet st.acked 30 = true
  sizeOk : ∀ n, hdr.size = n ∨ fixedSize hdr.code = some n → checkSize hdr buf.length n = true
  valid : ∀ ty n, (hdr.code, ty) ∈ bodyArms → structSize ty = some n → fixedSize hdr.code = some n →
    Model.BackendSrv.bodyValid ty buf = some true
  nfds : (files.getD []).length = filesPrescribed hdr.code buf
  enable : hdr.code = 18 → g buf "VhostUserVringState" ["num"] ≤ 1

theorem Passes.holds {st : BSt} {hdr : Hdr} {buf : Bytes} {files : Option (List Fd)} (P : Passes st hdr buf files)
    {gd : Guard} (hc : covered hdr.code gd = true) : holds st hdr buf files gd := by
  cases gd with
  | proto b => exact P.proto b (eq_of_beq hc)
  | virtio b =>
    simp only [covered, Bool.and_eq_true, beq_iff_eq] at hc
    rw [hc.2]; exact P.virtio hc.1
  | sizeIs s =>
    cases s with
    | zero => exact P.sizeOk 0 (.inr (eq_of_beq hc))
    | any => exact P.sizeOk _ (.inl rfl)
    | ofT ty =>
      simp only [covered, Bool.and_eq_true, beq_iff_eq, Option.isSome_iff_exists] at hc
      obtain ⟨⟨n, hn⟩, hfix⟩ := hc
      exact ⟨n, hn, P.sizeOk n (.inr (hfix.trans hn))⟩
  | body ty =>
    simp only [covered, Bool.and_eq_true, beq_iff_eq, Option.isSome_iff_exists, List.contains_iff_mem] at hc
    obtain ⟨⟨⟨n, hn⟩, hfix⟩, hmem⟩ := hc
    exact ⟨n, hn, P.sizeOk n (.inr (hfix.trans hn)), P.valid ty n hmem hn (hfix.trans hn)⟩
  | oneFile e =>
    simp only [covered, List.contains_iff_mem, List.mem_cons, List.mem_nil_iff, or_false] at hc
    have hn := P.nfds
    rcases hc with hc | hc | hc | hc <;> rw [hc] at hn <;> exact hn
  | vringFd =>
    simp only [covered, List.contains_iff_mem, List.mem_cons, List.mem_nil_iff, or_false] at hc
    have h8 : buf.length = 8 := checkSize_len (P.sizeOk 8 (.inr (by rcases hc with hc | hc | hc <;> rw [hc] <;> rfl)))
    have hv : fld buf "VhostUserU64" ["value"] = leVal (buf.take 8) := by
      rw [fld_u64_value (by omega)]
    have hn := P.nfds
    refine ⟨by omega, ?_⟩
    rcases hc with hc | hc | hc <;> rw [hc] at hn <;> simp only [filesPrescribed, hv] at hn <;> exact hn
  | enable01 => exact P.enable (eq_of_beq hc)

theorem Facts.passes {st : BSt} {hdr : Hdr} {buf : Bytes} {files : Option (List Fd)} (F : Facts st hdr buf files)
    {gd : Guard} (hc : covered hdr.code gd = true) : holds st hdr buf files gd := by
  refine Passes.holds ⟨F.proto, F.virtio, fun n hn => F.sizeOk (hn.elim id (F.fixed n)), fun ty n hmem hn hfix => ?_,
    F.nfds, fun h18 => ?_⟩ hc
  · rw [body_guard hmem (by rw [hn, F.len, F.fixed n hfix]), F.valid, Bool.or_true]
  · have hv := F.valid
    rw [h18] at hv
    show g buf "VhostUserVringState" ["num"] ≤ 1
    simpa only [Spec.Proto.bodyValid, fld_vstate, decide_eq_true_eq] using hv

/-! ### the statement about the outcome of an accepted request -/

/-- the bytes (and descriptor count) written satisfy the Spec's requirement -/
def Sat (hdr : Hdr) (o : Out) : Owed → Prop
  | .nothing => o.out = [] ∧ o.outFds = 0
  | .exact p k => o.out = replyHdr hdr p.length ++ p ∧ o.outFds = k
  | .ack zero => ∃ v, v < 2^64 ∧ o.out = replyHdr hdr 8 ++ leBytes 8 v ∧ (v = 0 ↔ zero = true) ∧ o.outFds = 0
  | .status okb k => ∃ v, v < 2^64 ∧ o.out = replyHdr hdr 8 ++ leBytes 8 v ∧ (v % 256 = 0 ↔ okb = true) ∧ o.outFds = k

/-- the handler invocation `Spec.Proto.expectedCall` prescribes; the files are the request's when the call uses them -/
def callOf (r : Req) (files : Option (List Fd)) : Call :=
  let e := expectedCall r
  ⟨e.1, e.2.1, e.2.2.1, if e.2.2.2 then files.getD [] else []⟩

/-- the requests whose handler call is given the received descriptors -/
def usesCodes : List Nat := [5, 12, 13, 14, 6, 21, 32, 33, 37, 42]

/-- of the outcome of a request: call as expected ∧ reply as owed ∧ negotiation state commutes -/
def Good (st : BSt) (hdr : Hdr) (buf : Bytes) (files : Option (List Fd)) (h : Model.BackendSrv.HOut) (o : Out) : Prop :=
  o.calls = [callOf (reqOf hdr buf files) files] ∧
  Sat hdr o (owed (absNeg st) (reqOf hdr buf files) (hOut h)) ∧
  absNeg o.st = updateNeg (absNeg st) (reqOf hdr buf files) (hOut h)

end Lemmas.OwedGuards
