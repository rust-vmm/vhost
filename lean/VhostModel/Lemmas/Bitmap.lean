import VhostModel.Model.Bitmap
import VhostModel.Spec.DirtyLog
/-! helper lemmas for C15: bits of log bytes, effect of `fetch_or` sequences, the steps of the mark loop -/
namespace Lemmas.Bitmap
open Model.Bitmap
open Spec.DirtyLog (LoggedExactly)

/-- bit `j` of byte `i` of the log (false outside) -/
def byteBit (log : List UInt8) (i j : Nat) : Bool :=
  match log[i]? with
  | some b => b.toNat.testBit j
  | none => false

theorem bitAt_eq (log : List UInt8) (p : Nat) : Spec.DirtyLog.bitAt log p = byteBit log (p / 8) (p % 8) := rfl

/-- a step hits bit `j` of byte `i` -/
def hits (i j : Nat) (s : Step) : Bool := s.idx == i && s.mask.toNat.testBit j

theorem uint8_testBit_ge (b : UInt8) (j : Nat) (h : 8 ≤ j) : b.toNat.testBit j = false := by
  apply Nat.testBit_lt_two_pow
  exact Nat.lt_of_lt_of_le b.toNat_lt (Nat.pow_le_pow_right (by omega) h)

theorem log_ext (l1 l2 : List UInt8) (hl : l1.length = l2.length)
    (h : ∀ i j, byteBit l1 i j = byteBit l2 i j) : l1 = l2 := by
  apply List.ext_getElem hl
  intro i h1 h2
  apply UInt8.toNat_inj.1
  apply Nat.eq_of_testBit_eq
  intro j
  simpa [byteBit, h1, h2] using h i j

theorem fetchOr_spec (log : List UInt8) (s : Step) (h : s.idx < log.length) :
    ∃ log', fetchOr log s = some log' ∧ log'.length = log.length ∧
      ∀ i j, byteBit log' i j = (byteBit log i j || hits i j s) := by
  unfold fetchOr
  rw [List.getElem?_eq_getElem h]
  refine ⟨_, rfl, by simp, ?_⟩
  intro i j
  unfold byteBit hits
  rw [List.getElem?_set]
  by_cases e : s.idx = i
  · subst e
    simp [h, UInt8.toNat_or, Nat.testBit_or]
  · simp [e]

theorem fetchOr_none (log : List UInt8) (s : Step) (h : ¬ s.idx < log.length) : fetchOr log s = none := by
  unfold fetchOr
  rw [List.getElem?_eq_none (Nat.le_of_not_lt h)]

/-- a sequence of in-bounds `fetch_or`s: every bit is the old bit OR "some step hit it"; nothing else changes -/
theorem runSteps_spec (steps : List Step) (log : List UInt8) (h : ∀ s ∈ steps, s.idx < log.length) :
    ∃ log', runSteps log steps = some log' ∧ log'.length = log.length ∧
      ∀ i j, byteBit log' i j = (byteBit log i j || steps.any (hits i j)) := by
  induction steps generalizing log with
  | nil => exact ⟨log, rfl, rfl, by simp⟩
  | cons s rest ih =>
    obtain ⟨l1, h1, hl1, hb1⟩ := fetchOr_spec log s (h s (by simp))
    obtain ⟨l2, h2, hl2, hb2⟩ := ih l1 (by intro t ht; rw [hl1]; exact h t (by simp [ht]))
    refine ⟨l2, by simp [runSteps, h1, h2], by omega, ?_⟩
    intro i j
    rw [hb2, hb1]
    simp [Bool.or_assoc]

theorem bitMask_testBit (k j : Nat) (hk : k < 8) : (bitMask k).toNat.testBit j = decide (k = j) := by
  unfold bitMask
  rw [UInt8.toNat_ofNat']
  have : 2 ^ k < 2 ^ 8 := Nat.pow_lt_pow_right (by omega) hk
  rw [Nat.mod_eq_of_lt this, Nat.testBit_two_pow]

/-- the step that marks absolute page `P` -/
def stepOf (P : Nat) : Step := { idx := pageWord P, mask := bitMask (pageBit P) }

/-- the step for page `Q` hits the log bit of page `P` iff `Q = P` -/
theorem hits_stepOf (P Q : Nat) : hits (P / 8) (P % 8) (stepOf Q) = decide (Q = P) := by
  simp only [hits, stepOf, pageWord, pageBit, logWordSize]
  rw [bitMask_testBit _ _ (Nat.mod_lt _ (by decide)), Bool.eq_iff_iff]
  simp only [Bool.and_eq_true, beq_iff_eq, decide_eq_true_eq]
  omega

/-- in-bounds `fetch_or`s, one per page `f p` with `C p`: the log afterwards is the log before with exactly those
pages set -/
theorem runSteps_logged (steps : List Step) (C : Nat → Prop) (f : Nat → Nat) (log : List UInt8)
    (hs : ∀ s, s ∈ steps ↔ ∃ p, C p ∧ s = stepOf (f p)) (hin : ∀ s ∈ steps, s.idx < log.length) :
    ∃ log', runSteps log steps = some log' ∧ LoggedExactly log log' (fun P => ∃ p, C p ∧ f p = P) := by
  obtain ⟨log', hrun, hlen, hbits⟩ := runSteps_spec steps log hin
  refine ⟨log', hrun, hlen, fun P _ => ?_⟩
  rw [bitAt_eq, bitAt_eq, hbits, Bool.or_eq_true, List.any_eq_true]
  apply or_congr Iff.rfl
  constructor
  · rintro ⟨s, hm, hh⟩
    obtain ⟨p, hc, rfl⟩ := (hs s).1 hm
    rw [hits_stepOf] at hh
    exact ⟨p, hc, of_decide_eq_true hh⟩
  · rintro ⟨p, hc, rfl⟩
    exact ⟨_, (hs _).2 ⟨p, hc, rfl⟩, by rw [hits_stepOf]; exact decide_eq_true rfl⟩

/-- the model's loop is "range, cut at the first page outside the region, one step per page" -/
theorem markLoop_eq_takeWhile (bm : AtomicBitmapMmap) (k p : Nat) :
    markLoop bm k p =
      ((List.range' p k).takeWhile (fun q => decide (q < bm.numberOfPages))).map
        (fun q => stepOf (bm.pagesBeforeRegion + q)) := by
  induction k generalizing p with
  | zero => simp [markLoop]
  | succ k ih =>
    unfold markLoop
    rw [List.range'_succ, List.takeWhile_cons]
    by_cases h : p ≥ bm.numberOfPages
    · have h' : ¬ p < bm.numberOfPages := by omega
      simp [h, h']
    · have h' : p < bm.numberOfPages := by omega
      simp only [h, if_false, h', decide_true, if_true, List.map_cons, ih]
      rfl

theorem mem_markLoop (bm : AtomicBitmapMmap) (k page : Nat) (s : Step) :
    s ∈ markLoop bm k page ↔
      ∃ p, page ≤ p ∧ p < page + k ∧ p < bm.numberOfPages ∧ s = stepOf (bm.pagesBeforeRegion + p) := by
  induction k generalizing page with
  | zero =>
    simp only [markLoop, List.not_mem_nil, false_iff]
    rintro ⟨p, h1, h2, _, _⟩; omega
  | succ k ih =>
    unfold markLoop
    by_cases hb : page ≥ bm.numberOfPages
    · simp only [hb, if_true, List.not_mem_nil, false_iff]
      rintro ⟨p, h1, _, h3, _⟩; omega
    · simp only [hb, if_false, List.mem_cons, ih]
      constructor
      · rintro (h | ⟨p, h1, h2, h3, h4⟩)
        · exact ⟨page, by omega, by omega, by omega, h⟩
        · exact ⟨p, by omega, by omega, h3, h4⟩
      · rintro ⟨p, h1, h2, h3, h4⟩
        by_cases e : p = page
        · subst e; left; exact h4
        · right; exact ⟨p, by omega, by omega, h3, h4⟩

end Lemmas.Bitmap
