import VhostModel.Model.HandlerTable
/-!
# The entries of `Model.HandlerTable` by name

Each row, condition and value that the four readings of the table run through is looked up once, here; the lemmas of
`namespace Lemmas.HandlerVring` among them stand in this file so that the other three readings can use them.
-/
namespace Lemmas.HandlerTable
open Base Model.HandlerTable

theorem rowOf_cons (k : String) (es : List HEvent) (t : List HRow) (n : String) :
    rowOf ((k, es) :: t) n = if n = k then es else rowOf t n := by
  by_cases h : n = k
  · simp [rowOf, h]
  · simp [rowOf, List.lookup_cons, beq_false_of_ne h, h]

theorem boolOf_cons (k : String) (v : (HIn → Bool) × (HIn → Bool)) (t : List HBoolExpr) (id : String) :
    boolOf ((k, v) :: t) id = if id = k then v.1 else boolOf t id := by
  by_cases h : id = k
  · simp [boolOf, h]
  · simp [boolOf, List.lookup_cons, beq_false_of_ne h, h]

theorem natOf_cons (k : String) (v : (HIn → Nat) × (HIn → Bool)) (t : List HNatExpr) (id : String) :
    natOf ((k, v) :: t) id = if id = k then v.1 else natOf t id := by
  by_cases h : id = k
  · simp [natOf, h]
  · simp [natOf, List.lookup_cons, beq_false_of_ne h, h]

/-- A lookup by rewriting along the table: `rfl` would compare two string literals by UTF-8 encoding both, where
`String.reduceEq` has the kernel look at the first differing character. -/
macro "table_lookup" : tactic =>
  `(tactic| simp only [row, val, Model.HandlerTable.cond, modelHandlerOps, modelBoolExprs, modelNatExprs, needsInit,
      rowOf_cons, boolOf_cons, natOf_cons, String.reduceEq, if_false, if_true])

theorem row_set_features : row "set_features" = [
    .valueCheck "(features & !self.backend.features()) != 0" "InvalidParam",
    .setField "acked_features" "features", .setField "features_acked" "true",
    .ifCond "self.acked_features & VhostUserVirtioFeatures::PROTOCOL_FEATURES.bits() == 0"
      [.forEachVring [.vringCall "set_enabled" ["true"], updateReg "index as u8"]] [],
    .bind "event_idx" "(self.acked_features & (1 << VIRTIO_RING_F_EVENT_IDX)) != 0",
    .forEachVring [.vringCall "set_queue_event_idx" ["event_idx"]],
    .backendCall "set_event_idx" ["event_idx"], .backendCall "acked_features" ["self.acked_features"], .ok] := by table_lookup

theorem cond_subset : cond "(features & !self.backend.features()) != 0" =
    (fun x => ((x.features &&& (18446744073709551615 - x.backend_features)) != 0)) := by table_lookup

theorem row_reset_device : row "reset_device" = [
    .forEachVring [.vringCall "set_enabled" ["false"], updateReg "index as u8"],
    .setField "features_acked" "false", .setField "acked_features" "0",
    .backendCall "reset_device" [], .ok] := by table_lookup

def tableBody : List HEvent := [
  .libTry "mmap_region" "*", .libTry "GuestRegionMmap::new" "ReqHandlerError", logRegion,
  .localPush "mappings" addrMappingLit, .localPush "regions" "guest_region"]

def buildBody : List HEvent := [.libTry "InnerBitmap::new" "ReqHandlerError", .localPush "bitmaps" "(region, bitmap)"]

theorem row_set_mem_table : row "set_mem_table" = [
    .localNew "regions", .localNew "mappings",
    .forEach "ctx.iter().zip(files)" tableBody,
    .libTry "GuestMemoryMmap::from_regions" "ReqHandlerError",
    .memReplace,
    .backendTry "update_memory" ["self.atomic_mem.clone()"] "ReqHandlerError",
    .mappingsAssign, .ok] := by table_lookup; rfl

theorem row_add_mem_region : row "add_mem_region" = [
    .libTry "mmap_region" "*", .libTry "GuestRegionMmap::new" "ReqHandlerError", logRegion,
    .bind "addr_mapping" addrMappingLit,
    .libTry "insert_region" "ReqHandlerError",
    .memReplace,
    .backendTry "update_memory" ["self.atomic_mem.clone()"] "ReqHandlerError",
    .mappingsPush "addr_mapping", .ok] := by table_lookup

theorem row_remove_mem_region : row "remove_mem_region" = [
    .libTry "remove_region" "ReqHandlerError",
    .memReplace,
    .backendTry "update_memory" ["self.atomic_mem.clone()"] "ReqHandlerError",
    .mappingsRetain "mapping.gpa_base != region.guest_phys_addr", .ok] := by table_lookup

theorem row_set_log_base : row "set_log_base" = [
    .bind "mem" "self.atomic_mem.memory()",
    .libTry "MmapLogReg::from_file" "ReqHandlerError",
    .localNew "bitmaps",
    .forEach "mem.iter()" buildBody,
    .forEach "bitmaps" [.bitmapReplace],
    .logAssign, .ok] := by table_lookup; rfl

end Lemmas.HandlerTable

namespace Lemmas.HandlerVring
open Base Model.HandlerTable Lemmas.HandlerTable

theorem row_set_vring_num : row "set_vring_num" = [
    .indexBound "InvalidParam", .valueCheck "num == 0 || num as usize > self.max_queue_size" "InvalidParam",
    .vringCall "set_queue_size" ["num as u16"], .ok] := by table_lookup

theorem row_set_vring_addr : row "set_vring_addr" = [
    .indexBound "InvalidParam",
    .ifCond "!self.mappings.is_empty()" [
      .addrTranslate "descriptor" "ReqHandlerError" "desc_table", .addrTranslate "available" "ReqHandlerError" "avail_ring",
      .addrTranslate "used" "ReqHandlerError" "used_ring",
      .vringTry "set_queue_info" ["desc_table", "avail_ring", "used_ring"] "InvalidParam" "",
      .vringTry "queue_used_idx" [] "BackendInternalError" "idx",
      .vringCall "set_queue_next_used" ["idx"], .ok]
      [.err "InvalidParam"]] := by table_lookup

theorem row_set_vring_base : row "set_vring_base" =
    [.indexBound "InvalidParam", .vringCall "set_queue_next_avail" ["base as u16"], .ok] := by table_lookup

theorem row_get_vring_base : row "get_vring_base" = [
    .indexBound "InvalidParam", .vringCall "set_queue_ready" ["false"], updateReg "index as u8",
    .vringGet "queue_next_avail" "next_avail",
    .vringCall "set_kick" ["None"], .vringCall "set_call" ["None"],
    .okValue "VhostUserVringState::new(index, u32::from(next_avail))"] := by table_lookup

theorem row_set_vring_kick : row "set_vring_kick" = [
    .indexBound "InvalidParam",
    .helperCall "unregister_vring_kick" ["vring", "index"] false unregisterKickBody,
    .vringCall "set_kick" ["file"],
    .ifCond needsInit [initializeVring] [updateReg "index"],
    .ok] := by table_lookup

theorem row_set_vring_call : row "set_vring_call" = [
    .indexBound "InvalidParam", .vringCall "set_call" ["file"], .ifCond needsInit [initializeVring] [], .ok] := by table_lookup

theorem row_set_vring_err : row "set_vring_err" = [.indexBound "InvalidParam", .vringCall "set_err" ["file"], .ok] := by table_lookup

theorem row_set_vring_enable : row "set_vring_enable" = [
    .helperCall "check_feature" ["VhostUserVirtioFeatures::PROTOCOL_FEATURES"] true [.featureAcked 30 "InactiveFeature"],
    .indexBound "InvalidParam", .vringCall "set_enabled" ["enable"], updateReg "index as u8", .ok] := by table_lookup

theorem row_set_protocol_features : row "set_protocol_features" =
    [.setField "acked_protocol_features" "features", .ok] := by table_lookup

theorem row_set_backend_req_fd : row "set_backend_req_fd" = [
    .ifCond "self.acked_protocol_features & VhostUserProtocolFeatures::REPLY_ACK.bits() != 0"
      [.channelCall "set_reply_ack_flag" ["true"]] [],
    .ifCond "self.acked_protocol_features & VhostUserProtocolFeatures::SHARED_OBJECT.bits() != 0"
      [.channelCall "set_shared_object_flag" ["true"]] [],
    .ifCond "self.acked_protocol_features & VhostUserProtocolFeatures::SHMEM.bits() != 0"
      [.channelCall "set_shmem_flag" ["true"]] [],
    .backendCall "set_backend_req_fd" ["backend"], .done] := by table_lookup

theorem cond_num : cond "num == 0 || num as usize > self.max_queue_size" =
    (fun x => ((x.num == 0) || (decide (x.num > x.max_queue_size)))) := by table_lookup
theorem cond_mappings : cond "!self.mappings.is_empty()" = (fun x => !x.mappings_empty) := by table_lookup
theorem cond_needsInit : cond needsInit = (fun x => ((!x.ring_ready) && x.ring_kick_some)) := by table_lookup
theorem cond_true : cond "true" = (fun _ => true) := by table_lookup
theorem cond_false : cond "false" = (fun _ => false) := by table_lookup
theorem cond_enable : cond "enable" = (fun x => x.enable) := by table_lookup
theorem cond_replyAck : cond "self.acked_protocol_features & VhostUserProtocolFeatures::REPLY_ACK.bits() != 0" =
    (fun x => ((x.acked_protocol_features &&& 0x8) != 0)) := by table_lookup
theorem cond_sharedObject : cond "self.acked_protocol_features & VhostUserProtocolFeatures::SHARED_OBJECT.bits() != 0" =
    (fun x => ((x.acked_protocol_features &&& 0x40000) != 0)) := by table_lookup
theorem cond_shmem : cond "self.acked_protocol_features & VhostUserProtocolFeatures::SHMEM.bits() != 0" =
    (fun x => ((x.acked_protocol_features &&& 0x200000) != 0)) := by table_lookup
theorem val_num16 : val "num as u16" = (fun x => x.num % 65536) := by table_lookup
theorem val_base16 : val "base as u16" = (fun x => x.base % 65536) := by table_lookup
theorem val_descriptor : val "descriptor" = (fun x => x.descriptor) := by table_lookup
theorem val_available : val "available" = (fun x => x.available) := by table_lookup
theorem val_used : val "used" = (fun x => x.used) := by table_lookup
theorem val_desc_table : val "desc_table" = (fun x => x.desc_table) := by table_lookup
theorem val_avail_ring : val "avail_ring" = (fun x => x.avail_ring) := by table_lookup
theorem val_used_ring : val "used_ring" = (fun x => x.used_ring) := by table_lookup
theorem val_idx : val "idx" = (fun x => x.idx) := by table_lookup
theorem val_features : val "features" = (fun x => x.features) := by table_lookup

theorem cond_noProto : cond "self.acked_features & VhostUserVirtioFeatures::PROTOCOL_FEATURES.bits() == 0" =
    (fun x => ((x.acked_features &&& 0x40000000) == 0)) := by table_lookup
theorem cond_event_idx : cond "event_idx" = (fun x => ((x.acked_features &&& 0x20000000) != 0)) := by table_lookup
theorem val_acked : val "self.acked_features" = (fun x => x.acked_features) := by table_lookup

end Lemmas.HandlerVring
