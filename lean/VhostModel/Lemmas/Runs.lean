/-! Runs of a partial step function `step : σ → ℓ → Option σ`: the four transition systems of the development
(`Model.Worker`, `Model.Shutdown`, `Model.Shutdown.TD`, `Model.Locks`) each define `run` by the same two equations; what
follows from those equations alone is said here once (`IsRun`).  No state type, label type or invariant is mentioned. -/
namespace Lemmas.Runs

variable {σ ℓ : Type} {step : σ → ℓ → Option σ} {run : σ → List ℓ → Option σ}

/-- `run` iterates `step` along a list of labels and fails where a label is not enabled -/
structure IsRun (step : σ → ℓ → Option σ) (run : σ → List ℓ → Option σ) : Prop where
  nil : ∀ s, run s [] = some s
  cons : ∀ s l ls, run s (l :: ls) = (step s l).bind fun s1 => run s1 ls

namespace IsRun
variable (R : IsRun step run) {s s' : σ} {l : ℓ} {ls : List ℓ}
include R

theorem cons_some : run s (l :: ls) = some s' ↔ ∃ s1, step s l = some s1 ∧ run s1 ls = some s' := by
  rw [R.cons]
  cases step s l with
  | none => exact ⟨nofun, fun ⟨_, h, _⟩ => nomatch h⟩
  | some a => exact ⟨fun h => ⟨a, rfl, h⟩, fun ⟨_, e, h⟩ => by cases e; exact h⟩

/-- A predicate kept by every step with a label in `L` holds after every run over such labels. -/
theorem inv_on {P : σ → Prop} {L : ℓ → Prop} (hstep : ∀ s s' l, L l → P s → step s l = some s' → P s')
    (hl : ∀ l ∈ ls, L l) (hp : P s) (h : run s ls = some s') : P s' := by
  induction ls generalizing s with
  | nil => rw [R.nil] at h; cases h; exact hp
  | cons l ls ih =>
    obtain ⟨s1, h1, h2⟩ := R.cons_some.1 h
    exact ih (fun l' m => hl l' (.tail _ m)) (hstep s s1 l (hl l (.head _)) hp h1) h2

theorem inv {P : σ → Prop} (hstep : ∀ s s' l, P s → step s l = some s' → P s') (hp : P s) (h : run s ls = some s') :
    P s' :=
  R.inv_on (L := fun _ => True) (fun s s' l _ => hstep s s' l) (fun _ _ => trivial) hp h

/-- Counting down: while `P` holds no step raises `μ` and every step with a label in `p` lowers it, so a run from `s`
takes at most `μ s - μ s'` such steps. -/
theorem descent {P : σ → Prop} (p : ℓ → Bool) (μ : σ → Nat)
    (hstep : ∀ s s' l, P s → step s l = some s' → P s' ∧ μ s' ≤ μ s ∧ (p l = true → μ s' < μ s))
    (hp : P s) (h : run s ls = some s') : (ls.filter p).length + μ s' ≤ μ s := by
  induction ls generalizing s with
  | nil => rw [R.nil] at h; cases h; simp
  | cons l ls ih =>
    obtain ⟨s1, h1, h2⟩ := R.cons_some.1 h
    obtain ⟨p1, le, lt⟩ := hstep s s1 l hp h1
    have := ih p1 h2
    cases hl : p l
    · rw [List.filter_cons_of_neg (by simp [hl])]; omega
    · have := lt hl
      rw [List.filter_cons_of_pos hl, List.length_cons]; omega

/-- … every step lowers it: no run is longer than `μ s`. -/
theorem length_le {P : σ → Prop} (μ : σ → Nat)
    (hstep : ∀ s s' l, P s → step s l = some s' → P s' ∧ μ s' < μ s) (hp : P s) (h : run s ls = some s') :
    ls.length + μ s' ≤ μ s := by
  have := R.descent (fun _ => true) μ
    (fun s s' l hp hs => have ⟨p', lt⟩ := hstep s s' l hp hs; ⟨p', Nat.le_of_lt lt, fun _ => lt⟩) hp h
  rwa [List.filter_eq_self.2 fun _ _ => rfl] at this

end IsRun

end Lemmas.Runs
