import VhostModel.Lemmas.ConnSub

/-!
# `recv_into_iovec_all`: the interpreted loop against `Model.Stream.recvAll`

`optOf` reads the model's descriptor list as the source's `Option<Vec<File>>`.
-/
namespace Lemmas.ConnRecv
open Imp Gen.ConnLoops Model.Endpoint Lemmas.ConnSub Lemmas.Stream
open Model.Stream (Cell Chooser clampK recvAll recvData RecvAll RecvData)

/-- `Option<Vec<File>>` as `recv_into_iovec` builds it: `None` for no descriptor -/
def optOf (l : List Fd) : Option (List Fd) := if l.isEmpty then none else some l

theorem optOf_getD (l : List Fd) : (optOf l).getD [] = l := by
  unfold optOf; cases l <;> simp

theorem optOf_nil : optOf [] = none := rfl

/-- what an iteration leaves alone: `data_total`, `iov_lens`, `iovs` -/
def Keep (fr fr' : Frame) : Prop := fr'.n 1 = fr.n 1 ∧ fr'.l 0 = fr.l 0 ∧ fr'.io 0 = fr.io 0

section body
variable {σ : Type} (env : Env σ) (F : Nat) (fr : Frame) (w : World σ)

/-- one iteration of the loop of `recv_into_iovec_all`, by the `recvmsg` it performs.  `Imp.primRecv` yields no errno but
`ENOBUFS` (`MSG_CTRUNC`), which is retried. -/
theorem body_spec (hcl : env.classify ENOBUFS = .retry) (hl : fr.l 0 = (fr.io 0).lens) (hp : fr.n 0 < (fr.io 0).lens.sum)
    {c : Ctl} {fr' : Frame} {w' : World σ} (hx : exec env RecvIntoIovecAll.whileBody F fr w = (c, fr', w')) :
    match read env.ch env.isClosed ((fr.io 0).lens.sum - fr.n 0) w.cst w.stream with
    | .blocked => c = .stuck .blocked ∧ fr'.n 0 = fr.n 0 ∧ fr'.f 0 = fr.f 0 ∧ w' = w
    | .eof => c = .done (.ok { nats := [fr.n 0], fds := fr.f 0 }) ∧ w' = w
    | .got chunk rest st' =>
      c = .normal ∧ Keep fr fr' ∧
      if (chunk.flatMap (·.fds)).length > 32 then
        fr'.n 0 = fr.n 0 ∧ fr'.f 0 = fr.f 0 ∧
        w' = { w with stream := rest, cst := st', closed := w.closed ++ chunk.flatMap (·.fds) }
      else
        fr'.n 0 = fr.n 0 + chunk.length ∧ fr'.f 0 = (if fr.n 0 = 0 then optOf (chunk.flatMap (·.fds)) else fr.f 0) ∧
        w' = { w with stream := rest, cst := st',
                      mem := w.mem.set (fr.io 0).store (writeAt (w.mem.getD (fr.io 0).store []) ((fr.io 0).start + fr.n 0) (chunk.map (·.b))),
                      closed := w.closed ++ (if fr.n 0 = 0 then (fr.f 0).getD [] else chunk.flatMap (·.fds)) } := by
  obtain ⟨q1, q2, v, hv1, hv2, hv3, _, hex⟩ := exec_suffix env "get_sub_iovs_offset" RecvIntoIovecAll.data_read
    RecvIntoIovecAll.nr_skip RecvIntoIovecAll.offset RecvIntoIovecAll.iov_lens RecvIntoIovecAll.r_nr_skip RecvIntoIovecAll.iovs
    RecvIntoIovecAll.data (by decide) _ F fr w hl hp
  have hw : (fr.io 0).lens.sum - fr.n 0 ≠ 0 := by omega
  rw [RecvIntoIovecAll.whileBody, hex, exec_seq, exec_callRecv] at hx
  clear hex
  simp only [evalE, upd_apply, reduceIte, hv1, hv2, hv3, primRecv_read env w _ _ _ hw] at hx
  cases hr : read env.ch env.isClosed ((fr.io 0).lens.sum - fr.n 0) w.cst w.stream with
  | blocked =>
    simp only [hr] at hx
    obtain ⟨rfl, rfl, rfl⟩ := hx
    exact ⟨rfl, rfl, rfl, rfl⟩
  | eof =>
    simp only [hr] at hx
    simp [exec_matchResult, RVal.into, evalB, evalE, evalEs, evalF] at hx
    obtain ⟨rfl, rfl, rfl⟩ := hx
    simp
  | got chunk rest st' =>
    simp only [hr] at hx ⊢
    have hk : chunk.length ≠ 0 := Nat.ne_of_gt (read_got hw hr).2.1
    by_cases hgt : (chunk.flatMap (·.fds)).length > 32
    · rw [if_pos hgt] at hx ⊢
      simp [exec_matchResult, exec_matchErr, RVal.into, Err.into, hcl] at hx
      obtain ⟨rfl, rfl, rfl⟩ := hx
      simp [Keep]
    · rw [if_neg hgt, show (if (chunk.flatMap (·.fds)).isEmpty then none else some (chunk.flatMap (·.fds))) = optOf (chunk.flatMap (·.fds))
        from rfl] at hx
      rw [if_neg hgt]
      by_cases h0 : fr.n 0 = 0 <;>
        simp [exec_matchResult, RVal.into, evalB, evalE, evalF, hk, h0] at hx <;>
        obtain ⟨rfl, rfl, rfl⟩ := hx <;> simp [Keep, h0, optOf_getD]
end body

section loop
variable {σ : Type} (env : Env σ) (F : Nat)

/-- `iovs` views the whole of store `store`; `rfds` is empty before the first successful read and never `Some(vec![])` -/
def LoopInv (lens : List Nat) (store : Nat) (fr : Frame) (w : World σ) : Prop :=
  fr.l 0 = lens ∧ fr.io 0 = { store := store, start := 0, lens := lens } ∧ fr.n 1 = lens.sum ∧ fr.n 0 ≤ lens.sum ∧
  store < w.mem.length ∧ (w.mem.getD store []).length = lens.sum ∧
  (fr.n 0 = 0 → fr.f 0 = none) ∧ fr.f 0 = optOf ((fr.f 0).getD [])

/-- the loop entered at position `pos` with `rfds = rf` ends as the model's `R` says -/
def LoopPost (total store pos : Nat) (rf : Option (List Fd)) (w : World σ) (R : RecvAll σ) (res : Res σ) : Prop :=
  res.1 = (match R.outcome with
    | .done => .normal
    | .eof => .done (.ok { nats := [pos + R.bytes.length], fds := optOf (R.fds ++ rf.getD []) })
    | .blocked => .stuck .blocked) ∧
  res.2.2 = { w with stream := R.rest, cst := R.st, closed := w.closed ++ R.closed,
                     mem := w.mem.set store (writeAt (w.mem.getD store []) pos R.bytes) } ∧
  pos + R.bytes.length ≤ total ∧
  (R.outcome ≠ .eof → res.2.1.n 0 = pos + R.bytes.length ∧ res.2.1.f 0 = optOf (R.fds ++ rf.getD []))

theorem recv_loop (hcl : env.classify ENOBUFS = .retry) (lens : List Nat) (store : Nat) :
    ∀ (k : Nat) (fr : Frame) (w : World σ), LoopInv lens store fr w → w.stream.length < k →
      LoopPost lens.sum store (fr.n 0) (fr.f 0) w
        (recvAll env.ch 32 env.isClosed (lens.sum - fr.n 0) w.cst w.stream (decide (fr.n 0 = 0)))
        (loop (fun fr w => evalB env fr w.mem (.gt (.sub (.var RecvIntoIovecAll.data_total) (.var RecvIntoIovecAll.data_read)) (.lit 0)))
          (fun fr w => exec env RecvIntoIovecAll.whileBody F fr w) k fr w) := by
  apply loop_rule (LoopInv lens store) (fun fr _ => decide (fr.n 1 - fr.n 0 > 0)) (fun _ w => w.stream.length)
    (fun fr w r => LoopPost lens.sum store (fr.n 0) (fr.f 0) w
      (recvAll env.ch 32 env.isClosed (lens.sum - fr.n 0) w.cst w.stream (decide (fr.n 0 = 0))) r)
  · intro fr w ⟨_, _, ht, hle, _⟩
    simp only [evalB, evalE, ht, hle, if_true]
  · intro fr w ⟨hl, hio, ht, hle, hst, hfl, hf0, hf⟩ hz
    have : lens.sum - fr.n 0 = 0 := by have := of_decide_eq_false hz; omega
    simp only [this, recvAll_zero, LoopPost, set_writeAt_nil _ _ _ hst, List.append_nil, List.length_nil, Nat.add_zero, List.nil_append]
    exact ⟨trivial, trivial, hle, fun _ => ⟨trivial, hf⟩⟩
  · intro fr w ⟨hl, hio, ht, hle, hst, hfl, hf0, hf⟩ hz c fr' w' hx
    have hp : fr.n 0 < lens.sum := by have := of_decide_eq_true hz; omega
    have hspec := body_spec env F fr w hcl (by rw [hl, hio]) (by rw [hio]; exact hp) hx
    have hw : lens.sum - fr.n 0 ≠ 0 := by omega
    rw [hio] at hspec
    simp only [Nat.zero_add] at hspec
    rw [recvAll_read _ _ _ _ _ _ hw]
    -- the iteration and the model take the same `read`
    cases hr : read env.ch env.isClosed (lens.sum - fr.n 0) w.cst w.stream with
    | blocked =>
      simp only [hr] at hspec
      obtain ⟨rfl, a3, a4, rfl⟩ := hspec
      simp only [LoopPost, set_writeAt_nil _ _ _ hst, List.append_nil, List.length_nil, Nat.add_zero, List.nil_append]
      exact ⟨trivial, trivial, hle, fun _ => ⟨a3, by rw [a4]; exact hf⟩⟩
    | eof =>
      simp only [hr] at hspec
      obtain ⟨rfl, rfl⟩ := hspec
      simp only [LoopPost, set_writeAt_nil _ _ _ hst, List.append_nil, List.length_nil, Nat.add_zero, List.nil_append, ← hf]
      exact ⟨trivial, trivial, hle, fun h => absurd rfl h⟩
    | got chunk rest st' =>
      simp only [hr] at hspec ⊢
      obtain ⟨_, hk1, hk2, hm⟩ := read_got hw hr
      obtain ⟨rfl, ⟨k1, k2, k3⟩, hspec⟩ := hspec
      generalize hcf : chunk.flatMap (·.fds) = cf at hspec ⊢
      by_cases hgt : cf.length > 32
      · -- `MSG_CTRUNC`: the descriptors are closed, the bytes lost, `ENOBUFS` is retried
        rw [if_pos hgt] at hspec
        rw [if_pos hgt]
        obtain ⟨a3, a4, rfl⟩ := hspec
        refine ⟨⟨by rw [k2, hl], by rw [k3, hio], by rw [k1, ht], by rw [a3]; exact hle, hst, hfl, by rw [a3, a4]; exact hf0,
          by rw [a4]; exact hf⟩, hm, fun r => ?_⟩
        simp only [a3, a4]
        generalize recvAll env.ch 32 env.isClosed (lens.sum - fr.n 0) st' rest (decide (fr.n 0 = 0)) = R
        intro ⟨e0, e1, e2, e3⟩
        exact ⟨e0, by rw [e1]; simp only [List.append_assoc], e2, e3⟩
      · -- the chunk's descriptors are kept by the first read, closed by a later one
        have hlen : (chunk.map (·.b)).length = chunk.length := List.length_map _
        rw [if_neg hgt] at hspec
        rw [if_neg hgt]
        obtain ⟨a3, a4, rfl⟩ := hspec
        have hwl : fr.n 0 + chunk.length ≤ (w.mem.getD store []).length := by rw [hfl]; omega
        refine ⟨⟨by rw [k2, hl], by rw [k3, hio], by rw [k1, ht], by rw [a3]; omega, by rw [List.length_set]; exact hst, ?_,
          by rw [a3]; omega, by rw [a4]; split <;> first | rw [optOf_getD] | exact hf⟩, hm, fun r => ?_⟩
        · simp only []
          rw [getD_set_self _ _ _ hst, length_writeAt _ _ _ (by rw [hlen]; exact hwl), hfl]
        · have hnf : decide (fr.n 0 + chunk.length = 0) = false := decide_eq_false (by omega)
          simp only [a3, Nat.sub_add_eq, hnf]
          have hrf := recvAll_fds_nil_of_not_first env.ch 32 env.isClosed (lens.sum - fr.n 0 - chunk.length) st' rest false rfl
          generalize recvAll env.ch 32 env.isClosed (lens.sum - fr.n 0 - chunk.length) st' rest false = R at hrf ⊢
          intro ⟨e0, e1, e2, e3⟩
          have hfds : optOf (R.fds ++ (fr'.f 0).getD []) = optOf ((if decide (fr.n 0 = 0) = true then cf else R.fds) ++ (fr.f 0).getD []) := by
            rw [hrf, a4]
            by_cases h0 : fr.n 0 = 0
            · simp only [h0, hf0 h0, if_true, decide_true, optOf_getD, List.nil_append, Option.getD_none, List.append_nil]
            · simp only [h0, if_false, decide_false, Bool.false_eq_true]
          simp only [LoopPost, List.length_append, hlen, ← Nat.add_assoc, ← hfds]
          refine ⟨e0, ?_, e2, e3⟩
          rw [e1]
          simp only [set_writeAt_append _ _ _ _ _ hlen hst hwl, List.append_assoc]
          congr 2
          by_cases h0 : fr.n 0 = 0
          · simp only [h0, hf0 h0, if_true, decide_true, Option.getD_none]
          · simp only [h0, if_false, decide_false, Bool.false_eq_true]
end loop

/-- how `recv_into_iovec_all` ends, by the model's outcome -/
def allCtl {σ : Type} (R : RecvAll σ) : Ctl :=
  match R.outcome with
  | .blocked => .stuck .blocked
  | _ => .done (.ok { nats := [R.bytes.length], fds := optOf R.fds })

theorem allCtl_blocked {σ : Type} {R : RecvAll σ} (h : R.outcome = .blocked) : allCtl R = .stuck .blocked := by
  simp only [allCtl, h]

theorem allCtl_done {σ : Type} {R : RecvAll σ} (h : R.outcome ≠ .blocked) :
    allCtl R = .done (.ok { nats := [R.bytes.length], fds := optOf R.fds }) := by
  unfold allCtl
  split
  · contradiction
  · rfl

/-- socket, closed descriptors and heap after the read has written into store `store` from offset 0 -/
def allWorld {σ : Type} (store : Nat) (w : World σ) (R : RecvAll σ) : World σ :=
  { w with stream := R.rest, cst := R.st, closed := w.closed ++ R.closed,
           mem := w.mem.set store (writeAt (w.mem.getD store []) 0 R.bytes) }

/-- the whole of `recv_into_iovec_all` (`iovs` = iovec slot 0, a view from offset 0 of a store exactly as long as the
iovecs): the run is a function of the model's result.  On `blocked` the waiting activation holds the count in `data_read`
and the descriptors received so far in `rfds`.  Fuel: at least one more than the stream is long. -/
theorem recv_all_run {σ : Type} (env : Env σ) (F : Nat) (fr : Frame) (w : World σ)
    (hcl : env.classify ENOBUFS = .retry) (hF : w.stream.length + 1 ≤ F) (store : Nat) (lens : List Nat)
    (hio : fr.io RecvIntoIovecAll.iovs.id = ⟨store, 0, lens⟩)
    (hstore : store < w.mem.length) (hflat : (w.mem.getD store []).length = lens.sum)
    (R : RecvAll σ) (hR : R = recvAll env.ch 32 env.isClosed lens.sum w.cst w.stream true) :
    R.bytes.length ≤ lens.sum ∧
    ∃ fr', exec env RecvIntoIovecAll.fnBody F fr w = (allCtl R, fr', allWorld store w R) ∧
      (R.outcome = .blocked → fr'.n RecvIntoIovecAll.data_read.id = R.bytes.length ∧ fr'.f RecvIntoIovecAll.rfds.id = optOf R.fds) := by
  obtain ⟨fr2, hfl, g1, g2, g3, g4, g5, g6, g7⟩ := forLoop_sum env F RecvIntoIovecAll.len RecvIntoIovecAll.data_total (by decide) RecvIntoIovecAll.forBody rfl w
    lens { fr with n := upd (upd fr.n 0 0) 1 0, l := upd fr.l 0 lens, f := upd fr.f 0 none }
  have hres : exec env RecvIntoIovecAll.fnBody F fr w =
      exec env (.seq (.while (.gt (.sub (.var RecvIntoIovecAll.data_total) (.var RecvIntoIovecAll.data_read)) (.lit 0)) RecvIntoIovecAll.whileBody)
        (.ret [.var RecvIntoIovecAll.data_read] (.move RecvIntoIovecAll.rfds) [])) F fr2 w := by
    simp only [RecvIntoIovecAll.fnBody, exec_seq, exec_assign, exec_assignL, exec_assignF, evalF, evalE, evalL, exec_forIn,
      upd_apply, reduceIte, hio, hfl]
  rw [exec_seq, exec_while] at hres
  have h0 : fr2.n 0 = 0 := by rw [g2 0 (by decide) (by decide)]; simp
  have h4 : fr2.f 0 = none := by rw [g4]; simp
  have hI : LoopInv lens store fr2 w :=
    ⟨by rw [g3]; simp, by rw [g5]; exact hio, by rw [g1]; simp, by omega, hstore, hflat, fun _ => h4, by rw [h4]; rfl⟩
  have h := recv_loop env F hcl _ _ F fr2 w hI hF
  rw [h0, h4] at h
  generalize loop _ _ F fr2 w = r at h hres
  obtain ⟨c, fr3, w3⟩ := r
  obtain ⟨rfl, rfl, t5, t6⟩ := h
  simp only [Nat.sub_zero, Nat.zero_add, decide_true, Option.getD_none, List.append_nil, ← hR] at t5 t6 hres
  refine ⟨t5, ?_⟩
  rw [hres]
  -- the loop ended and `ret` hands out `data_read` and `rfds`, or the function stopped inside the loop
  cases ho : R.outcome with
  | done =>
    obtain ⟨u2, u3⟩ := t6 (by rw [ho]; exact Model.Stream.Outcome.noConfusion)
    exact ⟨_, by simp only [allCtl, ho, exec_ret, evalEs, evalE, evalF, u2, u3, List.map_nil]; rfl, fun hb => Model.Stream.Outcome.noConfusion hb⟩
  | eof => exact ⟨_, by simp only [allCtl, ho]; rfl, fun hb => Model.Stream.Outcome.noConfusion hb⟩
  | blocked => exact ⟨_, by simp only [allCtl, ho]; rfl, fun _ => t6 (by rw [ho]; exact Model.Stream.Outcome.noConfusion)⟩

end Lemmas.ConnRecv
