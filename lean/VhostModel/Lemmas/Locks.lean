import VhostModel.Spec.Locks
import VhostModel.Model.Locks
import VhostModel.Lemmas.Runs

/-!
# Lemmas for `Model.Locks` (C10)

* `Step` — `step` read as rules, one per enabled branch; every fact about a step is proved by cases on them;
  `Step.frame`: a step leaves alone what the invariants say of the callers it is not a step of.
* `Inv` — the lock and the wire: lock ⇔ program counters, at most one outstanding reply and it belongs to the lock
  holder, consumed tags are own tags, the history is accepted by `Spec.Locks.scan`; preserved rule by rule.
* the measure "remaining steps" decreases with every step.
* `FInv` — who has an error, and why; stated per caller (`Local`).

Nothing here is a property statement; the property theorems are in `Props/C10.lean`.
-/

namespace Lemmas.Locks
open Model.Locks Spec.Locks

theorem scan_append (ex : Nat → Bool) (o : Option Nat) (t1 t2 : List Ev) :
    scan ex o (t1 ++ t2) = (scan ex o t1).bind fun o' => scan ex o' t2 := by
  induction t1 generalizing o with
  | nil => simp [scan]
  | cons e t ih =>
    simp only [List.cons_append, scan]
    cases scanStep ex o e with
    | none => simp
    | some o' => simpa using ih o'

theorem scan_open_mid (ex : Nat → Bool) (i j : Nat) (mid post : List Ev) (o : Option Nat)
    (h : scan ex (some i) (mid ++ Ev.req j :: post) = some o) : ∃ t, Ev.rep i t ∈ mid := by
  induction mid with
  | nil => simp [scan, scanStep] at h
  | cons e m ih =>
    cases e with
    | req k => simp [scan, scanStep] at h
    | rep k t =>
      by_cases hk : k = i
      · subst hk; exact ⟨t, by simp⟩
      · have hne : ¬ (some i = some k) := by intro e; cases e; exact hk rfl
        simp only [List.cons_append, scan, scanStep, hne, if_false] at h
        obtain ⟨t', ht'⟩ := ih h
        exact ⟨t', by simp [ht']⟩

inductive Step (c : Cfg) (s : St) : Lbl → St → Prop
  | acquire {i} : i < c.n ∧ s.pc i = .idle ∧ s.holder = none →
      Step c s (.acquire i) { s with pc := upd s.pc i .locked, holder := some i }
  | reacquire {i} : s.pc i = .relock ∧ s.holder = none →
      Step c s (.acquire i) { s with pc := upd s.pc i .got, holder := some i }
  | send {i} : s.pc i = .locked ∧ c.sends i = true ∧ s.closed = false →
      Step c s (.send i) { s with pc := upd s.pc i .sent, reqQ := s.reqQ ++ [i], trace := s.trace ++ [Ev.req i] }
  | peer {r q} : s.reqQ = r :: q →
      Step c s .peer { s with reqQ := q, repQ := if c.reads r then s.repQ ++ [r] else s.repQ,
                              closed := s.closed || c.closes r }
  | recv {i t w} : s.pc i = .sent ∧ c.reads i = true → s.repQ = t :: w →
      Step c s (.recv i)
        { s with pc := upd s.pc i (if c.faulty i && c.relock then .relock else .got), repQ := w,
                 got := if c.faulty i then s.got else upd s.got i (some t),
                 err := if c.faulty i then upd s.err i true else s.err,
                 trace := s.trace ++ [Ev.rep i t] }
  | release {i} : s.holder = some i ∧
        (s.pc i = .got ∨ (s.pc i = .sent ∧ c.reads i = false) ∨
         (s.pc i = .locked ∧ (c.sends i = false ∨ s.closed = true))) →
      Step c s (.release i) { s with pc := upd s.pc i .done, holder := none,
                                     err := if s.pc i = .locked then upd s.err i true else s.err }

theorem Step.of_step {c : Cfg} {s s' : St} {l : Lbl} (h : step c s l = some s') : Step c s l s' := by
  cases l <;> simp only [step] at h <;> split at h
  case acquire.isTrue => cases h; exact .acquire ‹_›
  case acquire.isFalse => split at h <;> cases h; exact .reacquire ‹_›
  case recv.isTrue => split at h <;> cases h; exact .recv ‹_› ‹_›
  all_goals cases h
  · exact .send ‹_›
  · exact .peer ‹_›
  · exact .release ‹_›

/-! ## the invariant -/

structure Inv (c : Cfg) (s : St) : Prop where
  lock : ∀ i, (s.pc i = .locked ∨ s.pc i = .sent ∨ s.pc i = .got ∨ s.pc i = .relock) → s.holder = some i
  held : ∀ i, s.holder = some i → (s.pc i = .locked ∨ s.pc i = .sent ∨ s.pc i = .got ∨ s.pc i = .relock)
  range : ∀ i, s.pc i ≠ .idle → i < c.n
  out : outstanding c s = [] ∨ ∃ i, outstanding c s = [i] ∧ s.pc i = .sent ∧ c.reads i = true
  opn : ∀ i, s.pc i = .sent → c.reads i = true → outstanding c s = [i]
  gotOwn : ∀ i, (s.pc i = .got ∨ (s.pc i = .done ∧ c.reads i = true)) → s.err i = false → s.got i = some i
  tr : scan c.reads none s.trace = some (outstanding c s).head?
  trOwn : OwnReply s.trace

theorem inv_init (c : Cfg) : Inv c init := by
  refine ⟨?_, ?_, ?_, ?_, ?_, ?_, ?_, ?_⟩ <;> simp [init, outstanding, scan, OwnReply]

theorem upd_same {α : Type} (f : Nat → α) (i : Nat) (v : α) : upd f i v i = v := by simp [upd]
theorem upd_other {α : Type} (f : Nat → α) {i j : Nat} (v : α) (h : j ≠ i) : upd f i v j = f j := by
  simp [upd, h]

theorem ite_upd_other {α : Type} {f : Nat → α} {i j : Nat} {v : α} (b : Prop) [Decidable b] (h : j ≠ i) :
    (if b then upd f i v else f) j = f j := by
  split
  · exact upd_other f v h
  · rfl

/-- the caller whose step a label is (`none`: the peer's) -/
def owner : Lbl → Option Nat
  | .acquire i | .send i | .recv i | .release i => some i
  | .peer => none

/-- Non-interference, once for all rules: a step that is not caller `j`'s leaves alone everything the invariants say of
`j` — its program counter, error flag, value, and whether its request is in the history. -/
theorem Step.frame {c : Cfg} {s s' : St} {l : Lbl} (h : Step c s l s') {j : Nat} (hj : owner l ≠ some j) :
    s'.pc j = s.pc j ∧ s'.err j = s.err j ∧ s'.got j = s.got j ∧
      (Ev.req j ∈ s'.trace) = (Ev.req j ∈ s.trace) := by
  have ne : ∀ {i}, owner l = some i → j ≠ i := fun hl e => hj (e ▸ hl)
  cases h with
  | peer => exact ⟨rfl, rfl, rfl, rfl⟩
  | acquire | reacquire => exact ⟨upd_other _ _ (ne rfl), rfl, rfl, rfl⟩
  | send => exact ⟨upd_other _ _ (ne rfl), rfl, rfl, by simp [ne rfl]⟩
  | recv =>
    refine ⟨upd_other _ _ (ne rfl), ite_upd_other _ (ne rfl), ?_, by simp⟩
    show (if _ then s.got else upd s.got _ _) j = _
    split
    · rfl
    · exact upd_other _ _ (ne rfl)
  | release => exact ⟨upd_other _ _ (ne rfl), ite_upd_other _ (ne rfl), rfl, rfl⟩

/-- between `acquire` and `release` -/
abbrev Held (p : PC) : Prop := p = .locked ∨ p = .sent ∨ p = .got ∨ p = .relock

theorem Inv.free {c : Cfg} {s : St} (h : Inv c s) (hn : s.holder = none) (j : Nat) : ¬Held (s.pc j) := fun hj => by
  have := h.lock j hj; rw [hn] at this; cases this

theorem Inv.others {c : Cfg} {s : St} {i : Nat} (h : Inv c s) (hold : s.holder = some i) (j : Nat) (e : j ≠ i) :
    ¬Held (s.pc j) := fun hj => by
  have := h.lock j hj; rw [hold] at this; cases this; exact e rfl

/-- only the lock holder can be waiting for a reply -/
theorem Inv.out_nil {c : Cfg} {s : St} {i : Nat} (h : Inv c s) (hold : s.holder = some i)
    (hi : ¬(s.pc i = .sent ∧ c.reads i = true)) : outstanding c s = [] :=
  h.out.resolve_right fun ⟨j, _, hj, hr⟩ => by
    have := h.lock j (.inr (.inl hj)); rw [hold] at this; cases this
    exact hi ⟨hj, hr⟩

/-- Every rule but `peer` moves one caller `i` to a program counter `v` while nobody else is between `acquire` and
`release`, and leaves at most `i`'s own reply outstanding: what `Inv` says of the other callers carries over
(`Step.frame`), what it says of `i` is asked for. -/
theorem Inv.move {c : Cfg} {s s' : St} {l : Lbl} (h : Inv c s) (hst : Step c s l s') (i : Nat) (hl : owner l = some i)
    (v : PC) (pci : s'.pc i = v) (hn : i < c.n)
    (alone : ∀ j, j ≠ i → ¬Held (s.pc j)) (hheld : Held v → s'.holder = some i) (hfree : ¬Held v → s'.holder = none)
    (hout : outstanding c s' = if v = .sent ∧ c.reads i = true then [i] else [])
    (hgi : (v = .got ∨ v = .done ∧ c.reads i = true) → s'.err i = false → s'.got i = some i)
    (htr : scan c.reads none s'.trace = some (if v = .sent ∧ c.reads i = true then some i else none))
    (hown : OwnReply s'.trace) : Inv c s' := by
  have fr := fun j (e : j ≠ i) => hst.frame (j := j) (hl ▸ fun x => e (Option.some.inj x).symm)
  have pcj : ∀ j, j ≠ i → s'.pc j = s.pc j := fun j e => (fr j e).1
  refine ⟨fun j hj => ?_, fun j hj => ?_, fun j hj => ?_, ?_, fun j hj hr => ?_, fun j hj he => ?_, ?_, hown⟩
  · by_cases e : j = i
    · subst e; rw [pci] at hj; exact hheld hj
    · rw [pcj j e] at hj; exact absurd hj (alone j e)
  · by_cases hv : Held v
    · rw [hheld hv] at hj; cases hj; rw [pci]; exact hv
    · rw [hfree hv] at hj; cases hj
  · by_cases e : j = i
    · exact e ▸ hn
    · rw [pcj j e] at hj; exact h.range j hj
  · rw [hout]
    split
    · rename_i hv; exact .inr ⟨i, rfl, pci.trans hv.1, hv.2⟩
    · exact .inl rfl
  · by_cases e : j = i
    · subst e; rw [hout, if_pos ⟨pci.symm.trans hj, hr⟩]
    · rw [pcj j e] at hj; exact absurd (.inr (.inl hj)) (alone j e)
  · by_cases e : j = i
    · subst e; rw [pci] at hj; exact hgi hj he
    · rw [pcj j e] at hj; rw [(fr j e).2.1] at he; rw [(fr j e).2.2.1]; exact h.gotOwn j hj he
  · rw [htr, hout]; split <;> rfl

/-- the re-acquisition of the mutated rule needs a free lock, but a caller at `relock` holds it -/
theorem no_reacquire {c : Cfg} {s : St} {i : Nat} (h : Inv c s) (hc : s.pc i = .relock ∧ s.holder = none) : False :=
  h.free hc.2 i (.inr (.inr (.inr hc.1)))

theorem recv_own {c : Cfg} {s : St} {i t : Nat} {w : List Nat} (h : Inv c s) (hc : s.pc i = .sent ∧ c.reads i = true)
    (hq : s.repQ = t :: w) : t = i ∧ w = [] ∧ s.reqQ.filter c.reads = [] := by
  have hopn := h.opn i hc.1 hc.2
  unfold outstanding at hopn
  rw [hq] at hopn
  simpa only [List.cons_append, List.cons.injEq, List.append_eq_nil_iff] using hopn

theorem ownReply_append {tr : List Ev} {e : Ev} (h : OwnReply tr) (he : ∀ i t, e = .rep i t → t = i) :
    OwnReply (tr ++ [e]) := fun i t hm => by
  rcases List.mem_append.1 hm with hm | hm
  · exact h i t hm
  · exact he i t (List.mem_singleton.1 hm).symm

theorem inv_step (c : Cfg) (s s' : St) (l : Lbl) (h : Inv c s) (hs : step c s l = some s') : Inv c s' := by
  have hst := Step.of_step hs
  have move := fun i => h.move hst i
  cases hst with
  | @acquire i hc =>
    have nobody := h.free hc.2.2
    have hnil : outstanding c s = [] := h.out.resolve_right fun ⟨j, _, hj, _⟩ => nobody j (.inr (.inl hj))
    exact move i rfl .locked (upd_same _ _ _) hc.1 (fun j _ => nobody j) (fun _ => rfl)
      (fun hv => absurd (.inl rfl) hv) (hnil.trans (if_neg (by simp)).symm) (by simp)
      (by rw [h.tr, hnil, if_neg (by simp)]; rfl) h.trOwn
  | reacquire hc => exact (no_reacquire h hc).elim
  | @send i hc =>
    have hold : s.holder = some i := h.lock i (Or.inl hc.1)
    have hnil : outstanding c s = [] := h.out_nil hold fun x => by rw [hc.1] at x; cases x.1
    obtain ⟨hrep, hflt⟩ : s.repQ = [] ∧ s.reqQ.filter c.reads = [] := List.append_eq_nil_iff.mp hnil
    refine move i rfl .sent (upd_same _ _ _) (h.range i (by rw [hc.1]; nofun)) (h.others hold) (fun _ => hold)
      (fun hv => absurd (.inr (.inl rfl)) hv) ?_ (by simp) ?_ (ownReply_append h.trOwn nofun)
    · simp only [outstanding, hrep, List.filter_append, hflt, List.nil_append]
      cases hr : c.reads i <;> simp [List.filter, hr]
    · show scan c.reads none (s.trace ++ [Ev.req i]) = _
      rw [scan_append, h.tr, hnil]
      cases hr : c.reads i <;> simp [scan, scanStep, hr]
  | @peer r q hq =>
    have hout' : outstanding c
        { s with reqQ := q, repQ := if c.reads r = true then s.repQ ++ [r] else s.repQ,
                 closed := s.closed || c.closes r } = outstanding c s := by
      simp only [outstanding, hq]
      cases hr : c.reads r <;> simp [List.filter, hr]
    refine ⟨h.lock, h.held, h.range, ?_, ?_, h.gotOwn, ?_, h.trOwn⟩
    · rw [hout']; exact h.out
    · intro j hj hrj; rw [hout']; exact h.opn j hj hrj
    · rw [hout']; exact h.tr
  | @recv i t w hc hq =>
    obtain ⟨ht, hw, hflt⟩ := recv_own h hc hq
    subst ht; subst hw
    have hold : s.holder = some t := h.lock t (Or.inr (Or.inl hc.1))
    -- the program counter after the read is `got`, or `relock` under the mutation
    have hv : ∀ v : PC, v = .got ∨ v = .relock → Held v ∧ ¬(v = .sent ∧ c.reads t = true) ∧
        ((v = .got ∨ v = .done ∧ c.reads t = true) → v = .got) := by
      rintro v (rfl | rfl) <;> simp [Held]
    obtain ⟨hv1, hv2, hv3⟩ := hv (if c.faulty t && c.relock then .relock else .got) (by split <;> simp)
    refine move t rfl _ (upd_same _ _ _) (h.range t (by rw [hc.1]; nofun)) (h.others hold) (fun _ => hold)
      (fun x => absurd hv1 x) ?_ (fun _ hej => ?_) ?_ (ownReply_append h.trOwn fun _ _ e => by cases e; rfl)
    · rw [if_neg hv2]; simp [outstanding, hflt]
    · cases hf : c.faulty t
      · simp [upd_same]
      · simp [hf, upd_same] at hej
    · show scan c.reads none (s.trace ++ [Ev.rep t t]) = _
      rw [scan_append, h.tr, h.opn t hc.1 hc.2, if_neg hv2]
      simp [scan, scanStep]
  | @release i hc =>
    obtain ⟨hold, hpc⟩ := hc
    have hnil : outstanding c s = [] := h.out_nil hold fun ⟨hs, hr⟩ => by
      rcases hpc with hp | ⟨_, hr'⟩ | ⟨hp, _⟩
      · rw [hs] at hp; cases hp
      · rw [hr] at hr'; cases hr'
      · rw [hs] at hp; cases hp
    have hne : s.pc i ≠ .idle := by rcases hpc with hp | ⟨hp, _⟩ | ⟨hp, _⟩ <;> rw [hp] <;> nofun
    refine move i rfl .done (upd_same _ _ _) (h.range i hne) (h.others hold) (by simp) (fun _ => rfl)
      (hnil.trans (if_neg (by simp)).symm) ?_ (by rw [h.tr, hnil, if_neg (by simp)]; rfl) h.trOwn
    rintro (hd | ⟨_, hr⟩) hej
    · cases hd
    · rcases hpc with hp | ⟨_, hr'⟩ | ⟨hp, _⟩
      · exact h.gotOwn i (Or.inl hp) (by simpa [hp] using hej)
      · rw [hr] at hr'; cases hr'
      · -- a call that returns from `locked` (local rejection, dead socket) returns an error
        simp [hp, upd_same] at hej

theorem isRun (c : Cfg) : Lemmas.Runs.IsRun (step c) (run c) :=
  ⟨fun _ => rfl, fun s l ls => by rw [run]; cases step c s l <;> rfl⟩

theorem inv_run (c : Cfg) (s s' : St) (ls : List Lbl) (h : Inv c s) (hr : run c s ls = some s') : Inv c s' :=
  (isRun c).inv (inv_step c) h hr

theorem inv_reachable (c : Cfg) (ls : List Lbl) (s : St) (hr : run c init ls = some s) : Inv c s :=
  inv_run c init s ls (inv_init c) hr

theorem mem_allLabels_peer (n : Nat) : Lbl.peer ∈ allLabels n := by
  induction n with
  | zero => simp [allLabels]
  | succ k ih => simp [allLabels, ih]

theorem mem_allLabels (n i : Nat) (h : i < n) :
    Lbl.acquire i ∈ allLabels n ∧ Lbl.send i ∈ allLabels n ∧ Lbl.recv i ∈ allLabels n ∧
    Lbl.release i ∈ allLabels n := by
  induction n with
  | zero => omega
  | succ k ih =>
    by_cases e : i = k
    · subst e; simp [allLabels]
    · have := ih (by omega)
      simp [allLabels, this]

theorem rem_idle : rem .idle = 8 := rfl
theorem rem_locked : rem .locked = 6 := rfl
theorem rem_sent : rem .sent = 4 := rfl
theorem rem_got : rem .got = 2 := rfl
theorem rem_done : rem .done = 0 := rfl
theorem rem_relock : rem .relock = 3 := rfl

theorem total_upd (f : Nat → PC) (i : Nat) (v : PC) (n : Nat) (h : i < n) :
    total (fun j => rem (upd f i v j)) n + rem (f i) = total (fun j => rem (f j)) n + rem v := by
  induction n with
  | zero => omega
  | succ k ih =>
    simp only [total]
    by_cases e : i = k
    · subst e
      have hlt : ∀ m, m ≤ i → total (fun j => rem (upd f i v j)) m = total (fun j => rem (f j)) m := by
        intro m hm
        induction m with
        | zero => rfl
        | succ m ihm =>
          simp only [total]
          rw [ihm (by omega), upd_other f v (by omega : m ≠ i)]
      rw [hlt i (Nat.le_refl i), upd_same]; omega
    · have := ih (by omega)
      rw [upd_other f v (fun h' => e h'.symm)]
      omega

theorem measure_step (c : Cfg) (s s' : St) (l : Lbl) (h : Inv c s) (hs : step c s l = some s') :
    Model.Locks.measure c s' < Model.Locks.measure c s := by
  -- a caller that has left `idle` is in range, and moving it to `v` changes the total by `rem v - rem (s.pc i)`
  have move : ∀ i v, s.pc i ≠ .idle →
      total (fun j => rem (upd s.pc i v j)) c.n + rem (s.pc i) = total (fun j => rem (s.pc j)) c.n + rem v :=
    fun i v hp => total_upd s.pc i v c.n (h.range i hp)
  cases Step.of_step hs with
  | acquire hc =>
    have := total_upd s.pc _ .locked c.n hc.1
    rw [hc.2.1, rem_idle, rem_locked] at this
    simp only [Model.Locks.measure]; omega
  | reacquire hc =>
    have := move _ .got (by rw [hc.1]; nofun)
    rw [hc.1, rem_relock, rem_got] at this
    simp only [Model.Locks.measure]; omega
  | send hc =>
    have := move _ .sent (by rw [hc.1]; nofun)
    rw [hc.1, rem_locked, rem_sent] at this
    simp only [Model.Locks.measure, List.length_append, List.length_singleton]; omega
  | peer hq => simp only [Model.Locks.measure, hq, List.length_cons]; omega
  | recv hc =>
    simp only [Model.Locks.measure]
    split
    · have := move _ .relock (by rw [hc.1]; nofun)
      rw [hc.1, rem_sent, rem_relock] at this; omega
    · have := move _ .got (by rw [hc.1]; nofun)
      rw [hc.1, rem_sent, rem_got] at this; omega
  | release hc =>
    simp only [Model.Locks.measure]
    rcases hc.2 with hp | ⟨hp, _⟩ | ⟨hp, _⟩ <;> have := move _ .done (by rw [hp]; nofun) <;> rw [hp] at this <;>
      simp only [rem_locked, rem_sent, rem_got, rem_done] at this <;> omega

theorem run_measure (c : Cfg) (s s' : St) (ls : List Lbl) (h : Inv c s) (hr : run c s ls = some s') :
    ls.length + Model.Locks.measure c s' ≤ Model.Locks.measure c s :=
  (isRun c).length_le _ (fun s s' l h hs => ⟨inv_step c s s' l h hs, measure_step c s s' l h hs⟩) h hr

theorem measure_init (c : Cfg) : Model.Locks.measure c init = 8 * c.n := by
  have : ∀ n, total (fun _ => 8) n = 8 * n := by
    intro n
    induction n with
    | zero => rfl
    | succ k ih => simp only [total, ih]; omega
  show total (fun _ => 8) c.n + 0 = 8 * c.n
  rw [this c.n]; rfl

/-! ## the fault invariant: who has an error, and why

Kept apart from `Inv` (which is about the lock and the wire): `err` is set only by the receipt of a faulty reply and by
a return from `locked` (local rejection, dead socket); a caller with a faulty reply never has a value; the socket is
closed only if the configuration has a closing fault; program counter `relock` only exists under the mutation.
All but the clause about the socket speak of one caller at a time (`Local`), and a step of caller `i` changes nothing
that `Local` reads of another caller (`Step.frame`, through `FInv.of_caller`). -/

/-- What the fault invariant says of one caller: program counter `p`, error flag `e`, value `g`, "its request is in the
history" `r`; `cl` is "the socket is closed". -/
structure Local (c : Cfg) (i : Nat) (p : PC) (e : Bool) (g : Option Nat) (r : Prop) (cl : Bool) : Prop where
  errPc : e = true → p = .got ∨ p = .relock ∨ p = .done
  errWhy : e = true → c.faulty i = true ∨ ¬r
  errClosed : e = true → c.faulty i = true ∨ c.sends i = false ∨ cl = true
  reqPc : r → p = .sent ∨ p = .got ∨ p = .relock ∨ p = .done
  faultyErr : c.faulty i = true → (p = .got ∨ p = .relock ∨ p = .done) → e = true
  faultyNoVal : c.faulty i = true → g = none
  relockPc : p = .relock → c.relock = true ∧ c.faulty i = true
  pcReq : (p = .sent ∨ p = .got ∨ p = .relock) → r
  doneNoReq : p = .done → ¬r → e = true
  gotOwn : ∀ t, g = some t → t = i

structure FInv (c : Cfg) (s : St) : Prop where
  caller : ∀ i, Local c i (s.pc i) (s.err i) (s.got i) (Ev.req i ∈ s.trace) s.closed
  closedWhy : s.closed = true → ∃ k, c.closes k = true

theorem finv_init (c : Cfg) : FInv c init := by
  refine ⟨fun i => ?_, nofun⟩
  constructor <;> simp [init]

theorem faulty_reads {c : Cfg} {i : Nat} (h : c.faulty i = true) : c.reads i = true := by
  unfold Cfg.faulty at h; simp at h; exact h.1

theorem closes_faulty {c : Cfg} {i : Nat} (h : c.closes i = true) : c.faulty i = true := by
  unfold Cfg.closes at h; unfold Cfg.faulty
  cases hf : c.fault i <;> simp [hf] at h ⊢ <;> exact h

variable {c : Cfg} {s s' : St} {i : Nat}

/-- A step of caller `i` that leaves the socket as it is keeps `FInv` if it keeps what `FInv` says of `i`
(`Step.frame`). -/
theorem FInv.of_caller {l : Lbl} (f : FInv c s) (h : Step c s l s') (hl : owner l = some i) (hcl : s'.closed = s.closed)
    (hi : Local c i (s'.pc i) (s'.err i) (s'.got i) (Ev.req i ∈ s'.trace) s.closed) : FInv c s' := by
  refine ⟨fun j => ?_, hcl ▸ f.closedWhy⟩
  rw [hcl]
  by_cases e : j = i
  · exact e ▸ hi
  · obtain ⟨h1, h2, h3, h4⟩ := h.frame (j := j) (hl ▸ fun x => e (Option.some.inj x).symm)
    rw [h1, h2, h3, h4]; exact f.caller j

section
variable {p : PC} {e cl : Bool} {g : Option Nat} {r : Prop}

theorem Local.noErr (h : Local c i p e g r cl) (hp : p = .idle ∨ p = .locked ∨ p = .sent) : e = false := by
  cases e
  · rfl
  · rcases hp with hp | hp | hp <;> rcases h.errPc rfl with h' | h' | h' <;> rw [hp] at h' <;> cases h'

theorem Local.noReq (h : Local c i p e g r cl) (hp : p = .idle ∨ p = .locked) : ¬r := fun x => by
  rcases hp with hp | hp <;> rcases h.reqPc x with h' | h' | h' | h' <;> rw [hp] at h' <;> cases h'

theorem Local.acquire (h : Local c i .idle e g r cl) : Local c i .locked e g r cl := by
  cases h.noErr (.inl rfl)
  exact ⟨nofun, nofun, nofun, fun x => absurd x (h.noReq (.inl rfl)), fun _ => nofun, h.faultyNoVal, nofun, nofun, nofun,
    h.gotOwn⟩

theorem Local.send (h : Local c i .locked e g r cl) {r' : Prop} (hr' : r') : Local c i .sent e g r' cl := by
  cases h.noErr (.inr (.inl rfl))
  exact ⟨nofun, nofun, nofun, fun _ => .inl rfl, fun _ => nofun, h.faultyNoVal, nofun, fun _ => hr', nofun,
    h.gotOwn⟩

theorem Local.recvOk (h : Local c i .sent e g r cl) (hf : c.faulty i = false) :
    Local c i .got e (some i) r cl := by
  cases h.noErr (.inr (.inr rfl))
  have nf : c.faulty i ≠ true := by rw [hf]; nofun
  exact ⟨nofun, nofun, nofun, fun _ => .inr (.inl rfl), fun x => absurd x nf, fun x => absurd x nf, nofun,
    fun _ => h.pcReq (.inl rfl), nofun, fun _ h => (Option.some.inj h).symm⟩

theorem Local.recvBad (h : Local c i .sent e g r cl) (hf : c.faulty i = true) :
    Local c i (if c.relock = true then .relock else .got) true g r cl := by
  have hr := h.pcReq (.inl rfl)
  cases hrl : c.relock
  · exact ⟨fun _ => .inl rfl, fun _ => .inl hf, fun _ => .inl hf, fun _ => .inr (.inl rfl), fun _ _ => rfl,
      h.faultyNoVal, nofun, fun _ => hr, nofun, h.gotOwn⟩
  · exact ⟨fun _ => .inr (.inl rfl), fun _ => .inl hf, fun _ => .inl hf, fun _ => .inr (.inr (.inl rfl)), fun _ _ => rfl,
      h.faultyNoVal, fun _ => ⟨hrl, hf⟩, fun _ => hr, nofun, h.gotOwn⟩

theorem Local.release (h : Local c i p e g r cl)
    (hp : p = .got ∨ (p = .sent ∧ c.reads i = false) ∨ (p = .locked ∧ (c.sends i = false ∨ cl = true))) :
    Local c i .done (if p = .locked then true else e) g r cl := by
  rcases hp with hp | ⟨hp, hrd⟩ | ⟨hp, hc⟩ <;> subst hp
  · exact ⟨fun _ => .inr (.inr rfl), h.errWhy, h.errClosed, fun _ => .inr (.inr (.inr rfl)),
      fun hf _ => h.faultyErr hf (.inl rfl), h.faultyNoVal, nofun, nofun,
      fun _ hn => absurd (h.pcReq (.inr (.inl rfl))) hn, h.gotOwn⟩
  · cases h.noErr (.inr (.inr rfl))
    have nf : c.faulty i ≠ true := fun hf => by rw [faulty_reads hf] at hrd; cases hrd
    exact ⟨nofun, nofun, nofun, fun _ => .inr (.inr (.inr rfl)), fun hf => absurd hf nf, h.faultyNoVal, nofun, nofun,
      fun _ hn => absurd (h.pcReq (.inl rfl)) hn, h.gotOwn⟩
  · have hn := h.noReq (.inr rfl)
    exact ⟨fun _ => .inr (.inr rfl), fun _ => .inr hn, fun _ => .inr hc, fun x => absurd x hn, fun _ _ => rfl,
      h.faultyNoVal, nofun, nofun, fun _ _ => rfl, h.gotOwn⟩

end

theorem finv_step (c : Cfg) (s s' : St) (l : Lbl) (h : Inv c s) (f : FInv c s) (hs : step c s l = some s') :
    FInv c s' := by
  have hst := Step.of_step hs
  have key := fun i => f.of_caller (i := i) hst
  cases hst with
  | @acquire i hc =>
    have := f.caller i
    rw [hc.2.1] at this
    exact key i rfl rfl (by simpa only [upd_same] using this.acquire)
  | reacquire hc => exact (no_reacquire h hc).elim
  | @send i hc =>
    have := f.caller i
    rw [hc.1] at this
    exact key i rfl rfl
      (by simpa only [upd_same] using this.send (List.mem_append_right _ (List.mem_singleton.2 rfl)))
  | @peer r q hq =>
    refine ⟨fun j => ?_, fun hcl => ?_⟩
    · have ⟨a1, a2, a3, a4, a5, a6, a7, a8, a9, a10⟩ := f.caller j
      exact ⟨a1, a2, fun he => (a3 he).imp_right (.imp_right fun hc => by simp [hc]), a4, a5, a6, a7, a8, a9, a10⟩
    · cases hc : s.closed
      · exact ⟨r, by simpa [hc] using hcl⟩
      · exact f.closedWhy hc
  | @recv i t w hc hq =>
    have := f.caller i
    rw [hc.1] at this
    cases (recv_own h hc hq).1
    refine key i rfl rfl ?_
    cases hf : c.faulty i
    · simpa [hf, upd_same] using this.recvOk hf
    · simpa [hf, upd_same] using this.recvBad hf
  | @release i hc =>
    have := (f.caller i).release hc.2
    refine key i rfl rfl ?_
    show Local c i (upd s.pc i .done i) ((if s.pc i = .locked then upd s.err i true else s.err) i) _ _ _
    -- `this` has the `if` around the flag of caller `i`, the goal around the whole flag function
    rw [upd_same, apply_ite (fun f : Nat → Bool => f i), upd_same]
    exact this

theorem finv_reachable (c : Cfg) (ls : List Lbl) (s : St) (hr : run c init ls = some s) : FInv c s :=
  ((isRun c).inv (P := fun s => Inv c s ∧ FInv c s)
    (fun s s' l h hs => ⟨inv_step c s s' l h.1 hs, finv_step c s s' l h.1 h.2 hs⟩)
    ⟨inv_init c, finv_init c⟩ hr).2

/-- No deadlock under the code's rule: while some caller has not finished, some label is enabled (the lock is free and
an idle caller can take it, or the holder or the peer can move). -/
theorem live (h : Inv c s) (f : FInv c s) (hrl : c.relock = false) (hi : i < c.n) (hnd : s.pc i ≠ .done) :
    ∃ l, l ∈ allLabels c.n ∧ (step c s l).isSome = true := by
  have norl : ∀ j, s.pc j ≠ .relock := by
    intro j hj; have := ((f.caller j).relockPc hj).1; rw [hrl] at this; cases this
  cases hh : s.holder with
  | none =>
    have hidle : s.pc i = .idle := by
      cases hp : s.pc i with
      | idle => rfl
      | done => exact absurd hp hnd
      | locked => exact absurd (.inl hp) (h.free hh i)
      | sent => exact absurd (.inr (.inl hp)) (h.free hh i)
      | got => exact absurd (.inr (.inr (.inl hp))) (h.free hh i)
      | relock => exact absurd hp (norl i)
    exact ⟨.acquire i, (mem_allLabels c.n i hi).1, by simp [step, hi, hidle, hh]⟩
  | some k =>
    have hk := h.held k hh
    have hkn : k < c.n := h.range k (by rcases hk with hp | hp | hp | hp <;> rw [hp] <;> simp)
    have hm := mem_allLabels c.n k hkn
    rcases hk with hp | hp | hp | hp
    · cases hsn : c.sends k
      · exact ⟨.release k, hm.2.2.2, by simp [step, hh, hp, hsn]⟩
      · cases hcl : s.closed
        · exact ⟨.send k, hm.2.1, by simp [step, hp, hsn, hcl]⟩
        · -- the socket is dead: the send fails, the method returns and drops its guard
          exact ⟨.release k, hm.2.2.2, by simp [step, hh, hp, hcl]⟩
    · cases hrd : c.reads k
      · exact ⟨.release k, hm.2.2.2, by simp [step, hh, hp, hrd]⟩
      · have hopn := h.opn k hp hrd
        cases hq : s.repQ with
        | cons t w => exact ⟨.recv k, hm.2.2.1, by simp [step, hp, hrd, hq]⟩
        | nil =>
          cases hrq : s.reqQ with
          | nil => simp [outstanding, hq, hrq] at hopn
          | cons r q => exact ⟨.peer, mem_allLabels_peer c.n, by simp [step, hrq]⟩
    · exact ⟨.release k, hm.2.2.2, by simp [step, hh, hp]⟩
    · exact absurd hp (norl k)

end Lemmas.Locks
