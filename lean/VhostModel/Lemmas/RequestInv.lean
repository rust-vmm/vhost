import VhostModel.Model.Frontend
/-!
# Inversion of `Model.Frontend.request`

`Built s op req`: the API accepted operation `op` in state `s` and built request `req` — one constructor per accepting
branch of `Model.Frontend.request`, carrying the local checks that branch has passed (those needed downstream).
`request_built` does the case analysis of `request` for the accepted calls.
-/
namespace Lemmas.RequestInv
open Base Model.Stream Model.Msgs Model.Frontend

abbrev Regions := List (Nat × Nat × Nat × Nat × Bool)

inductive Built (s : FSt) : Op → Req → Prop
  | get_features (a pl fds bad regs) : Built s ⟨"get_features", a, pl, fds, bad, regs⟩ ⟨1, [], [], .body "VhostUserU64"⟩
  | set_features (v pl fds bad regs) : Built s ⟨"set_features", [v], pl, fds, bad, regs⟩ ⟨2, u64 v, [], .ack⟩
  | set_owner (a pl fds bad regs) : Built s ⟨"set_owner", a, pl, fds, bad, regs⟩ ⟨3, [], [], .ack⟩
  | reset_owner (a pl fds bad regs) : Built s ⟨"reset_owner", a, pl, fds, bad, regs⟩ ⟨4, [], [], .ack⟩
  | set_mem_table (a pl fds bad) (regs : Regions) (h1 : 1 ≤ regs.length) (h32 : regs.length ≤ 32) :
      Built s ⟨"set_mem_table", a, pl, fds, bad, regs⟩ ⟨5, u32 regs.length ++ u32 0 ++ regs.flatMap regionBytes, fds, .ack⟩
  | set_log_base_plain (base pl fds bad regs) : Built s ⟨"set_log_base", [base], pl, fds, bad, regs⟩ ⟨6, u64 base, [], .noWait⟩
  | set_log_base_region (base size off pl fds bad regs) (hp : hasProto s 1 = true) :
      Built s ⟨"set_log_base", [base, size, off], pl, fds, bad, regs⟩ ⟨6, u64 size ++ u64 off, fds, .body "VhostUserLog"⟩
  | set_log_base_noshm (base size off pl fds bad regs) (hp : hasProto s 1 = false) :
      Built s ⟨"set_log_base", [base, size, off], pl, fds, bad, regs⟩ ⟨6, u64 base, [], .noWait⟩
  | set_log_fd (a pl fds bad regs) : Built s ⟨"set_log_fd", a, pl, fds, bad, regs⟩ ⟨7, [], fds, .ack⟩
  | set_vring_num (i n pl fds bad regs) (hq : i < s.maxQ) :
      Built s ⟨"set_vring_num", [i, n], pl, fds, bad, regs⟩ ⟨8, u32 i ++ u32 n, [], .ack⟩
  | set_vring_addr (i fl d u a lg pl fds bad regs) (hq : i < s.maxQ) :
      Built s ⟨"set_vring_addr", [i, fl, d, u, a, lg], pl, fds, bad, regs⟩
        ⟨9, u32 i ++ u32 fl ++ u64 d ++ u64 u ++ u64 a ++ u64 lg, [], .ack⟩
  | set_vring_base (i b pl fds bad regs) (hq : i < s.maxQ) :
      Built s ⟨"set_vring_base", [i, b], pl, fds, bad, regs⟩ ⟨10, u32 i ++ u32 b, [], .ack⟩
  | get_vring_base (i pl fds bad regs) (hq : i < s.maxQ) :
      Built s ⟨"get_vring_base", [i], pl, fds, bad, regs⟩ ⟨11, u32 i ++ u32 0, [], .body "VhostUserVringState"⟩
  | set_vring_call (i pl fds bad regs) (hq : i < s.maxQ) (h8 : i ≤ 0xff) :
      Built s ⟨"set_vring_call", [i], pl, fds, bad, regs⟩ ⟨13, u64 i, fds, .ack⟩
  | set_vring_kick (i pl fds bad regs) (hq : i < s.maxQ) (h8 : i ≤ 0xff) :
      Built s ⟨"set_vring_kick", [i], pl, fds, bad, regs⟩ ⟨12, u64 i, fds, .ack⟩
  | set_vring_err (i pl fds bad regs) (hq : i < s.maxQ) (h8 : i ≤ 0xff) :
      Built s ⟨"set_vring_err", [i], pl, fds, bad, regs⟩ ⟨14, u64 i, fds, .ack⟩
  | get_protocol_features (a pl fds bad regs) :
      Built s ⟨"get_protocol_features", a, pl, fds, bad, regs⟩ ⟨15, [], [], .body "VhostUserU64"⟩
  | set_protocol_features (v pl fds bad regs) :
      Built s ⟨"set_protocol_features", [v], pl, fds, bad, regs⟩ ⟨16, u64 v, [], .ack⟩
  | get_queue_num (a pl fds bad regs) : Built s ⟨"get_queue_num", a, pl, fds, bad, regs⟩ ⟨17, [], [], .body "VhostUserU64"⟩
  | reset_device (a pl fds bad regs) : Built s ⟨"reset_device", a, pl, fds, bad, regs⟩ ⟨34, [], [], .ack⟩
  | set_vring_enable (i e pl fds bad regs) (hq : i < s.maxQ) :
      Built s ⟨"set_vring_enable", [i, e], pl, fds, bad, regs⟩ ⟨18, u32 i ++ u32 e, [], .ack⟩
  | get_config (off size fl x pl fds bad regs) (hv : configValid off size fl = true) (hmax : 12 + pl.length ≤ 0x1000) :
      Built s ⟨"get_config", [off, size, fl, x], pl, fds, bad, regs⟩
        ⟨24, u32 off ++ u32 size ++ u32 fl ++ pl, [], .payload "VhostUserConfig"⟩
  | set_config (off fl pl fds bad regs) (hv : configValid off pl.length fl = true) (hmax : 12 + pl.length ≤ 0x1000) :
      Built s ⟨"set_config", [off, fl], pl, fds, bad, regs⟩ ⟨25, u32 off ++ u32 pl.length ++ u32 fl ++ pl, [], .ack⟩
  | set_backend_req_fd (a pl fds bad regs) : Built s ⟨"set_backend_req_fd", a, pl, fds, bad, regs⟩ ⟨21, [], fds, .ack⟩
  | get_shared_object (u pl fds bad regs) (hv : uuidValid u = true) :
      Built s ⟨"get_shared_object", [u], pl, fds, bad, regs⟩ ⟨41, leBytes 16 u, [], .bodyFiles "VhostUserEmpty"⟩
  | get_inflight_fd (ms mo nq qs pl fds bad regs) :
      Built s ⟨"get_inflight_fd", [ms, mo, nq, qs], pl, fds, bad, regs⟩
        ⟨31, u64 ms ++ u64 mo ++ u16 nq ++ u16 qs ++ [0, 0, 0, 0], [], .bodyFiles "VhostUserInflight"⟩
  | set_inflight_fd (ms mo nq qs pl fds bad regs) (hnq : nq ≠ 0) (hqs : qs ≠ 0) :
      Built s ⟨"set_inflight_fd", [ms, mo, nq, qs], pl, fds, bad, regs⟩
        ⟨32, u64 ms ++ u64 mo ++ u16 nq ++ u16 qs ++ [0, 0, 0, 0], fds, .ack⟩
  | get_max_mem_slots (a pl fds bad regs) : Built s ⟨"get_max_mem_slots", a, pl, fds, bad, regs⟩ ⟨36, [], [], .body "VhostUserU64"⟩
  | add_mem_region (g sz u o pl fds bad regs) :
      Built s ⟨"add_mem_region", [g, sz, u, o], pl, fds, bad, regs⟩ ⟨37, u64 0 ++ u64 g ++ u64 sz ++ u64 u ++ u64 o, fds, .ack⟩
  | remove_mem_region (g sz u o pl fds bad regs) :
      Built s ⟨"remove_mem_region", [g, sz, u, o], pl, fds, bad, regs⟩ ⟨38, u64 0 ++ u64 g ++ u64 sz ++ u64 u ++ u64 o, [], .ack⟩
  | get_shmem_config (a pl fds bad regs) :
      Built s ⟨"get_shmem_config", a, pl, fds, bad, regs⟩ ⟨44, [], [], .body "VhostUserShMemConfig"⟩
  | set_device_state_fd (d p pl fds bad regs) :
      Built s ⟨"set_device_state_fd", [d, p], pl, fds, bad, regs⟩ ⟨42, u32 d ++ u32 p, fds, .bodyOptFiles "VhostUserU64"⟩
  | check_device_state (a pl fds bad regs) :
      Built s ⟨"check_device_state", a, pl, fds, bad, regs⟩ ⟨43, [], [], .body "VhostUserU64"⟩
  | postcopy_advise (a pl fds bad regs) :
      Built s ⟨"postcopy_advise", a, pl, fds, bad, regs⟩ ⟨28, [], [], .bodyFiles "VhostUserEmpty"⟩
  | postcopy_listen (a pl fds bad regs) : Built s ⟨"postcopy_listen", a, pl, fds, bad, regs⟩ ⟨29, [], [], .ack⟩
  | postcopy_end (a pl fds bad regs) : Built s ⟨"postcopy_end", a, pl, fds, bad, regs⟩ ⟨30, [], [], .ack⟩

theorem request_built (s : FSt) (op : Op) (req : Req) (s' : FSt) (hreq : request s op = .ok (req, s')) : Built s op req := by
  obtain ⟨name, a, pl, fds, bad, regs⟩ := op
  revert hreq
  fun_cases request s ⟨name, a, pl, fds, bad, regs⟩
  all_goals intro hreq
  -- a refusing branch contradicts `hreq`; an accepting one fixes `req`, the name and the shape of the arguments
  all_goals cases hreq
  all_goals dsimp only at *
  all_goals subst_vars
  all_goals constructor
  -- the constructors' side conditions are the tests the accepting branch has passed
  all_goals simp_all +zetaDelta
  exact List.length_pos_iff.2 (‹¬_ = [] ∧ _›).1

end Lemmas.RequestInv
