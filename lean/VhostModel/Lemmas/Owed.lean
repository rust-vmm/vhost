import VhostModel.Lemmas.LayoutEq
import VhostModel.Lemmas.BackendSrv
import VhostModel.Props.C20
/-!
# Helper lemmas for C04Owed: field reads, body validators on bytes ⇔ the Spec's validity rules

* `fld_eq_g` — the Spec's field read equals the model's (through `Lemmas.LayoutEq.getField_eq`);
* `bodyValid_*` — the generated validator applied to a body of the right length decides exactly the Spec rule
  on the field values (through `Props.C20`); `body_guard` puts them against `Spec.Proto.bodyValid` request by request;
* `regions_*` — the memory-table slices of model and Spec.
-/
namespace Lemmas.Owed
open Base Model.BackendSrv Model.Msgs Lemmas.BackendSrv Lemmas.Layouts

/-- little-endian read of `w` bytes at `off` -/
def rd (bs : Bytes) (off w : Nat) : Nat := leVal ((bs.drop off).take w)

theorem rd_lt (bs : Bytes) (off w : Nat) : rd bs off w < 256 ^ w := by
  unfold rd
  have h := leVal_lt ((bs.drop off).take w)
  have : ((bs.drop off).take w).length ≤ w := by simp [List.length_take]; omega
  exact Nat.lt_of_lt_of_le h (Nat.pow_le_pow_right (by omega) this)

theorem getField_of {bs : Bytes} {s : String} {p : List String} {off w : Nat}
    (hf : fieldAt s p = some (off, w)) (hl : off + w ≤ bs.length) : getField bs s p = some (rd bs off w) :=
  getField_of_fieldAt hf hl

theorem g_of {bs : Bytes} {s : String} {p : List String} {off w : Nat}
    (hf : fieldAt s p = some (off, w)) (hl : off + w ≤ bs.length) : g bs s p = rd bs off w := by
  simp [g, getField_of hf hl]

theorem getField_g {bs : Bytes} {s : String} {p : List String} {off w n : Nat}
    (hf : fieldAt s p = some (off, w)) (hn : bs.length = n) (hl : off + w ≤ n := by decide) :
    getField bs s p = some (g bs s p) := by
  rw [getField_of hf (hn ▸ hl), g_of hf (hn ▸ hl)]

theorem g_lt {bs : Bytes} {s : String} {p : List String} {off w : Nat} (hf : fieldAt s p = some (off, w)) :
    g bs s p < 256 ^ w := by
  by_cases hl : off + w ≤ bs.length
  · rw [g_of hf hl]; exact rd_lt bs off w
  · simp only [g, getField, hf, hl, if_false, Option.getD_none]; exact Nat.pow_pos (by omega)

/-- the Spec's field read = the model's field read, for every struct of the specification -/
theorem fld_eq_g (bs : Bytes) {s : String} (hs : s ∈ Props.C01.specStructs) (p : List String) :
    Spec.Proto.fld bs s p = g bs s p := by
  simp only [Spec.Proto.fld, g, Lemmas.LayoutEq.getField_eq bs hs p]

theorem rd_take (bs : Bytes) (n off w : Nat) (h : off + w ≤ n) : rd (bs.take n) off w = rd bs off w := by
  unfold rd
  rw [List.drop_take, List.take_take]
  congr 2
  omega

theorem rd_slice (bs : Bytes) (a n off w : Nat) (h : off + w ≤ n) :
    rd ((bs.drop a).take n) off w = rd bs (a + off) w := by
  rw [rd_take _ _ _ _ h]
  unfold rd
  rw [List.drop_drop]

theorem bool_eq_decide {b : Bool} {p : Prop} [Decidable p] (h : b = true ↔ p) : b = decide p := by
  cases b <;> simp_all

theorem bv_toNat (n x : Nat) {w : Nat} (h : x < 256 ^ w) (hw : 8 * w = n := by rfl) : (bv n x).toNat = x := by
  subst hw
  simp only [bv, BitVec.toNat_ofNat]
  apply Nat.mod_eq_of_lt
  rwa [show (256:Nat) = 2^8 from rfl, ← Nat.pow_mul] at h

theorem bv_g (n : Nat) {bs : Bytes} {s : String} {p : List String} {off w : Nat} (hf : fieldAt s p = some (off, w))
    (hw : 8 * w = n := by rfl) : (bv n (g bs s p)).toNat = g bs s p := bv_toNat n _ (g_lt hf) hw

/-! ### `fld` → `g` per struct -/

theorem in_spec : "VhostUserU64" ∈ Props.C01.specStructs ∧ "VhostUserVringState" ∈ Props.C01.specStructs ∧
    "VhostUserVringAddr" ∈ Props.C01.specStructs ∧ "VhostUserSharedMsg" ∈ Props.C01.specStructs ∧
    "VhostUserInflight" ∈ Props.C01.specStructs ∧ "VhostUserSingleMemoryRegion" ∈ Props.C01.specStructs ∧
    "VhostUserTransferDeviceState" ∈ Props.C01.specStructs ∧ "VhostUserLog" ∈ Props.C01.specStructs ∧
    "VhostUserConfig" ∈ Props.C01.specStructs ∧ "VhostUserMemory" ∈ Props.C01.specStructs ∧
    "VhostUserMemoryRegion" ∈ Props.C01.specStructs := by decide +kernel

theorem fld_u64 (bs p) : Spec.Proto.fld bs "VhostUserU64" p = g bs "VhostUserU64" p := fld_eq_g bs in_spec.1 p
/-- the `u64` body of SET_VRING_KICK / CALL / ERR, as `handle_vring_fd_request` reads it -/
theorem fld_u64_value {bs : Bytes} (h : 8 ≤ bs.length) : Spec.Proto.fld bs "VhostUserU64" ["value"] = leVal (bs.take 8) := by
  rw [fld_u64, g_of lay_u64.2 (by omega)]; rfl

theorem fld_vstate (bs p) : Spec.Proto.fld bs "VhostUserVringState" p = g bs "VhostUserVringState" p :=
  fld_eq_g bs in_spec.2.1 p
theorem fld_vaddr (bs p) : Spec.Proto.fld bs "VhostUserVringAddr" p = g bs "VhostUserVringAddr" p :=
  fld_eq_g bs in_spec.2.2.1 p
theorem fld_shared (bs p) : Spec.Proto.fld bs "VhostUserSharedMsg" p = g bs "VhostUserSharedMsg" p :=
  fld_eq_g bs in_spec.2.2.2.1 p
theorem fld_inflight (bs p) : Spec.Proto.fld bs "VhostUserInflight" p = g bs "VhostUserInflight" p :=
  fld_eq_g bs in_spec.2.2.2.2.1 p
theorem fld_single (bs p) : Spec.Proto.fld bs "VhostUserSingleMemoryRegion" p = g bs "VhostUserSingleMemoryRegion" p :=
  fld_eq_g bs in_spec.2.2.2.2.2.1 p
theorem fld_transfer (bs p) : Spec.Proto.fld bs "VhostUserTransferDeviceState" p = g bs "VhostUserTransferDeviceState" p :=
  fld_eq_g bs in_spec.2.2.2.2.2.2.1 p
theorem fld_log (bs p) : Spec.Proto.fld bs "VhostUserLog" p = g bs "VhostUserLog" p := fld_eq_g bs in_spec.2.2.2.2.2.2.2.1 p
theorem fld_config (bs p) : Spec.Proto.fld bs "VhostUserConfig" p = g bs "VhostUserConfig" p :=
  fld_eq_g bs in_spec.2.2.2.2.2.2.2.2.1 p
theorem fld_memory (bs p) : Spec.Proto.fld bs "VhostUserMemory" p = g bs "VhostUserMemory" p :=
  fld_eq_g bs in_spec.2.2.2.2.2.2.2.2.2.1 p
theorem fld_region (bs p) : Spec.Proto.fld bs "VhostUserMemoryRegion" p = g bs "VhostUserMemoryRegion" p :=
  fld_eq_g bs in_spec.2.2.2.2.2.2.2.2.2.2 p

/-! ### the generated validators on bytes -/

theorem bodyValid_u64 (buf : Bytes) (h : buf.length = 8) : bodyValid "VhostUserU64" buf = some true := by
  simp [bodyValid, decU64, lay_u64.1, h, getField_g lay_u64.2 h]
  rfl

theorem bodyValid_vstate (buf : Bytes) (h : buf.length = 8) : bodyValid "VhostUserVringState" buf = some true := by
  have L := lay_vstate
  simp [bodyValid, decVringState, L.1, h, getField_g L.2.1 h, getField_g L.2.2 h]
  rfl

theorem bodyValid_vaddr (buf : Bytes) (h : buf.length = 40) :
    bodyValid "VhostUserVringAddr" buf = some (decide (Spec.validVringAddr (g buf "VhostUserVringAddr" ["flags"])
      (g buf "VhostUserVringAddr" ["descriptor"]) (g buf "VhostUserVringAddr" ["used"])
      (g buf "VhostUserVringAddr" ["available"]))) := by
  have L := lay_vaddr
  simp only [bodyValid, decVringAddr, L.1, h, getField_g L.2.1 h, getField_g L.2.2.1 h, getField_g L.2.2.2.1 h,
    getField_g L.2.2.2.2.1 h, getField_g L.2.2.2.2.2.1 h, getField_g L.2.2.2.2.2.2 h]
  simp
  apply bool_eq_decide
  rw [Props.C20.isValid_vring_addr_iff]
  simp only [bv_g _ L.2.2.1, bv_g _ L.2.2.2.1, bv_g _ L.2.2.2.2.1, bv_g _ L.2.2.2.2.2.1]

theorem bodyValid_shared (buf : Bytes) (h : buf.length = 16) :
    bodyValid "VhostUserSharedMsg" buf = some (decide (Spec.validUuid (g buf "VhostUserSharedMsg" ["uuid"]))) := by
  simp only [bodyValid, decShared, lay_shared.1, h, getField_g lay_shared.2 h]
  simp
  apply bool_eq_decide
  rw [Props.C20.isValid_shared_iff]
  simp only [bv_g _ lay_shared.2]

theorem bodyValid_inflight (buf : Bytes) (h : buf.length = 24) :
    bodyValid "VhostUserInflight" buf = some (decide (Spec.validInflight (g buf "VhostUserInflight" ["num_queues"])
      (g buf "VhostUserInflight" ["queue_size"]))) := by
  have L := lay_inflight
  simp only [bodyValid, decInflight, L.1, h, getField_g L.2.1 h, getField_g L.2.2.1 h, getField_g L.2.2.2.1 h,
    getField_g L.2.2.2.2 h]
  simp
  apply bool_eq_decide
  rw [Props.C20.isValid_inflight_iff]
  simp only [bv_g _ L.2.2.2.1, bv_g _ L.2.2.2.2]

theorem bodyValid_single (buf : Bytes) (h : buf.length = 40) :
    bodyValid "VhostUserSingleMemoryRegion" buf = some (decide (Spec.validRegion
      (g buf "VhostUserSingleMemoryRegion" ["region", "guest_phys_addr"])
      (g buf "VhostUserSingleMemoryRegion" ["region", "memory_size"])
      (g buf "VhostUserSingleMemoryRegion" ["region", "user_addr"])
      (g buf "VhostUserSingleMemoryRegion" ["region", "mmap_offset"]))) := by
  have L := lay_single
  simp only [bodyValid, decSingle, decRegionAt, L.1, h, List.cons_append, List.nil_append, getField_g L.2.1 h,
    getField_g L.2.2.1 h, getField_g L.2.2.2.1 h, getField_g L.2.2.2.2.1 h, getField_g L.2.2.2.2.2 h]
  simp
  apply bool_eq_decide
  rw [Props.C20.isValid_single_iff]
  simp only [bv_g _ L.2.2.1, bv_g _ L.2.2.2.1, bv_g _ L.2.2.2.2.1, bv_g _ L.2.2.2.2.2]

theorem bodyValid_transfer (buf : Bytes) (h : buf.length = 8) :
    bodyValid "VhostUserTransferDeviceState" buf = some (decide (Spec.validTransfer
      (g buf "VhostUserTransferDeviceState" ["direction"]) (g buf "VhostUserTransferDeviceState" ["phase"]))) := by
  have L := lay_transfer
  simp only [bodyValid, decTransfer, L.1, h, getField_g L.2.1 h, getField_g L.2.2 h]
  simp
  apply bool_eq_decide
  rw [Props.C20.isValid_transfer_iff]
  simp only [bv_g _ L.2.1, bv_g _ L.2.2]

theorem bodyValid_log (buf : Bytes) (h : buf.length = 16) :
    bodyValid "VhostUserLog" buf = some (decide (Spec.validLog (g buf "VhostUserLog" ["mmap_size"])
      (g buf "VhostUserLog" ["mmap_offset"]))) := by
  have L := lay_log
  simp only [bodyValid, decLog, L.1, h, getField_g L.2.1 h, getField_g L.2.2 h]
  simp
  apply bool_eq_decide
  rw [Props.C20.isValid_log_iff]
  simp only [bv_g _ L.2.1, bv_g _ L.2.2]

theorem bodyValid_config (buf : Bytes) (h : buf.length = 12) :
    bodyValid "VhostUserConfig" buf = some (decide (Spec.validConfig (g buf "VhostUserConfig" ["offset"])
      (g buf "VhostUserConfig" ["size"]) (g buf "VhostUserConfig" ["flags"]))) := by
  have L := lay_config
  simp only [bodyValid, decConfig, L.1, h, getField_g L.2.1 h, getField_g L.2.2.1 h, getField_g L.2.2.2 h]
  simp
  apply bool_eq_decide
  rw [Props.C20.isValid_config_iff]
  simp only [bv_g _ L.2.1, bv_g _ L.2.2.1, bv_g _ L.2.2.2]

theorem bodyValid_memory (buf : Bytes) (h : buf.length = 8) :
    bodyValid "VhostUserMemory" buf = some (decide (Spec.validMemory (g buf "VhostUserMemory" ["num_regions"])
      (g buf "VhostUserMemory" ["padding1"]))) := by
  have L := lay_memory
  simp only [bodyValid, decMemory, L.1, h, getField_g L.2.1 h, getField_g L.2.2 h]
  simp
  apply bool_eq_decide
  rw [Props.C20.isValid_memory_iff]
  simp only [bv_g _ L.2.1, bv_g _ L.2.2]

theorem bodyValid_region (buf : Bytes) (h : buf.length = 32) :
    bodyValid "VhostUserMemoryRegion" buf = some (decide (Spec.validRegion
      (g buf "VhostUserMemoryRegion" ["guest_phys_addr"]) (g buf "VhostUserMemoryRegion" ["memory_size"])
      (g buf "VhostUserMemoryRegion" ["user_addr"]) (g buf "VhostUserMemoryRegion" ["mmap_offset"]))) := by
  have L := lay_region
  simp only [bodyValid, decRegion, decRegionAt, L.1, h, List.nil_append, getField_g L.2.1 h, getField_g L.2.2.1 h,
    getField_g L.2.2.2.1 h, getField_g L.2.2.2.2 h]
  simp
  apply bool_eq_decide
  rw [Props.C20.isValid_region_iff]
  simp only [bv_g _ L.2.1, bv_g _ L.2.2.1, bv_g _ L.2.2.2.1, bv_g _ L.2.2.2.2]

/-! ### reading the fixed head of a longer body -/
theorem g_take {bs : Bytes} {s : String} {p : List String} {off w : Nat} (n : Nat)
    (hf : fieldAt s p = some (off, w)) (hn : off + w ≤ n) (hl : n ≤ bs.length) :
    g (bs.take n) s p = g bs s p := by
  rw [g_of hf (by simp [List.length_take]; omega), g_of hf (by omega), rd_take _ _ _ _ hn]

/-- the two checks both configuration actions make on a body with a full head are the Spec's rule for GET/SET_CONFIG -/
theorem config_check {buf : Bytes} (hdec : 12 ≤ buf.length) :
    (bodyValid "VhostUserConfig" (buf.take 12) = some true ∧ buf.length - 12 = g buf "VhostUserConfig" ["size"]) ↔
      Spec.Proto.bodyValid 24 buf = true := by
  have hl : (buf.take 12).length = 12 := by simp [List.length_take]; omega
  have L := lay_config
  rw [bodyValid_config _ hl, g_take 12 L.2.1 (by omega) hdec, g_take 12 L.2.2.1 (by omega) hdec,
    g_take 12 L.2.2.2 (by omega) hdec]
  simp only [Spec.Proto.bodyValid, fld_config, Option.some.injEq, decide_eq_true_eq, Bool.and_eq_true, beq_iff_eq]
  constructor <;> rintro ⟨h1, h2⟩ <;> exact ⟨h1, by omega⟩

/-- a single-region body: the model's nested read = the Spec's read from the 32-byte slice at offset 8 -/
theorem single_region_eq (buf : Bytes) (h : buf.length = 40) :
    Spec.Proto.regionAt buf 8 =
      (g buf "VhostUserSingleMemoryRegion" ["region", "guest_phys_addr"],
       g buf "VhostUserSingleMemoryRegion" ["region", "memory_size"],
       g buf "VhostUserSingleMemoryRegion" ["region", "user_addr"],
       g buf "VhostUserSingleMemoryRegion" ["region", "mmap_offset"]) := by
  have hl : ((buf.drop 8).take 32).length = 32 := by simp [List.length_take]; omega
  have R := lay_region
  have S := lay_single
  simp only [Spec.Proto.regionAt, fld_region, g_of R.2.1 (bs := (buf.drop 8).take 32) (by omega), g_of R.2.2.1 (bs :=
    (buf.drop 8).take 32) (by omega), g_of R.2.2.2.1 (bs := (buf.drop 8).take 32) (by omega), g_of R.2.2.2.2 (bs :=
    (buf.drop 8).take 32) (by omega), g_of S.2.2.1 (bs := buf) (by omega), g_of S.2.2.2.1 (bs := buf) (by omega), g_of
    S.2.2.2.2.1 (bs := buf) (by omega), g_of S.2.2.2.2.2 (bs := buf) (by omega), rd_slice buf 8 32 0 8 (by omega),
    rd_slice buf 8 32 8 8 (by omega), rd_slice buf 8 32 16 8 (by omega), rd_slice buf 8 32 24 8 (by omega)]

/-- the requests whose arm runs `extract_request_body::<ty>`, with the struct -/
def bodyArms : List (Nat × String) :=
  [(2, "VhostUserU64"), (16, "VhostUserU64"), (8, "VhostUserVringState"), (10, "VhostUserVringState"),
   (11, "VhostUserVringState"), (18, "VhostUserVringState"), (9, "VhostUserVringAddr"), (41, "VhostUserSharedMsg"),
   (31, "VhostUserInflight"), (32, "VhostUserInflight"), (37, "VhostUserSingleMemoryRegion"),
   (38, "VhostUserSingleMemoryRegion"), (42, "VhostUserTransferDeviceState"), (6, "VhostUserLog")]

theorem len_eq {ty : String} {n : Nat} {buf : Bytes} (hs : structSize ty = some n)
    (hl : structSize ty = some buf.length) : buf.length = n := Option.some.inj (hl.symm.trans hs)

/-- on a body of the struct's size the generated validator decides the Spec's rule for the request; the one rule it
leaves out, `num ≤ 1` of SET_VRING_ENABLE (18), is checked by the arm itself after the feature check -/
theorem body_guard {code : Nat} {ty : String} {buf : Bytes} (h : (code, ty) ∈ bodyArms)
    (hl : structSize ty = some buf.length) :
    bodyValid ty buf = some (code == 18 || Spec.Proto.bodyValid code buf) := by
  simp only [bodyArms, List.mem_cons, Prod.mk.injEq, List.mem_nil_iff, or_false] at h
  rcases h with ⟨rfl, rfl⟩ | ⟨rfl, rfl⟩ | ⟨rfl, rfl⟩ | ⟨rfl, rfl⟩ | ⟨rfl, rfl⟩ | ⟨rfl, rfl⟩ | ⟨rfl, rfl⟩ | ⟨rfl, rfl⟩ |
    ⟨rfl, rfl⟩ | ⟨rfl, rfl⟩ | ⟨rfl, rfl⟩ | ⟨rfl, rfl⟩ | ⟨rfl, rfl⟩ | ⟨rfl, rfl⟩
  · rw [bodyValid_u64 buf (len_eq lay_u64.1 hl)]; rfl
  · rw [bodyValid_u64 buf (len_eq lay_u64.1 hl)]; rfl
  · rw [bodyValid_vstate buf (len_eq lay_vstate.1 hl)]; rfl
  · rw [bodyValid_vstate buf (len_eq lay_vstate.1 hl)]; rfl
  · rw [bodyValid_vstate buf (len_eq lay_vstate.1 hl)]; rfl
  · rw [bodyValid_vstate buf (len_eq lay_vstate.1 hl)]; rfl
  · rw [bodyValid_vaddr buf (len_eq lay_vaddr.1 hl), ← funext (fld_vaddr buf)]; rfl
  · rw [bodyValid_shared buf (len_eq lay_shared.1 hl), ← funext (fld_shared buf)]; rfl
  · rw [bodyValid_inflight buf (len_eq lay_inflight.1 hl), ← funext (fld_inflight buf)]; rfl
  · rw [bodyValid_inflight buf (len_eq lay_inflight.1 hl), ← funext (fld_inflight buf)]; rfl
  · have hb := (len_eq lay_single.1 hl)
    rw [bodyValid_single buf hb]
    simp only [Spec.Proto.bodyValid, single_region_eq buf hb, Spec.Proto.validRegionT]; rfl
  · have hb := (len_eq lay_single.1 hl)
    rw [bodyValid_single buf hb]
    simp only [Spec.Proto.bodyValid, single_region_eq buf hb, Spec.Proto.validRegionT]; rfl
  · rw [bodyValid_transfer buf (len_eq lay_transfer.1 hl), ← funext (fld_transfer buf)]; rfl
  · rw [bodyValid_log buf (len_eq lay_log.1 hl), ← funext (fld_log buf)]; rfl

/-! ### memory-table regions -/
theorem spec_regions_eq (buf : Bytes) : ∀ (n off : Nat),
    Spec.Proto.regionsOf buf n off = (Model.BackendSrv.regionsOf buf n off).map regTuple := by
  intro n
  induction n with
  | zero => intro off; rfl
  | succ n ih =>
    intro off
    simp only [Spec.Proto.regionsOf, Model.BackendSrv.regionsOf, List.map_cons, ih, Spec.Proto.regionAt, fld_region,
      regTuple]


/-- the model's per-region validator check = the Spec's rule on the tuple, for 32-byte slices -/
theorem region_check (r : Bytes) (h : r.length = 32) :
    (bodyValid "VhostUserMemoryRegion" r == some true) = Spec.Proto.validRegionT (regTuple r) := by
  rw [bodyValid_region r h]
  simp only [Spec.Proto.validRegionT, regTuple]
  by_cases hv : Spec.validRegion (g r "VhostUserMemoryRegion" ["guest_phys_addr"])
      (g r "VhostUserMemoryRegion" ["memory_size"]) (g r "VhostUserMemoryRegion" ["user_addr"])
      (g r "VhostUserMemoryRegion" ["mmap_offset"]) <;> simp [hv]

theorem regions_all (rs : List Bytes) (h : ∀ r ∈ rs, r.length = 32) :
    rs.all (fun r => bodyValid "VhostUserMemoryRegion" r == some true) =
      (rs.map regTuple).all Spec.Proto.validRegionT := by
  induction rs with
  | nil => rfl
  | cons r rs ih =>
    simp only [List.all_cons, List.map_cons]
    rw [region_check r (h r (by simp)), ih (fun x hx => h x (by simp [hx]))]

/-- the checks the memory-table action makes on a body with a full head are the Spec's rule for SET_MEM_TABLE -/
theorem memTable_check {buf : Bytes} (hdec : 8 ≤ buf.length) :
    (bodyValid "VhostUserMemory" (buf.take 8) = some true ∧
      buf.length = 8 + g buf "VhostUserMemory" ["num_regions"] * 32 ∧
      (Model.BackendSrv.regionsOf buf (g buf "VhostUserMemory" ["num_regions"]) 8).all
        (fun r => bodyValid "VhostUserMemoryRegion" r == some true) = true) ↔
      Spec.Proto.bodyValid 5 buf = true := by
  have hl : (buf.take 8).length = 8 := by simp [List.length_take]; omega
  rw [bodyValid_memory _ hl, g_take 8 lay_memory.2.1 (by omega) hdec, g_take 8 lay_memory.2.2 (by omega) hdec]
  simp only [Spec.Proto.bodyValid, fld_memory, spec_regions_eq, Option.some.injEq, decide_eq_true_eq, Bool.and_eq_true,
    beq_iff_eq]
  constructor
  · rintro ⟨h1, h2, h3⟩
    exact ⟨⟨h1, by omega⟩, by rwa [← regions_all _ (regionsOf_within buf _ 8 (by omega))]⟩
  · rintro ⟨⟨h1, h2⟩, h3⟩
    exact ⟨h1, by omega, by rwa [regions_all _ (regionsOf_within buf _ 8 (by omega))]⟩

theorem regions_args (rs : List Bytes) :
    (rs.map regTuple).flatMap (fun r => [r.1, r.2.1, r.2.2.1, r.2.2.2]) =
      rs.flatMap fun r =>
        [g r "VhostUserMemoryRegion" ["guest_phys_addr"], g r "VhostUserMemoryRegion" ["memory_size"],
         g r "VhostUserMemoryRegion" ["user_addr"], g r "VhostUserMemoryRegion" ["mmap_offset"]] := by
  induction rs with
  | nil => rfl
  | cons r rs ih => simp only [List.map_cons, List.flatMap_cons, ih, regTuple]

end Lemmas.Owed
