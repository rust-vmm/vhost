import VhostModel.Model.Worker
import VhostModel.Lemmas.Worker
/-!
# Step-level facts of `Model.Worker` for the liveness half of C12 (`Props/C12Live.lean`)

Frame lemmas (what a step of each kind leaves alone), what each step appends to the history (`step_emits`: the event
tells the step), the ranking function of the worker's program counter, retention of a pending kick
(`fix-c12-lost-kick`), the state of the ring when the reply of an activating message is sent, and `Good`: all that every
step keeps.  All of it rests on the segment kinds of `Lemmas/Worker.lean`.
-/
namespace Lemmas.WorkerLive
open Model.Worker Spec.KickDelivery Lemmas.Worker

/-! ## frame lemmas -/

theorem kick_cnt {s s' : St} {d : Evt} (h : step s (.kick d) = some s') :
    s'.wpc = s.wpc ∧ (∀ e, s.cnt e ≤ s'.cnt e) ∧ 0 < s'.cnt d := by
  cases kick_eq h
  refine ⟨rfl, fun e => ?_, ?_⟩
  · show s.cnt e ≤ upd s.cnt d (s.cnt d + 1) e
    unfold upd; split
    · subst e; exact Nat.le_succ _
    · exact Nat.le_refl _
  · show 0 < upd s.cnt d (s.cnt d + 1) d
    simp [upd]

/-- the arrival of a message changes only the control thread's program counter and the history -/
theorem send_frame {s s' : St} {m : CMsg} (h : step s (.send m) = some s') :
    s.cpc = .idle ∧ s'.cfg = s.cfg ∧ s'.ready = s.ready ∧ s'.enabled = s.enabled ∧ s'.kick = s.kick ∧ s'.reg = s.reg ∧
    s'.next = s.next ∧ s'.cpc = .inMsg m 0 ∧ s'.wpc = s.wpc ∧ s'.cnt = s.cnt ∧ s'.trace = s.trace ++ [.start m] := by
  obtain ⟨hc, rfl⟩ := send_eq h
  exact ⟨hc, rfl, rfl, rfl, rfl, rfl, rfl, rfl, rfl, rfl, rfl⟩

theorem c_frame {s s' : St} (h : step s .c = some s') :
    s'.cfg = s.cfg ∧ s'.wpc = s.wpc ∧ s'.cnt = s.cnt := by
  obtain ⟨m, k, -, hseg⟩ := c_seg h
  cases hseg <;> exact ⟨rfl, rfl, rfl⟩

theorem other_frame {s s' : St} {l : Lbl} (h : step s l = some s') (hl : l ≠ .w) :
    s'.wpc = s.wpc ∧ ∀ e, s.cnt e ≤ s'.cnt e := by
  cases l with
  | w => exact absurd rfl hl
  | kick d => obtain ⟨hw, hc, -⟩ := kick_cnt h; exact ⟨hw, hc⟩
  | send m => cases (send_eq h).2; exact ⟨rfl, fun _ => Nat.le_refl _⟩
  | c => obtain ⟨-, hw, hc⟩ := c_frame h; exact ⟨hw, fun e => hc ▸ Nat.le_refl _⟩

theorem w_enabled_iff (s : St) : (step s .w).isSome = true ↔ s.wpc ≠ .dead := by
  -- `wStep` is `none` at `dead` and `some _` on every branch from any other program counter (the nest is `checked`'s)
  simp only [step, wStep]
  cases hw : s.wpc <;> simp
  (repeat' split) <;> simp

/-! ## what a step appends to the history -/

/-- the event a step appends to the history tells which step it was -/
theorem step_emits {s s' : St} {l : Lbl} {e : Ev} (h : step s l = some s') (ht : s'.trace = s.trace ++ [e]) :
    match e with
    | .kick d => l = .kick d
    | .start m => l = .send m
    | .reply m => l = .c ∧ s.cpc = .inMsg m (replyStage m) ∧ s' = reply s m
    | .dispatch => l = .w ∧ s.wpc = .toDispatch
    | .consumed true => l = .w ∧ s'.wpc = .toDispatch
    | _ => l = .w := by
  have inj : ∀ {e' : Ev}, s'.trace = s.trace ++ [e'] → e' = e := fun h' =>
    List.singleton_inj.1 (List.append_cancel_left (h'.symm.trans ht))
  cases l with
  | kick d => cases kick_eq h; cases inj rfl; rfl
  | send m => cases (send_eq h).2; cases inj rfl; rfl
  | c =>
    obtain ⟨-, -, h' | ⟨m, hc, rfl⟩⟩ := c_log h
    · exact absurd (List.self_eq_append_right.1 (h'.symm.trans ht)) (List.cons_ne_nil _ _)
    · cases inj rfl; exact ⟨rfl, hc, rfl⟩
  | w =>
    rcases w_log h with ⟨h', -⟩ | ⟨hw, h', -⟩ | ⟨hw, h', -⟩ | ⟨-, -, -, h', -⟩ | ⟨-, h', -⟩
    · exact absurd (List.self_eq_append_right.1 (h'.symm.trans ht)) (List.cons_ne_nil _ _)
    · cases inj h'; exact ⟨rfl, hw⟩
    · cases inj h'; exact ⟨rfl, hw⟩
    · cases inj h'; rfl
    · cases inj h'; rfl

theorem emits_dispatch_iff {s s' : St} {l : Lbl} (h : step s l = some s') :
    s'.trace = s.trace ++ [.dispatch] ↔ l = .w ∧ s.wpc = .toDispatch := by
  refine ⟨step_emits h, ?_⟩
  rintro ⟨rfl, hw⟩
  simp only [step, wStep, hw, Option.some.injEq] at h
  subst h
  rfl

/-- the history only grows -/
theorem mem_trace_step {s s' : St} {l : Lbl} {e : Ev} (h : step s l = some s') (he : e ∈ s.trace) : e ∈ s'.trace := by
  rcases (step_trace h).2 with ⟨ht, _⟩ | ⟨_, ht, _⟩ <;> rw [ht]
  · exact he
  · exact List.mem_append_left _ he

/-! ## the ranking function -/

/-- number of worker segments until the counter is read, counted from the worker's hold point (`worker.dispatch`
counts as the farthest: the pending handler call comes first, then a full round) -/
def rank : WPc → Nat
  | .toDispatch => 4
  | .wait => 3
  | .woken => 2
  | .checked => 1
  | .dead => 0

/-- "started and enabled, with descriptor `d` the current kick descriptor and registered" -/
def Active (d : Evt) (s : St) : Prop := s.ready = true ∧ s.enabled = true ∧ s.kick = some d ∧ s.reg d = true

theorem readyAny_of {s : St} {d : Evt} (hr : s.reg d = true) (hc : 0 < s.cnt d) (hd : d < s.next) : readyAny s = true := by
  unfold readyAny
  exact List.any_eq_true.2 ⟨d, List.mem_range.2 hd, by simp [hr, hc]⟩

/-- **progress**: on an active ring with a pending kick every worker step either reads the counter (and is granted) or
strictly lowers the rank, leaving the counters alone — in every configuration -/
theorem w_progress {s s' : St} {d : Evt} (hn : d < s.next) (ha : Active d s) (hc : 0 < s.cnt d)
    (h : step s .w = some s') :
    s'.trace = s.trace ++ [.consumed true] ∨ (rank s'.wpc < rank s.wpc ∧ s'.cnt = s.cnt ∧ s'.wpc ≠ .dead) := by
  obtain ⟨hrd, hen, hk, hreg⟩ := ha
  have hz : ∀ k, s.kick = some k → s.cnt k ≠ 0 := fun k hk' => by cases hk.symm.trans hk'; exact Nat.ne_of_gt hc
  cases w_seg h with
  | stay _ hr => rw [readyAny_of hreg hc hn] at hr; cases hr
  | wake hw _ => rw [hw]; exact .inr ⟨Nat.lt_succ_self _, rfl, nofun⟩
  | check hw _ => rw [hw]; exact .inr ⟨Nat.lt_succ_self _, rfl, nofun⟩
  | back hb =>
    rcases hb with ⟨_, _, hr⟩ | ⟨_, ⟨he, _⟩ | ⟨_, k, hk', hc0⟩⟩
    · rw [hrd] at hr; cases hr
    · rw [hen] at he; cases he
    · exact absurd hc0 (hz k hk')
  | exit k _ hk' hc0 _ => exact absurd hc0 (hz k hk')
  | grant => exact .inl rfl
  | drop _ _ _ he _ => rw [hen] at he; cases he
  | noFd _ hk' _ => rw [hk] at hk'; cases hk'
  | dispatch hw => rw [hw]; exact .inr ⟨Nat.lt_succ_self _, rfl, nofun⟩

/-! ## retention (`fix-c12-lost-kick`) -/

/-- with `fix-c12-lost-kick` a positive counter stays positive across every step unless that step is a granted read of
that counter -/
theorem retained_step_on {s s' : St} {l : Lbl} {d : Evt} (hL : s.cfg.fixLost = true) (hc : 0 < s.cnt d)
    (h : step s l = some s') : 0 < s'.cnt d ∨ (s'.trace = s.trace ++ [.consumed true] ∧ s.kick = some d) := by
  by_cases hl : l = .w
  · subst hl
    cases w_seg h with
    | grant k _ hk _ =>
      by_cases hkd : d = k
      · exact .inr ⟨rfl, hkd ▸ hk⟩
      · exact .inl (by show 0 < upd s.cnt k 0 d; simpa [upd, hkd] using hc)
    | drop _ _ _ _ hf => rw [hf] at hL; cases hL
    | _ => exact .inl hc
  · exact .inl (Nat.lt_of_lt_of_le hc ((other_frame h hl).2 d))

/-- a worker at `worker.dispatch` enters the handler with its next step, in every configuration -/
theorem dispatch_step {s s' : St} (hw : s.wpc = .toDispatch) (h : step s .w = some s') :
    s'.trace = s.trace ++ [.dispatch] := (emits_dispatch_iff h).2 ⟨rfl, hw⟩

/-! ## stability of `Active` -/

theorem Active.of_frame {d : Evt} {s s' : St} (ha : Active d s) (f : RingFrame s s') : Active d s' := by
  unfold Active at *; rw [f.ready, f.enabled, f.kick, f.reg]; exact ha

/-! ## the ring when the reply of SET_VRING_ENABLE(1) / of a restarting SET_VRING_KICK is sent -/

/-- what the control thread has established inside an activating message -/
structure InvE (s : St) : Prop where
  e1 : ∀ k, s.cpc = .inMsg .enable (k + 1) → s.enabled = true
  e2 : s.cpc = .inMsg .enable 2 → s.ready = true → ∀ d, s.kick = some d → s.reg d = true
  r0 : ∀ k, s.cpc = .inMsg .restart (k + 1) → ∃ d, s.kick = some d
  r1 : s.cpc = .inMsg .restart 2 ∨ s.cpc = .inMsg .restart 3 → s.ready = true
  r2 : s.cpc = .inMsg .restart 3 → s.enabled = true → ∀ d, s.kick = some d → s.reg d = true

theorem invE_init (cfg : Cfg) : InvE (init cfg) := by
  refine ⟨?_, ?_, ?_, ?_, ?_⟩ <;> simp [init]

theorem InvE.of_frame {s t : St} (h : InvE s) (f : RingFrame s t) : InvE t := by
  obtain ⟨a, b, c0, c, d⟩ := h
  refine ⟨?_, ?_, ?_, ?_, ?_⟩
  · rw [f.cpc, f.enabled]; exact a
  · rw [f.cpc, f.ready, f.kick, f.reg]; exact b
  · rw [f.cpc, f.kick]; exact c0
  · rw [f.cpc, f.ready]; exact c
  · rw [f.cpc, f.enabled, f.kick, f.reg]; exact d

theorem epollUpdate_reg_kick (s : St) (d : Evt) (hk : s.kick = some d) :
    (epollUpdate s).reg d = (s.ready && s.enabled) := by
  rw [epollUpdate_reg, hk]; simp

theorem invE_step {s s' : St} {l : Lbl} (hi : InvE s) (h : step s l = some s') : InvE s' := by
  cases l with
  | w => exact hi.of_frame (w_frame h)
  | kick d => exact hi.of_frame (kick_frame h)
  | send m => cases (send_eq h).2; exact ⟨nofun, nofun, nofun, nofun, nofun⟩
  | c =>
    obtain ⟨m, k, hc, hseg⟩ := c_seg h
    cases hseg with
    | disable hm =>
      exact ⟨fun _ hc' => (by cases hc'; cases hm), nofun, fun _ hc' => (by cases hc'; cases hm),
        fun hc' => (by rcases hc' with hc' | hc' <;> cases hc' <;> cases hm), nofun⟩
    | enable => exact ⟨fun _ _ => rfl, nofun, nofun, nofun, nofun⟩
    | newKick =>
      refine ⟨nofun, nofun, fun _ _ => ⟨_, rfl⟩, fun hc' => ?_, fun hc' => ?_⟩
      · cases hr : s.ready with
        | true => rfl
        | false => rw [show (if s.ready = true then 2 else 1) = 1 by simp [hr]] at hc'; rcases hc' with hc' | hc' <;> cases hc'
      · have hc' : CPc.inMsg .restart (if s.ready = true then 2 else 1) = .inMsg .restart 3 := hc'
        split at hc' <;> cases hc'
    | setReady hm =>
      refine ⟨fun _ hc' => ?_, fun hc' => ?_, fun _ hc' => ?_, fun _ => rfl, nofun⟩
      · cases hc'; rcases hm with hm | hm <;> cases hm
      · cases hc'; rcases hm with hm | hm <;> cases hm
      · cases hc'; exact hi.r0 0 hc
    | epoll =>
      refine ⟨fun j hc' => ?_, fun hc' hr d hk => ?_, fun j hc' => ?_, fun hc' => ?_, fun hc' he d hk => ?_⟩
      · cases hc'; exact hi.e1 0 hc
      · cases hc'
        show (epollUpdate s).reg d = true
        rw [epollUpdate_reg_kick s d hk, hr, hi.e1 0 hc]; rfl
      · cases hc'; exact hi.r0 1 hc
      · rcases hc' with hc' | hc' <;> cases hc'
        exact hi.r1 (.inl hc)
      · cases hc'
        show (epollUpdate s).reg d = true
        rw [epollUpdate_reg_kick s d hk, hi.r1 (.inl hc), he]; rfl
    | stop | noKick | dropKick | reply => exact ⟨nofun, nofun, nofun, nofun, nofun⟩

/-- When the reply of SET_VRING_ENABLE(1) is sent the ring is enabled, and if it is started (ready, with a kick
descriptor) that descriptor is registered: the ring is active. -/
theorem active_after_enable_reply {s s' : St} (hi : InvE s) (h : step s .c = some s')
    (ht : s'.trace = s.trace ++ [.reply .enable]) :
    s'.cpc = .idle ∧ s'.enabled = true ∧ (s'.ready = true → ∀ d, s'.kick = some d → Active d s') := by
  obtain ⟨-, hc, rfl⟩ := step_emits h ht
  have hen : s.enabled = true := hi.e1 1 hc
  exact ⟨rfl, hen, fun hr d hk => ⟨hr, hen, hk, hi.e2 hc hr d hk⟩⟩

/-- When the reply of a SET_VRING_KICK that carries a descriptor is sent the ring is started on a descriptor, and if it
is enabled that descriptor is registered: the ring is active. -/
theorem active_after_restart_reply {s s' : St} (hi : InvE s) (h : step s .c = some s')
    (ht : s'.trace = s.trace ++ [.reply .restart]) :
    s'.cpc = .idle ∧ s'.ready = true ∧ ∃ d, s'.kick = some d ∧ (s'.enabled = true → Active d s') := by
  obtain ⟨-, hc, rfl⟩ := step_emits h ht
  have hr : s.ready = true := hi.r1 (.inr hc)
  obtain ⟨d, hk⟩ := hi.r0 2 hc
  exact ⟨rfl, hr, d, hk, fun hen => ⟨hr, hen, hk, hi.r2 hc hen d hk⟩⟩

/-! ## counters -/

theorem cnt_noninc {s s' : St} {l : Lbl} (e : Evt) (h : step s l = some s') (hl : l ≠ .kick e) :
    s'.cnt e ≤ s.cnt e := by
  cases l with
  | kick d =>
    cases kick_eq h
    have : e ≠ d := fun h => hl (h ▸ rfl)
    simp [emit, upd, this]
  | send m => cases (send_eq h).2; exact Nat.le_refl _
  | c => obtain ⟨-, -, hc⟩ := c_frame h; rw [hc]; exact Nat.le_refl _
  | w =>
    have zeroed : ∀ k, upd s.cnt k 0 e ≤ s.cnt e := fun k => by
      unfold upd; split
      · exact Nat.zero_le _
      · exact Nat.le_refl _
    cases w_seg h with
    | grant k | drop k => exact zeroed k
    | _ => exact Nat.le_refl _

theorem readyAny_false_of_zero {s : St} (h : ∀ d, s.cnt d = 0) : readyAny s = false := by
  unfold readyAny
  rw [List.any_eq_false]
  intro d _
  simp [h d]

/-- all counters are zero and the worker waits: nothing is pending anywhere -/
def Drained (s : St) : Prop := (∀ d, s.cnt d = 0) ∧ s.wpc = .wait

/-- from a drained state no step other than a guest kick leads to a handler entry: the state stays drained -/
theorem drained_step {s s' : St} {l : Lbl} (hd : Drained s) (hl : ∀ d, l ≠ .kick d) (h : step s l = some s') :
    Drained s' ∧ (Ev.dispatch ∈ s'.trace → Ev.dispatch ∈ s.trace) := by
  have hc : ∀ d, s'.cnt d = 0 := by
    intro d
    exact Nat.le_zero.1 (hd.1 d ▸ cnt_noninc d h (hl d))
  by_cases hw : l = .w
  · subst hw
    rw [w_stay hd.2 (readyAny_false_of_zero hd.1)] at h
    cases h
    exact ⟨hd, id⟩
  · refine ⟨⟨hc, by rw [(other_frame h hw).1]; exact hd.2⟩, ?_⟩
    intro hm
    rcases (step_trace h).2 with ⟨ht, _⟩ | ⟨e, ht, _, _, _, _⟩
    · rw [ht] at hm; exact hm
    · rw [ht, List.mem_append, List.mem_singleton] at hm
      exact hm.elim id fun hm => absurd ((emits_dispatch_iff h).1 (by rw [ht, ← hm])).1 hw

/-! ## all that every step keeps -/

/-- the state invariants, the link between history and ghost log, what the control thread has established, and: the worker
has ended only if its exit is in the history (so that `Linked.exit` speaks of `wpc = dead` too) -/
structure Good (cfg : Cfg) (s : St) : Prop where
  inv : Inv s
  link : Linked cfg s
  ctl : InvE s
  dead : s.wpc = .dead → Ev.workerExit ∈ s.trace

theorem good_init (cfg : Cfg) : Good cfg (init cfg) :=
  ⟨inv_init cfg, linked_init cfg, invE_init cfg, nofun⟩

theorem good_step {cfg : Cfg} {s s' : St} {l : Lbl} (h : Good cfg s) (hs : step s l = some s') : Good cfg s' := by
  refine ⟨inv_step h.inv hs, linked_step h.link hs, invE_step h.ctl hs, fun hd => ?_⟩
  by_cases hl : l = .w
  · subst hl
    have p := w_pc hs
    rw [hd] at p
    exact p ▸ List.mem_append_right _ (.head _)
  · exact mem_trace_step hs (h.dead ((other_frame hs hl).1 ▸ hd))

end Lemmas.WorkerLive
