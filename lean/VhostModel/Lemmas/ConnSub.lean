import VhostModel.Gen.ConnLoops
import VhostModel.Lemmas.ConnImp
import VhostModel.Model.Endpoint
import VhostModel.Props.C08

/-!
# `get_sub_iovs_offset`: the interpreted translation computes `Model.Endpoint.subIovsOffset`

Also: the `for len in &iov_lens { data_total += len }`
prologue of the two loops, and the start of an iteration of either loop (`exec_suffix`): the call followed by the iovec
surgery of `IoExpr.suffix` yields a view of the bytes from the current position on.
-/
namespace Lemmas.ConnSub
open Imp Gen.ConnLoops Model.Endpoint

theorem gsio_forBody {σ : Type} (env : Env σ) (F : Nat) (fr : Frame) (w : World σ) :
    exec env GetSubIovsOffset.forBody F fr w =
      if fr.n 3 ≤ fr.n 1 then (.normal, { fr with n := upd (upd fr.n 1 (fr.n 1 - fr.n 3)) 2 (fr.n 2 + 1) }, w)
      else (.brk, fr, w) := by
  by_cases h : fr.n 3 ≤ fr.n 1 <;> simp [GetSubIovsOffset.forBody, exec, evalB, evalE, h]

/-- loop invariant of the `for`: slot 1 = `size`, slot 2 = `nr_skip`, slot 3 = `len` -/
theorem forLoop_gsio {σ : Type} (body : Frame → World σ → Res σ)
    (hb : ∀ fr w, body fr w = if fr.n 3 ≤ fr.n 1 then (.normal, { fr with n := upd (upd fr.n 1 (fr.n 1 - fr.n 3)) 2 (fr.n 2 + 1) }, w)
      else (.brk, fr, w)) (w : World σ) : ∀ (rest : List Nat) (fr : Frame),
    ∃ fr', forLoop 3 body rest fr w = (.normal, fr', w) ∧
      fr'.n 2 = (subIovsOffset rest (fr.n 1) (fr.n 2)).1 ∧ fr'.n 1 = (subIovsOffset rest (fr.n 1) (fr.n 2)).2 := by
  intro rest
  induction rest with
  | nil => intro fr; exact ⟨fr, by simp [forLoop, subIovsOffset]⟩
  | cons len rest ih =>
    intro fr
    simp only [forLoop, hb, upd_apply]
    by_cases h : len ≤ fr.n 1
    · simp [h]
      obtain ⟨fr', h1, h2, h3⟩ := ih { fr with n := upd (upd (upd fr.n 3 len) 1 (fr.n 1 - len)) 2 (fr.n 2 + 1) }
      refine ⟨fr', h1, ?_⟩
      simp [subIovsOffset, h] at h2 h3 ⊢
      exact ⟨h2, h3⟩
    · simp [h, subIovsOffset]

/-- the whole function: `iov_lens` = list slot 0, `skip_size` = slot 0 -/
theorem get_sub_iovs_offset_exec {σ : Type} (env : Env σ) (F : Nat) (fr : Frame) (w : World σ) :
    ∃ fr', exec env GetSubIovsOffset.fnBody F fr w =
      (.done (.ok { nats := [(subIovsOffset (fr.l 0) (fr.n 0) 0).1, (subIovsOffset (fr.l 0) (fr.n 0) 0).2] }), fr', w) := by
  obtain ⟨fr', h1, h2, h3⟩ := forLoop_gsio (fun fr w => exec env GetSubIovsOffset.forBody F fr w) (gsio_forBody env F) w (fr.l 0)
    { fr with n := upd (upd fr.n 1 (fr.n 0)) 2 0 }
  refine ⟨fr', ?_⟩
  simp [GetSubIovsOffset.fnBody, exec, evalE, evalEs, evalF] at h1 h2 h3 ⊢
  rw [h1]
  simp [h2, h3]

/-- `for x in &lens { t += x }` -/
theorem forLoop_sum {σ : Type} (env : Env σ) (F : Nat) (x t : Var) (hxt : x.id ≠ t.id) (body : Stmt)
    (hb : body = .assign t (.add (.var t) (.var x))) (w : World σ) :
    ∀ (lens : List Nat) (fr : Frame),
      ∃ fr', forLoop x.id (fun fr w => exec env body F fr w) lens fr w = (.normal, fr', w) ∧
        fr'.n t.id = fr.n t.id + lens.sum ∧ (∀ j, j ≠ t.id → j ≠ x.id → fr'.n j = fr.n j) ∧
        fr'.l = fr.l ∧ fr'.f = fr.f ∧ fr'.io = fr.io ∧ fr'.b = fr.b ∧ fr'.r = fr.r := by
  subst hb
  intro lens
  induction lens with
  | nil => intro fr; exact ⟨fr, by simp [forLoop]⟩
  | cons v vs ih =>
    intro fr
    simp only [forLoop, exec_assign, evalE, upd_apply, reduceIte, hxt.symm]
    obtain ⟨fr', h1, h2, h3, h4⟩ := ih { fr with n := upd (upd fr.n x.id v) t.id (fr.n t.id + v) }
    refine ⟨fr', h1, ?_, ?_, h4⟩
    · rw [h2]; simp; omega
    · intro j hj1 hj2; rw [h3 j hj1 hj2]; simp [hj1, hj2]

/-- the pieces left after cutting `o` bytes into piece `k` add up to the total minus the position -/
theorem suffix_sum (lens : List Nat) (k o : Nat) (hk : k < lens.length) (ho : o ≤ lens.getD k 0) :
    ((lens.getD k 0 - o) :: lens.drop (k + 1)).sum = lens.sum - ((lens.take k).sum + o) := by
  have h := List.take_append_drop k lens
  have h2 : lens.drop k = lens.getD k 0 :: lens.drop (k + 1) := by
    rw [List.getD_eq_getElem?_getD, List.getElem?_eq_getElem hk]
    simp
  have h3 : lens.sum = (lens.take k).sum + (lens.getD k 0 + (lens.drop (k + 1)).sum) := by
    conv => lhs; rw [← h, List.sum_append, h2, List.sum_cons]
  simp only [List.sum_cons]
  omega

theorem suffix_bytes (mem : List Bytes) (v : IoVal) (p k o : Nat) (hk : k < v.lens.length) (ho : o ≤ v.lens.getD k 0)
    (hp : (v.lens.take k).sum + o = p) :
    IoVal.bytes mem { store := v.store, start := v.start + ((v.lens.take k).sum + o), lens := (v.lens.getD k 0 - o) :: v.lens.drop (k + 1) }
      = (v.bytes mem).drop p := by
  unfold IoVal.bytes
  simp only []
  rw [suffix_sum v.lens k o hk ho, hp, List.drop_take, List.drop_drop]

/-- `get_sub_iovs_offset(&iov_lens, p)` followed by the iovec surgery: `d` becomes a view `v` of `io` from byte `p` on -/
theorem exec_suffix {σ : Type} (env : Env σ) (nm : String) (p a b l r io d : Var) (hab : a.id ≠ b.id) (rest : Stmt) (F : Nat)
    (fr : Frame) (w : World σ) (hl : fr.l l.id = (fr.io io.id).lens) (hp : fr.n p.id < (fr.io io.id).lens.sum) :
    ∃ (q1 q2 : Nat) (v : IoVal), v.store = (fr.io io.id).store ∧ v.start = (fr.io io.id).start + fr.n p.id ∧
      v.lens.sum = (fr.io io.id).lens.sum - fr.n p.id ∧ (∀ mem, v.bytes mem = ((fr.io io.id).bytes mem).drop (fr.n p.id)) ∧
      exec env (.seq (.call nm GetSubIovsOffset.fnBody [(GetSubIovsOffset.skip_size, .var p)] [(GetSubIovsOffset.iov_lens, l)] [] [] r)
        (.seq (.matchResult r [a, b] none .skip .fault) (.seq (.assignIo d (.suffix io (.var a) (.var b))) rest))) F fr w =
      exec env rest F { fr with r := upd fr.r r.id (.ok { nats := [q1, q2] }), n := upd (upd fr.n a.id q1) b.id q2,
                                io := upd fr.io d.id v } w := by
  obtain ⟨_, hq1, hq2, hq3⟩ := Props.C08.sub_iovs_offset_correct (fr.io io.id).lens (fr.n p.id) 0 hp
  rcases hq : subIovsOffset (fr.io io.id).lens (fr.n p.id) 0 with ⟨q1, q2⟩
  simp only [hq, Nat.sub_zero] at hq1 hq2 hq3
  have hsum := suffix_sum (fr.io io.id).lens _ _ hq1 (Nat.le_of_lt hq2)
  rw [hq3] at hsum
  refine ⟨q1, q2, ⟨(fr.io io.id).store, (fr.io io.id).start + (((fr.io io.id).lens.take q1).sum + q2),
    ((fr.io io.id).lens.getD q1 0 - q2) :: (fr.io io.id).lens.drop (q1 + 1)⟩, rfl, congrArg _ hq3, hsum,
    fun mem => suffix_bytes mem (fr.io io.id) (fr.n p.id) _ _ hq1 (Nat.le_of_lt hq2) hq3, ?_⟩
  obtain ⟨_, hx⟩ := get_sub_iovs_offset_exec env F
    { n := upd (fun _ => 0) GetSubIovsOffset.skip_size.id (fr.n p.id), l := upd (fun _ => []) GetSubIovsOffset.iov_lens.id (fr.l l.id),
      f := fun _ => none, io := fun _ => {} } w
  rw [exec_seq, exec_call_of env F fr w nm _ _ _ [] [] r rfl rfl hx]
  simp only [evalE, hl, hq, exec_seq, exec_matchResult, upd_apply, reduceIte, bindN_cons, bindN_nil, exec_skip, exec_assignIo, evalIo,
    hab, hq1, Nat.le_of_lt hq2, and_self]

end Lemmas.ConnSub
