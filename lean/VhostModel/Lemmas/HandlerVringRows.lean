import VhostModel.Lemmas.HandlerVring
import VhostModel.Lemmas.HelpersBase
/-!
# `Model.Vring.step` is the interpretation of the handler's rows (C14)

One theorem per message of `Model.Vring.Msg` that `handler.rs` serves with a method of its own: for every daemon state
and all arguments, `step d msg = runRow "<method>" d <arguments> <descriptor>` — state *and* result.  So the model refuses
with the row's error exactly when one of the row's guards fires (in the row's order, `first_refusing_event`), and otherwise
applies exactly the row's calls on the vring object, with the values the row names.
-/
namespace Lemmas.HandlerVring
open Base Model.Vring Model.HandlerTable Lemmas.HandlerTable

theorem setRing_setRing (d : Daemon) (i : Nat) (f g : Vring → Vring) :
    (d.setRing i f).setRing i g = d.setRing i (g ∘ f) := by
  simp [Daemon.setRing, List.modify_modify_eq]

theorem setRing_ring (d : Daemon) (i : Nat) (f : Vring → Vring) :
    (d.setRing i f).vrings[i]? = (d.vrings[i]?).map f := by
  simp [Daemon.setRing]

theorem setRing_congr (d : Daemon) (i : Nat) (f g : Vring → Vring) (v : Vring) (hv : d.vrings[i]? = some v) (h : f v = g v) :
    d.setRing i f = d.setRing i g := by
  have : d.vrings.modify i f = d.vrings.modify i g := by
    apply List.ext_getElem?
    intro j
    by_cases e : i = j
    · subst e; simp [hv, h]
    · simp [List.getElem?_modify_ne, e]
  simp [Daemon.setRing, this]

theorem set_vring_num_is_row (d : Daemon) (index num : BitVec 32) :
    step d (.setVringNum index num) = runRow "set_vring_num" d { index := index.toNat, num := num.toNat } none := by
  rw [runRow, row_set_vring_num, startV, run_indexBound, run_valueCheck, evsV_vringCall, cond_num, errOf_invalidParam]
  simp only [vringCallV, modRing, String.reduceEq, if_true, run_ok, val_num16, sync]
  rfl

theorem set_vring_base_is_row (d : Daemon) (index base : BitVec 32) :
    step d (.setVringBase index base) = runRow "set_vring_base" d { index := index.toNat, base := base.toNat } none := by
  rw [runRow, row_set_vring_base, startV, run_indexBound, evsV_vringCall, errOf_invalidParam]
  simp only [vringCallV, modRing, String.reduceEq, if_true, if_false, run_ok, val_base16, sync]
  rfl

theorem set_vring_err_is_row (d : Daemon) (payload : BitVec 64) (fd : Option Nat) :
    step d (.setVringErr payload fd) = runRow "set_vring_err" d { index := fdIndex payload } fd := by
  rw [runRow, row_set_vring_err, startV, run_indexBound, evsV_vringCall, errOf_invalidParam]
  simp only [vringCallV, modRing, String.reduceEq, if_true, if_false, run_ok, fdArg]
  rfl

theorem set_vring_addr_is_row (d : Daemon) (index : BitVec 32) (desc used avail : BitVec 64) :
    step d (.setVringAddr index desc used avail) =
      runRow "set_vring_addr" d
        { index := index.toNat, descriptor := desc.toNat, used := used.toNat, available := avail.toNat } none := by
  rw [runRow, row_set_vring_addr, startV, run_indexBound, run_ifCond, cond_mappings, errOf_invalidParam]
  simp only [step]
  cases h : d.vrings[index.toNat]? with
  | none => rfl
  | some v =>
    have hg : ∀ q : Queue, (d.setRing index.toNat fun v => { v with queue := q }).guestMem = d.guestMem := fun _ => rfl
    simp only [sync, List.cons_append, List.nil_append, run_err, run_addrTranslate, val_descriptor,
      val_available, val_used, val_desc_table, val_avail_ring, val_used_ring, setLocal, String.reduceEq, if_true, if_false,
      run_setQueueInfo (h := h),
      run_usedIdx (h := (setRing_ring d index.toNat _).trans (congrArg (Option.map _) h)), hg, errOf,
      evsV_vringCall, vringCallV, modRing, val_idx, run_ok, setRing_setRing, Function.comp_def]
    cases d.mem.mappings.isEmpty <;> simp <;> rfl

theorem get_vring_base_is_row (d : Daemon) (index : BitVec 32) :
    step d (.getVringBase index) = runRow "get_vring_base" d { index := index.toNat } none := by
  rw [runRow, row_get_vring_base, startV, run_indexBound, evsV_vringCall, errOf_invalidParam]
  simp only [step]
  cases h : d.vrings[index.toNat]? with
  | none => rfl
  | some v =>
    simp only [vringCallV, modRing, String.reduceEq, if_true, if_false, evsV_updateReg, fdArg, cond_false]
    simp [evsV, evV, actV, VS.ring, setRing_ring, h, setLocal, resultV, setRing_setRing, Function.comp_def, vringCallV, modRing,
      fdArg]

theorem run_initIfNeeded (d : Daemon) (x : HIn) (f : Option Nat) (c : Bool × Bool × Bool) (els : List HEvent)
    (hels : ∀ d, evsV els ⟨d, x, f, c, .run⟩ = ⟨d, x, f, c, .run⟩) (g : Vring → Vring) (v : Vring) (h : d.vrings[x.index]? = some v) :
    resultV (evsV [.ifCond needsInit [initializeVring] els, .ok] ⟨d.setRing x.index g, x, f, c, .run⟩) =
      (d.setRing x.index fun v => initIfNeeded (g v), .ok .unit) := by
  have hr : (d.setRing x.index g).vrings[x.index]? = some (g v) := by rw [setRing_ring, h]; rfl
  rw [run_ifCond, cond_needsInit]
  simp only [sync, VS.ring, hr, Option.map_some, Option.getD_some, List.cons_append, List.nil_append,
    evsV_initializeVring, run_ok, setRing_setRing]
  rw [evsV_append_run els _ _ rfl, hels]
  simp only [run_ok]
  by_cases hc : (!(g v).queue.ready && (g v).kick.isSome) = true
  · rw [if_pos hc]
    exact congrArg (·, _) (setRing_congr _ _ _ _ v h (by simp [initIfNeeded, hc]))
  · rw [if_neg hc]
    exact congrArg (·, _) (setRing_congr _ _ _ _ v h (by simp [initIfNeeded, hc]))

theorem set_vring_kick_is_row (d : Daemon) (payload : BitVec 64) (fd : Option Nat) :
    step d (.setVringKick payload fd) = runRow "set_vring_kick" d { index := fdIndex payload } fd := by
  rw [runRow, row_set_vring_kick, startV, run_indexBound, evsV_skipped _ _ _ _ _ _ _ _ _ (by simp [skipped]), evsV_vringCall,
    errOf_invalidParam]
  simp only [step]
  cases h : d.vrings[fdIndex payload]? with
  | none => rfl
  | some v =>
    simp only [vringCallV, modRing, String.reduceEq, if_true, if_false, fdArg]
    exact (run_initIfNeeded d { index := fdIndex payload } fd _ _ (fun _ => by rw [evsV_updateReg]; rfl) _ v h).symm

theorem set_vring_call_is_row (d : Daemon) (payload : BitVec 64) (fd : Option Nat) :
    step d (.setVringCall payload fd) = runRow "set_vring_call" d { index := fdIndex payload } fd := by
  rw [runRow, row_set_vring_call, startV, run_indexBound, evsV_vringCall, errOf_invalidParam]
  simp only [step]
  cases h : d.vrings[fdIndex payload]? with
  | none => rfl
  | some v =>
    simp only [vringCallV, modRing, String.reduceEq, if_true, if_false, fdArg]
    exact (run_initIfNeeded d { index := fdIndex payload } fd _ _ (fun _ => rfl) _ v h).symm

theorem beq_zero_toNat (a : BitVec 64) : (a == 0) = (a.toNat == 0) := by
  rw [Bool.eq_iff_iff, beq_iff_eq, beq_iff_eq, ← BitVec.toNat_inj]; rfl

theorem and_mask_ne_zero (a : BitVec 64) (m : Nat) (hm : m < 2 ^ 64) :
    ((a &&& BitVec.ofNat 64 m) != 0) = ((a.toNat &&& m) != 0) := by
  simp only [bne, beq_zero_toNat, BitVec.toNat_and, BitVec.toNat_ofNat, Nat.mod_eq_of_lt hm]

theorem protocol_bit_clear (a : BitVec 64) : (a &&& protocolFeaturesBit == 0) = !bitOf a 30 := by
  rw [beq_zero_toNat, BitVec.toNat_and]; exact Lemmas.Helpers.and_two_pow_beq_zero a.toNat 30

/-- the subset test of `set_features` on naturals is the model's on bit vectors -/
theorem subset_cond (f o : BitVec 64) :
    ((f.toNat &&& (18446744073709551615 - o.toNat)) != 0) = (f &&& ~~~o != 0) := by
  simp only [bne, beq_zero_toNat, BitVec.toNat_and, BitVec.toNat_not]

theorem noProto_cond (f : BitVec 64) : ((f.toNat &&& 0x40000000) == 0) = (f &&& protocolFeaturesBit == 0) := by
  rw [beq_zero_toNat, BitVec.toNat_and]; rfl

theorem eventIdx_cond (f : BitVec 64) : ((f.toNat &&& 0x20000000) != 0) = f.getLsbD eventIdxBit :=
  Lemmas.Helpers.and_two_pow_bne_zero f.toNat 29

theorem set_vring_enable_is_row (d : Daemon) (index : BitVec 32) (enable : Bool) :
    step d (.setVringEnable index enable) =
      runRow "set_vring_enable" d { index := index.toNat, enable := enable } none := by
  rw [runRow, row_set_vring_enable, startV, run_checkFeature, run_indexBound, evsV_vringCall, ← protocol_bit_clear,
    errOf_invalidParam]
  simp only [vringCallV, modRing, String.reduceEq, if_true, if_false, evsV_updateReg, run_ok, cond_enable, sync]
  rfl

theorem set_protocol_features_is_row (d : Daemon) (f : BitVec 64) :
    step d (.setProtocolFeatures f) = runRow "set_protocol_features" d { features := f.toNat } none := by
  simp [runRow, row_set_protocol_features, startV, evsV, evV, actV, step, resultV, sync, val_features]

theorem set_backend_req_fd_is_row (d : Daemon) :
    step d .setBackendReqFd = runRow "set_backend_req_fd" d {} none := by
  rw [runRow, row_set_backend_req_fd, startV, evsV_flagIf, evsV_flagIf, evsV_flagIf]
  simp only [cond_replyAck, cond_sharedObject, cond_shmem, step, protoBit, sync,
    and_mask_ne_zero _ _ (by decide : Gen.Flags.VhostUserProtocolFeatures.REPLY_ACK < 2 ^ 64),
    and_mask_ne_zero _ _ (by decide : Gen.Flags.VhostUserProtocolFeatures.SHARED_OBJECT < 2 ^ 64),
    and_mask_ne_zero _ _ (by decide : Gen.Flags.VhostUserProtocolFeatures.SHMEM < 2 ^ 64)]
  simp only [Gen.Flags.VhostUserProtocolFeatures.REPLY_ACK, Gen.Flags.VhostUserProtocolFeatures.SHARED_OBJECT,
    Gen.Flags.VhostUserProtocolFeatures.SHMEM]
  cases ((d.ackedProto.toNat &&& 8) != 0) <;> cases ((d.ackedProto.toNat &&& 262144) != 0) <;>
    cases ((d.ackedProto.toNat &&& 2097152) != 0) <;> rfl

theorem evsV_act (a : HAct) (es : List HEvent) (s : VS) (h : (actV a s).flow = .run) :
    evsV (.act a :: es) s = evsV es (actV a s) := by
  simp only [evsV, evV, h]

theorem set_features_is_row (d : Daemon) (f : BitVec 64) :
    step d (.setFeatures f) = runRow "set_features" d { features := f.toNat } none := by
  rw [runRow, row_set_features, startV, run_valueCheck, cond_subset, errOf_invalidParam]
  simp only [sync, subset_cond, step]
  by_cases hc : (f &&& ~~~d.offered != 0) = true
  · rw [if_pos hc, if_pos hc]
  · rw [if_neg hc, if_neg hc]
    simp only [evsV_act, actV, String.reduceEq, if_true, if_false, val_features, cond_true, sync, BitVec.ofNat_toNat,
      BitVec.setWidth_eq]
    rw [run_ifCond, cond_noProto]
    have loop2 := fun d0 x es => evsV_forEachVring d0 x none (false, false, false) es
      [.vringCall "set_queue_event_idx" ["event_idx"]]
      (fun v => { v with queue := { v.queue with eventIdx := d0.ackedFeatures.getLsbD eventIdxBit } })
      (fun d' x' h => by
        rw [evsV_vringCall]
        simp only [vringCallV, modRing, String.reduceEq, if_true, if_false, cond_event_idx, sync, eventIdx_cond, h]
        rfl)
    simp only [sync, noProto_cond, List.cons_append, List.nil_append]
    by_cases hp : (f &&& protocolFeaturesBit == 0) = true
    · rw [if_pos hp, evsV_forEachVring _ _ _ _ _ _ (fun v => { v with enabled := true }) (fun d' x' _ => by
        rw [evsV_vringCall]
        simp only [vringCallV, modRing, String.reduceEq, if_true, if_false, cond_true, evsV_updateReg]
        rfl)]
      simp only [evsV_bind, loop2]
      simp [evsV, evV, actV, resultV, sync, cond_event_idx, val_acked, eventIdx_cond, beq_iff_eq.1 hp, List.map_map,
        Function.comp_def]
    · rw [if_neg hp]
      have hp' : ¬ f &&& protocolFeaturesBit = 0#64 := fun h => hp (beq_iff_eq.2 h)
      simp only [evsV_bind, loop2]
      simp [evsV, evV, actV, resultV, sync, cond_event_idx, val_acked, eventIdx_cond, hp']

end Lemmas.HandlerVring
