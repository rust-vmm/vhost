/-! Weak fairness as an argument about positions of an infinite execution: no transition system is mentioned; used for
the worker thread (`Props/C12Live.lean`) and the daemon thread (`Lemmas/Shutdown.lean`). -/
namespace Lemmas.Fair

theorem from_on {P : Nat → Prop} {k : Nat} (h0 : P k) (hs : ∀ j, k ≤ j → P j → P (j + 1)) : ∀ j, k ≤ j → P j := by
  intro j hj
  induction hj with
  | refl => exact h0
  | step h ih => exact hs _ h ih

theorem finite_descent (μ : Nat → Nat) (R : Nat → Prop) (k : Nat)
    (h : ∀ j, k ≤ j → μ (j + 1) ≤ μ j ∧ (R j → μ (j + 1) < μ j)) : ∃ k', k ≤ k' ∧ ∀ j, k' ≤ j → ¬ R j := by
  induction hm : μ k using Nat.strongRecOn generalizing k with
  | _ m ih =>
    by_cases hex : ∃ j, k ≤ j ∧ R j
    · obtain ⟨j, hj, hR⟩ := hex
      have : μ j ≤ μ k :=
        from_on (P := fun j => μ j ≤ μ k) (Nat.le_refl _) (fun i hi ih => Nat.le_trans (h i hi).1 ih) j hj
      have := (h j hj).2 hR
      obtain ⟨k', hk', hq⟩ := ih _ (by omega) (j + 1) (fun i hi => h i (by omega)) rfl
      exact ⟨k', by omega, hq⟩
    · exact ⟨k, Nat.le_refl _, fun j hj hR => hex ⟨j, hj, hR⟩⟩

/-- `hf`: a step (`tk`) that stays enabled (`en`) is eventually taken.  Until `Q` is reached the invariant `I` keeps it enabled
and no step raises `μ`, which every `tk`-step lowers: `Q` is reached. -/
theorem fair_reach {en tk : Nat → Prop} (hf : ∀ k, (∀ j, k ≤ j → en j) → ∃ j, k ≤ j ∧ tk j)
    (I Q : Nat → Prop) (μ : Nat → Nat) (k0 : Nat) (h0 : I k0)
    (hstep : ∀ j, k0 ≤ j → I j → Q j ∨ en j ∧ I (j + 1) ∧ μ (j + 1) ≤ μ j ∧ (tk j → μ (j + 1) < μ j)) :
    ∃ i, k0 ≤ i ∧ Q i := by
  by_cases hex : ∃ i, k0 ≤ i ∧ Q i
  · exact hex
  · exfalso
    have hnq : ∀ j, k0 ≤ j → I j → en j ∧ I (j + 1) ∧ μ (j + 1) ≤ μ j ∧ (tk j → μ (j + 1) < μ j) :=
      fun j hj hi => (hstep j hj hi).resolve_left fun hq => hex ⟨j, hj, hq⟩
    have hI : ∀ j, k0 ≤ j → I j := from_on h0 fun j hj hi => (hnq j hj hi).2.1
    obtain ⟨k', hk', hq⟩ := finite_descent μ tk k0 fun j hj => (hnq j hj (hI j hj)).2.2
    obtain ⟨j, hj, hl⟩ := hf k' fun j hj => (hnq j (by omega) (hI j (by omega))).1
    exact hq j hj hl

end Lemmas.Fair
