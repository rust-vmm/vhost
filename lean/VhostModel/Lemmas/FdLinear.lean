import VhostModel.Lemmas.Stream
import VhostModel.Lemmas.BackendSrv
import VhostModel.Model.BackendSrv
/-!
# Descriptor bookkeeping of the dispatch arms (helper lemmas for C09)

An arm's guards thread a context `Ctx` whose received descriptors live in `files` (not yet looked at) and `file` (the
single file taken by a `.oneFile` / `.vringFd` guard); `Ctx.leftover` is their concatenation.  The table is
*well-formed* (`Lemmas.BackendSrv.arms_takers`, `Arm.wf`, checked for all 34 arms by `decide`) when an arm has at most
one file-taking guard and none at all if its action does not account for `c.file`.  From that: the guards preserve `leftover` (as a list:
`Lemmas.BackendSrv.runGuards_leftover`), and every action hands each descriptor of `leftover` to the handler or closes
it, exactly once.
-/
namespace Lemmas.FdLinear
open Base Model.Stream Model.BackendSrv Lemmas.BackendSrv

/-- handler methods whose `ack` call does not pass `c.file` on (`argsOf`) -/
def noFileMethods : List String := ["set_vring_num", "set_vring_base", "set_vring_enable", "set_vring_addr"]

/-- actions that account for `c.file` (hand it to the handler or close it) whatever it is -/
def Act.usesFile : Act → Bool
  | .ack m => !noFileMethods.contains m
  | .memTable => false
  | .backendReqFd => false
  | .gpuSocket => false
  | _ => true

/-- no file-taking guard if the action ignores `c.file` -/
def Arm.wf (a : Arm) : Bool := Act.usesFile a.act || takers a.guards == 0

theorem arms_wf : ∀ a ∈ arms, Arm.wf a = true := by decide +kernel

/-- what `argsOf` hands to the handler: the taken file, except for the four methods that take none -/
theorem argsOf_fds (m : String) (c : Ctx) :
    (argsOf m c).2.2 = if noFileMethods.contains m then [] else c.file.toList := by
  unfold argsOf
  cases c.file <;> dsimp only <;> split <;> simp_all [noFileMethods]

theorem count_leftover (c : Ctx) (f : Fd) :
    c.leftover.count f = (c.files.getD []).count f + c.file.toList.count f := by
  unfold Ctx.leftover
  cases c.file <;> simp [List.count_append]

theorem runAct_closed (st : BSt) (c : Ctx) (h : HOut) (act : Act) : (runAct st c h act).closed =
    match act with
    | .ack _ | .setLogBase | .deviceStateFd => c.files.getD []
    | .memTable => if memTableOk c then [] else c.leftover
    | .backendReqFd | .gpuSocket => if (takeSingle c.files).1.isSome then [] else c.files.getD []
    | _ => c.leftover := by
  cases act with
  | ack m => rfl
  | getConfig | setConfig | memTable | backendReqFd | gpuSocket =>
    simp only [runAct_getConfig, runAct_setConfig, runAct_memTable, runAct_backendReqFd, runAct_gpuSocket,
      apply_ite Out.closed, ite_self]
  | _ => rcases h with ⟨_ | _, _, _, _⟩ <;> rfl

/-- **every action hands each held descriptor to the handler or closes it, exactly once** — provided it accounts for
`c.file` or no file was taken -/
theorem runAct_fds_linear (st : BSt) (c : Ctx) (h : HOut) (act : Act) (f : Fd)
    (hw : Act.usesFile act = true ∨ c.file = none) :
    c.leftover.count f = ((runAct st c h act).calls.flatMap (·.fds)).count f + (runAct st c h act).closed.count f := by
  rw [runAct_calls, runAct_closed, count_leftover]
  cases act with
  | ack m =>
    -- closes the unread files; the taken file goes to the call unless the method takes none (then none was taken)
    simp only [actOk, actArgs, if_true, List.flatMap_cons, List.flatMap_nil, List.append_nil, argsOf_fds]
    rcases hw with hw | hw
    · simp only [Act.usesFile, Bool.not_eq_true'] at hw
      simp only [hw, Bool.false_eq_true, if_false]; omega
    · rw [hw]; split <;> simp
  | memTable =>
    -- checks pass: all files go to the call, nothing is closed; refused: everything held is closed
    have hf : c.file = none := hw.resolve_left (by simp [Act.usesFile])
    by_cases hk : memTableOk c = true <;> simp [actOk, actArgs, hk, hf, count_leftover]
  | backendReqFd | gpuSocket =>
    -- exactly one file: it goes to the call; otherwise all of them are closed
    have hf : c.file = none := hw.resolve_left (by simp [Act.usesFile])
    by_cases hk : (takeSingle c.files).1.isSome = true <;> simp [actOk, actArgs, hk, hf]
  | setLogBase | deviceStateFd => simp [actOk, actArgs]; omega  -- the taken file to the call, the unread ones closed
  | getConfig | setConfig => by_cases hk : cfgOk c.buf = true <;> simp [actOk, actArgs, hk, count_leftover]
  | _ => simp [actOk, actArgs, count_leftover]  -- no file in the call, everything held is closed

/-- descriptors are lost by `recv_data` only on the `ENOBUFS` path -/
theorem recvData_lost_nil {σ : Type} (ch : Chooser σ) (cl : Bool) :
    ∀ (want : Nat) (st : σ) (s : List Cell), (recvData ch cl want st s).outcome ≠ .enobufs →
      (recvData ch cl want st s).lost = [] := by
  intro want st s
  fun_induction recvData ch cl want st s with
  | case1 st s => intro _; rfl
  | case2 n st => intro _; rfl
  | case3 want st c s k0 st' hnext k chunk rest cf hne => intro h; simp at h
  | case4 want st c s k0 st' hnext k chunk rest cf he r ih => intro h; exact ih h

end Lemmas.FdLinear
