import VhostModel.Lemmas.HelpersBase
/-!
# The inputs of the generated guard programs, read off a context of the model (`Model.BackendSrv.Ctx`), and the
facts that bridge the two formulations (used by `Props.Helpers`)

* `inOf`, `vringEnv`, `memEnv`, `getCfgEnv`, `setCfgEnv`: `size`/`buf.len()` = length of the received body, header fields,
  presence and number of received files, the fields of the decoded message = what `Model.BackendSrv.g` reads;
* `checkSize_eq`: the size test of `check_request_size` (with the version test) is the model's `checkSize` for a
  header of version 1;
* `regions_any_eq`: "every 32-byte slice decodes and validates" (model) = "no decoded region fails the validator"
  (source), for a body of exactly `8 + n·32` bytes;
* `cfg_flags_of_valid`: `VhostUserConfigFlags::from_bits(msg.flags)` cannot fail after `msg.is_valid()`.
-/
namespace Lemmas.Helpers
open Base HelperSig Model.Stream Model.Msgs Model.BackendSrv Gen.Helpers

/-- inputs common to all helpers -/
def inOf (st : BSt) (c : Ctx) : HIn :=
  { size := c.buf.length, bufLen := c.buf.length, code := c.hdr.code, hdrFlags := c.hdr.flags, hdrSize := c.hdr.size,
    filesIsSome := c.files.isSome, nfiles := (c.files.getD []).length,
    ackedVirtio := st.acked, ackedProto := st.ackedProto, replyAck := st.replyAck }

def vringEnv (st : BSt) (c : Ctx) : handle_vring_fd_request.Env := { i := inOf st c, msg := u64N c.buf }

def memEnv (st : BSt) (c : Ctx) : set_mem_table.Env :=
  { i := inOf st c, msg := memN c.buf, regions := (regionsOf c.buf (memN c.buf).num_regions 8).map regionN }

def getCfgEnv (st : BSt) (c : Ctx) (h : HOut) : get_config.Env :=
  { i := { inOf st c with resOk := h.ok, resLen := h.b.length }, msg := cfgN c.buf }

def setCfgEnv (st : BSt) (c : Ctx) : set_config.Env := { i := inOf st c, msg := cfgN c.buf }

/-- the `Out` of an action that refuses the request with `InvalidMessage` before the handler is invoked (the arm then
passes the error to `send_ack_message`) -/
def refused (st : BSt) (c : Ctx) : Out :=
  { st := st, out := ackOf st c.hdr false, res := .err .invalidMsg, closed := c.leftover }

/-- … for `get_config`, whose error leaves `handle_request` through `?` (no acknowledgement) -/
def refusedNoAck (st : BSt) (c : Ctx) : Out := { st := st, res := .err .invalidMsg, closed := c.leftover }

/-- for a header of version 1 the size test of `check_request_size` is the model's `checkSize`, which leaves the version
to the header validator -/
theorem checkSize_eq (h : Hdr) (size expected : Nat) (hv : h.flags &&& 3 = 1) :
    sizeOk h.size h.flags size expected = checkSize h size expected := by
  rw [and3_eq_mod] at hv
  simp only [sizeOk, checkSize, Hdr.isReply, bitSet, hv, beq_self_eq_true, Bool.and_true]

theorem regions_any_eq (buf : Bytes) (n : Nat) (h : buf.length = 8 + n * 32) :
    ((regionsOf buf n 8).map regionN).any (fun r => !(Gen.VhostUserMemoryRegion.isValid r.bv)) =
      !(regionsOf buf n 8).all (fun r => bodyValid "VhostUserMemoryRegion" r == some true) := by
  have hl := Lemmas.BackendSrv.regionsOf_within buf n 8 (by omega)
  rw [← Bool.not_not (List.any ..), Bool.not_inj_iff, Bool.eq_iff_iff]
  simp only [Bool.not_eq_true', List.any_eq_false, List.mem_map, Bool.not_eq_false, forall_exists_index, and_imp,
    forall_apply_eq_imp_iff₂, List.all_eq_true, beq_iff_eq]
  exact forall₂_congr fun r hr => by rw [bodyValid_region_full (hl r hr), Option.some.injEq]

/-- the check `from_bits(msg.flags)` does not fire once the model's test of the 12-byte head has passed -/
theorem cfg_flags_of_valid {bs : Bytes} (h12 : 12 ≤ bs.length)
    (h : (bodyValid "VhostUserConfig" (bs.take 12) == some true) = true) :
    (!((cfgN bs).flags &&& 3 == (cfgN bs).flags)) = false := by
  rw [← bodyValid_config_take h12] at h
  obtain ⟨_, _, hf⟩ := (Props.C20.isValid_config_iff _).1 h
  have hlt := (cfgN_lt bs).2.2
  simp only [VhostUserConfigN.bv, BitVec.toNat_ofNat] at hf
  rw [and3_eq_mod, Bool.not_eq_false', beq_iff_eq]
  omega

end Lemmas.Helpers
