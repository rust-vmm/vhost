import VhostModel.Lemmas.Encode
import VhostModel.Props.C08
/-!
# From the bytes of one `sendmsg` to `dispatch`

`segCells (header ++ body) fds` fed to `Model.BackendSrv.step` — for every chooser — is `dispatch` on the header
fields, the body and the descriptors (through `Props.C08.step_framed`).
-/
namespace Lemmas.Wire
open Base Model.Stream Model.Msgs Model.BackendSrv Lemmas.Encode

/-! ## `segCells` -/

theorem segCells_map_b (bs : Bytes) (fds : List Fd) : (segCells bs fds).map (·.b) = bs := by
  cases bs with
  | nil => rfl
  | cons b bs => simp [segCells, List.map_map, Function.comp_def]

theorem segCells_length (bs : Bytes) (fds : List Fd) : (segCells bs fds).length = bs.length := by
  cases bs with
  | nil => rfl
  | cons b bs => simp [segCells]

theorem segCells_tail (bs : Bytes) (fds : List Fd) : ∀ c ∈ (segCells bs fds).tail, c.fds = [] := by
  cases bs with
  | nil => intro c hc; simp [segCells] at hc
  | cons b bs =>
    intro c hc
    simp only [segCells, List.tail_cons, List.mem_map] at hc
    obtain ⟨x, _, rfl⟩ := hc
    rfl

theorem segCells_head (bs : Bytes) (fds : List Fd) (h : bs ≠ []) :
    ((segCells bs fds).head?.map (·.fds)).getD [] = fds := by
  cases bs with
  | nil => exact absurd rfl h
  | cons b bs => rfl

/-! ## header validity -/

def codes : List Nat := Gen.Codes.FrontendReq.table.map (·.2)

theorem decHeader_enc (code flags size : Nat) (hc : code < 2^32) (hf : flags < 2^32) (hs : size < 2^32) :
    decHeader (encHdr code flags size) = some ⟨bv 32 code, bv 32 flags, bv 32 size⟩ := by
  have f1 := getField_enc (s := "VhostUserMsgHeader") (p := ["request"]) (off := 0) (w := 4) (by decide) []
    (leBytes 4 flags ++ leBytes 4 size) code rfl (by omega)
  have f2 := getField_enc (s := "VhostUserMsgHeader") (p := ["flags"]) (off := 4) (w := 4) (by decide) (leBytes 4 code)
    (leBytes 4 size) flags (by simp) (by omega)
  have f3 := getField_enc (s := "VhostUserMsgHeader") (p := ["size"]) (off := 8) (w := 4) (by decide)
    (leBytes 4 code ++ leBytes 4 flags) [] size (by simp) (by omega)
  simp only [List.nil_append, List.append_nil, List.append_assoc] at f1 f2 f3
  have hl : (encHdr code flags size).length = 12 := by simp [encHdr]
  simp only [decHeader, Lemmas.Layouts.lay_hdr.1, encHdr, List.append_assoc] at hl ⊢
  simp [hl, f1, f2, f3]

theorem hdr_isValid (code flags size : Nat) (hc : codeOkN codes code = true) (hc32 : code < 2^32)
    (hf : flags % 4 = 1 ∧ flags < 16) (hs : size ≤ 0x1000) :
    Gen.VhostUserMsgHeader.isValid codes ⟨bv 32 code, bv 32 flags, bv 32 size⟩ = true := by
  have e1 : (bv 32 code).toNat = code := by simp [bv]; omega
  have e2 : decide ((0x1000#64) < BitVec.setWidth 64 (bv 32 size)) = false := by
    simp [bv, BitVec.lt_def]; omega
  have e3 : ((bv 32 flags &&& 0x3#32) != 0x1#32) = false ∧ ((bv 32 flags &&& 0xfffffff0#32) != 0x0#32) = false := by
    have : flags = 1 ∨ flags = 5 ∨ flags = 9 ∨ flags = 13 := by omega
    rcases this with rfl | rfl | rfl | rfl <;> decide
  simp only [Gen.VhostUserMsgHeader.isValid, e1, hc, e2, e3.1, e3.2, Bool.not_true, Bool.false_eq_true, if_false]

/-! ## one message, any segmentation -/

/-- for every chooser, a server turn on the cells of one message — a valid header (version 1, no reserved flag) announcing
`|body|`, the body, the descriptors on the first byte — is `dispatch` on exactly those (the whole output record), and
consumes the whole message -/
theorem step_segCells {σ : Type} (ch : Chooser σ) (cl : Bool) (st : BSt) (cst : σ) (h : HOut)
    (code flags : Nat) (body : Bytes) (fds : List Fd)
    (hc : codeOkN codes code = true) (hc32 : code < 2^32) (hf : flags % 4 = 1 ∧ flags < 16) (hs : body.length ≤ 0x1000)
    (hfd : fds.length ≤ 32) (hfc : fds.isEmpty = false → fdCodes.contains code = true) :
    let r := step ch cl st cst (segCells (encHdr code flags body.length ++ body) fds) h
    r.o = dispatch st ⟨code, flags, body.length⟩ body (if fds.isEmpty then none else some fds) h ∧ r.rest = [] := by
  intro r
  let d := dispatch st ⟨code, flags, body.length⟩ body (if fds.isEmpty then none else some fds) h
  have hf32 : flags < 2^32 := by omega
  have hw : (encHdr code flags body.length ++ body).length = 12 + body.length := by simp [encHdr]; omega
  have hne : encHdr code flags body.length ++ body ≠ [] := by
    intro e; have := congrArg List.length e; rw [hw] at this; simp at this
  have hhb : ((segCells (encHdr code flags body.length ++ body) fds).take 12).map (·.b) = encHdr code flags body.length := by
    rw [List.map_take, segCells_map_b]; exact take_append_len _ _ 12 (by simp [encHdr])
  obtain ⟨d1, d2, d3⟩ := dec_Header code flags body.length hc32 hf32 (by omega) []
  simp only [List.append_nil] at d1 d2 d3
  have hsf := Props.C08.step_framed ch cl st cst (segCells (encHdr code flags body.length ++ body) fds) h
    (by rw [segCells_length, hw]; omega) (segCells_tail _ _) (by rw [segCells_head _ _ hne]; exact hfd)
    (by rw [hhb, d3, segCells_length, hw]; omega)
  have hbody : (((segCells (encHdr code flags body.length ++ body) fds).drop 12).take body.length).map (·.b) = body := by
    rw [List.map_take, List.map_drop, segCells_map_b, drop_append_len _ _ 12 (by simp [encHdr])]
    simp
  have hrest : ((segCells (encHdr code flags body.length ++ body) fds).drop 12).drop body.length = [] := by
    apply List.eq_nil_of_length_eq_zero
    simp [segCells_length, hw]
  have hv : (decHeader (encHdr code flags body.length)).map (·.isValid (Gen.Codes.FrontendReq.table.map (·.2))) = some true := by
    rw [decHeader_enc code flags body.length hc32 hf32 (by omega)]
    exact congrArg some (hdr_isValid code flags body.length hc hc32 hf hs)
  have hfiles : ((if fds.isEmpty then (none : Option (List Fd)) else some fds).isSome && !fdCodes.contains code) = false := by
    cases he : fds.isEmpty with
    | true => simp
    | false =>
      have hh := hfc he
      simp only [Bool.false_eq_true, if_false, Option.isSome_some, hh, Bool.not_true, Bool.and_false]
  have key : Props.C08.framedOut st (segCells (encHdr code flags body.length ++ body) fds) h =
      ({ d with closed := [] ++ d.closed }, []) := by
    unfold Props.C08.framedOut
    simp only [hhb, segCells_head _ _ hne, d1, d2, d3, hv, hfiles, Bool.false_eq_true, if_false, hbody, hrest]
    by_cases h0 : body.length = 0
    · have hb0 : body = [] := List.eq_nil_of_length_eq_zero h0
      subst hb0
      simp [d, segCells_length, encHdr]
    · have : (body.length == 0) = false := by simpa using h0
      simp only [this, Bool.false_eq_true, if_false]
      rfl
  rw [key] at hsf
  exact hsf

end Lemmas.Wire
