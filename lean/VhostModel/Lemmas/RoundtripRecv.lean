import VhostModel.Lemmas.Wire
import VhostModel.Lemmas.Reach
import VhostModel.Props.C04
import VhostModel.Lemmas.FeRecvBase
import VhostModel.Lemmas.Owed
import VhostModel.Lemmas.Image
/-!
# The frontend's reply readers on the bytes of one reply `sendmsg` (frontend half of C03)

A reply is written by the server in one `sendmsg`: `segCells (header ++ body ++ payload) fds`.  For every chooser
(segmentation / arrival timing of the reply direction), open or closed stream:
* `recvBody_segCells` — `recv_body::<ty>` reassembles header and fixed body, hands over the descriptors, leaves the
  payload cells;
* `recvBody_reply` — the same on a reply header carrying the request's code: accepted and recognised as the reply;
* `recv_ack_reply`, `recv_body_reply`, `recv_bodyFiles_reply`, `recv_bodyOptFiles_reply`, `recv_payload_reply` — the five
  readers of `Model.Frontend.recv` on such a reply;
* `recv_nil` — on an empty stream an awaited reply is never `ok`: the reader waits while the stream is open and
  reports an error once it is closed.
-/
namespace Lemmas.Roundtrip
open Base Model.Stream Model.Msgs Model.Frontend Lemmas.Encode Lemmas.Stream Lemmas.Wire
open Model.BackendSrv (Err Hdr bitSet encHdr replyHdr hdrNewFlags)

/-- cells of bytes that follow the first byte of a `sendmsg`: no descriptors, no segment start -/
def plain (bs : Bytes) : List Cell := bs.map (fun x => ⟨x, [], false⟩)

theorem plain_fds (bs : Bytes) : ∀ c ∈ plain bs, c.fds = [] := by
  intro c hc
  simp only [plain, List.mem_map] at hc
  obtain ⟨x, _, rfl⟩ := hc
  rfl

theorem plain_map_b (bs : Bytes) : (plain bs).map (·.b) = bs := by
  simp [plain, List.map_map, Function.comp_def]

theorem plain_length (bs : Bytes) : (plain bs).length = bs.length := by simp [plain]

theorem segCells_drop (bs : Bytes) (fds : List Fd) (k : Nat) (hk : 0 < k) : (segCells bs fds).drop k = plain (bs.drop k) := by
  cases bs with
  | nil => simp [segCells, plain]
  | cons b bs =>
    obtain ⟨k', rfl⟩ : ∃ k', k = k' + 1 := ⟨k - 1, by omega⟩
    simp [segCells, plain, List.map_drop]

theorem take_fds_le (s : List Cell) (k : Nat) (htail : ∀ c ∈ s.tail, c.fds = []) :
    ((s.take k).flatMap (·.fds)).length ≤ ((s.head?.map (·.fds)).getD []).length := by
  cases s with
  | nil => simp
  | cons c t =>
    cases k with
    | zero => simp
    | succ k =>
      simp only [List.take_succ_cons, List.flatMap_cons, List.head?_cons, Option.map_some, Option.getD_some]
      have : (t.take k).flatMap (·.fds) = [] := by
        rw [List.flatMap_eq_nil_iff]; intro x hx; exact htail x (List.mem_of_mem_take hx)
      simp [this]

/-- for every chooser: header (12 bytes) and fixed body arrive reassembled, the descriptors of the `sendmsg` are handed
over, whatever follows (`extra`) stays in the stream -/
theorem recvBody_segCells {σ : Type} (ch : Chooser σ) (cl : Bool) (ty : String) (n : Nat) (cst : σ)
    (hb body extra : Bytes) (fds : List Fd)
    (hty : sizeOfTy ty = some n) (hhb : hb.length = 12) (hbody : body.length = n) (hfds : fds.length ≤ 32)
    (o : RecvOut σ) (ho : recvBody ch cl ty cst (segCells (hb ++ body ++ extra) fds) = o) :
    o.rest = plain extra ∧
    (hdrValid hb = true → bodyValidTy ty body = some true →
      o.res = .ok ⟨parseHdr hb, body, [], if fds.isEmpty then none else some fds⟩ ∧ o.closed = []) ∧
    ((hdrValid hb = false ∨ bodyValidTy ty body ≠ some true) → o.res = .err .invalidMsg) := by
  subst ho
  have hne : hb ++ body ++ extra ≠ [] := by
    intro e; have := congrArg List.length e; simp [hhb] at this
  have hlen : (segCells (hb ++ body ++ extra) fds).length = 12 + n + extra.length := by
    rw [segCells_length]; simp [hhb, hbody]; omega
  have htail := segCells_tail (hb ++ body ++ extra) fds
  have hhead := segCells_head (hb ++ body ++ extra) fds hne
  have hcap : (((segCells (hb ++ body ++ extra) fds).take (12 + n)).flatMap (·.fds)).length ≤ 32 :=
    Nat.le_trans (take_fds_le _ _ htail) (by rw [hhead]; exact hfds)
  obtain ⟨a1, a2, a3⟩ := recvAll_complete ch 32 cl (12 + n) cst (segCells (hb ++ body ++ extra) fds) true (by omega) hcap
  obtain ⟨a4, a5⟩ := recvAll_fds_first ch 32 cl (12 + n) cst (segCells (hb ++ body ++ extra) fds) true htail
    (by rw [hhead]; exact hfds) (by omega)
  have a5' := a5 rfl
  simp only [if_true] at a4
  rw [hhead] at a5'
  have hbytes : ((segCells (hb ++ body ++ extra) fds).take (12 + n)).map (·.b) = hb ++ body := by
    rw [List.map_take, segCells_map_b]
    exact take_append_len _ _ _ (by simp [hhb, hbody])
  rw [hbytes] at a1
  have hrest : (segCells (hb ++ body ++ extra) fds).drop (12 + n) = plain extra := by
    rw [segCells_drop _ _ _ (by omega), drop_append_len _ _ _ (by simp [hhb, hbody])]
  rw [hrest] at a2
  have htk : (hb ++ body).take 12 = hb := take_append_len _ _ 12 hhb
  have hdr : (hb ++ body).drop 12 = body := drop_append_len _ _ 12 hhb
  have hl : (hb ++ body).length = 12 + n := by simp [hhb, hbody]
  unfold recvBody
  simp only [hty, a1, a2, a3, a4, a5', hl, bne_self_eq_false, Bool.false_eq_true, if_false, htk, hdr, List.nil_append]
  refine ⟨?_, ?_, ?_⟩
  · split <;> rfl
  · intro h1 h2
    simp [h1, h2]
  · intro h
    rcases h with h | h
    · simp [h]
    · have : (bodyValidTy ty body != some true) = true := by simpa using h
      simp [this]

theorem recvBody_nil {σ : Type} (ch : Chooser σ) (cl : Bool) (ty : String) (cst : σ) :
    (recvBody ch cl ty cst []).res = .blocked ∧ cl = false ∨ ∃ e, (recvBody ch cl ty cst []).res = .err e := by
  unfold recvBody
  cases hty : sizeOfTy ty with
  | none => exact Or.inr ⟨_, rfl⟩
  | some n =>
    obtain ⟨b1, b2, b3⟩ := recvAll_short ch 32 cl (12 + n) cst [] true (by show 0 < 12 + n; omega) (by simp)
    have h0 : ((0 : Nat) != 12 + n) = true := by simp; omega
    simp only [b1, b2, b3, List.map_nil, List.length_nil, h0]
    cases cl with
    | false => left; simp
    | true => right; simp

theorem replyHdr_valid (rh : Hdr) (k : Nat) (hc : codeOkN codes rh.code = true) (hc32 : rh.code < 2^32) (hk : k ≤ 0x1000) :
    hdrValid (replyHdr rh k) = true := by
  unfold hdrValid replyHdr
  rw [show hdrNewFlags 4 = 5 from rfl, decHeader_enc rh.code 5 k hc32 (by omega) (by omega)]
  simp only [Option.map_some]
  rw [show (Gen.Codes.FrontendReq.table.map (·.2)) = codes from rfl, hdr_isValid rh.code 5 k hc hc32 (by decide) hk]

theorem replyHdr_parse (rh : Hdr) (k : Nat) (hc32 : rh.code < 2^32) (hk : k ≤ 0x1000) :
    parseHdr (replyHdr rh k) = ⟨rh.code, 5, k⟩ :=
  Lemmas.BackendChannel.parseHdr_encHdr rh.code 5 k hc32 (by omega) (by omega)

theorem isReplyFor_reply (rh : Hdr) (k : Nat) (hc : codeOkN codes rh.code = true) (hr : rh.isReply = false) :
    isReplyFor ⟨rh.code, 5, k⟩ rh = true := by
  have hc' : (Gen.Codes.FrontendReq.table.map (·.2)).contains rh.code = true := hc
  have h5 : (⟨rh.code, 5, k⟩ : Hdr).isReply = true := by show bitSet 5 2 = true; decide
  simp only [isReplyFor, hc', hr, h5, Bool.not_false, Bool.and_true, beq_self_eq_true]

theorem bodyValidTy_of (ty : String) (bs : Bytes) (h1 : ty ≠ "VhostUserEmpty") (h2 : ty ≠ "VhostUserShMemConfig") :
    bodyValidTy ty bs = Model.BackendSrv.bodyValid ty bs := by
  simp [bodyValidTy, h1, h2]

/-- what the readers need to know about the request header -/
structure ReqOk (rh : Hdr) : Prop where
  code : codeOkN codes rh.code = true
  code32 : rh.code < 2^32
  notReply : rh.isReply = false

theorem recvBody_reply {σ : Type} (ch : Chooser σ) (cl : Bool) (ty : String) (n : Nat) (cst : σ) (rh : Hdr) (k : Nat)
    (body extra : Bytes) (fds : List Fd) (hty : sizeOfTy ty = some n) (hbody : body.length = n) (hk : k ≤ 0x1000)
    (hval : bodyValidTy ty body = some true) (hq : ReqOk rh) (hfds : fds.length ≤ 32) :
    (recvBody ch cl ty cst (segCells (replyHdr rh k ++ body ++ extra) fds)).res =
      .ok ⟨⟨rh.code, 5, k⟩, body, [], if fds.isEmpty then none else some fds⟩ ∧
    (recvBody ch cl ty cst (segCells (replyHdr rh k ++ body ++ extra) fds)).rest = plain extra ∧
    isReplyFor ⟨rh.code, 5, k⟩ rh = true := by
  obtain ⟨r1, r2, _⟩ := recvBody_segCells ch cl ty n cst (replyHdr rh k) body extra fds hty (Lemmas.BackendChannel.encHdr_length _ _ _) hbody hfds
    _ rfl
  obtain ⟨r2, _⟩ := r2 (replyHdr_valid _ k hq.code hq.code32 hk) hval
  rw [replyHdr_parse _ k hq.code32 hk] at r2
  exact ⟨r2, r1, isReplyFor_reply rh k hq.code hq.notReply⟩

section
variable {σ : Type} (ch : Chooser σ) (cl : Bool) (s : FSt) (req : Req) (cst : σ)

/-- awaited acknowledgement: value 0 ⇒ accepted, anything else ⇒ `BackendInternal`; consumed entirely -/
theorem recv_ack_reply (v : Nat) (hk : req.kind = .ack) (h1 : bitSet s.ackedProto 3 = true)
    (h2 : (reqHdr s req).needReply = true) (hq : ReqOk (reqHdr s req)) (hv : v < 2^64) :
    (recv ch cl s req cst (segCells (replyHdr (reqHdr s req) 8 ++ leBytes 8 v) [])).rest = [] ∧
    (v = 0 → (recv ch cl s req cst (segCells (replyHdr (reqHdr s req) 8 ++ leBytes 8 v) [])).res =
      .ok ⟨⟨(reqHdr s req).code, 5, 8⟩, leBytes 8 0, [], none⟩) ∧
    (v ≠ 0 → (recv ch cl s req cst (segCells (replyHdr (reqHdr s req) 8 ++ leBytes 8 v) [])).res = .err .backendInternal) := by
  obtain ⟨r2, r1, hir⟩ := recvBody_reply ch cl "VhostUserU64" 8 cst (reqHdr s req) 8 (leBytes 8 v) [] [] Lemmas.FeRecv.so_U64 (by simp)
    (by omega) (by rw [bodyValidTy_of _ _ (by decide) (by decide)]; exact Lemmas.Owed.bodyValid_u64 _ (by simp)) hq (by simp)
  simp only [List.append_nil] at r1 r2
  have hlv : leVal (leBytes 8 v) = v := leVal_leBytes 8 v (by omega)
  unfold recv
  simp only [hk, h1, h2, Bool.not_true, Bool.or_self, Bool.false_eq_true, if_false, r2, hir, List.isEmpty_nil, if_true,
    Option.isSome_none, hlv]
  refine ⟨?_, ?_, ?_⟩
  · split
    · exact r1
    · exact r1
  · intro h0; subst h0; simp [r2]
  · intro h0
    have : (v != 0) = true := by simpa using h0
    simp [this]

/-- `recv_reply::<ty>`: accepted, consumed entirely -/
theorem recv_body_reply (ty : String) (n : Nat) (body : Bytes) (hk : req.kind = .body ty) (hty : sizeOfTy ty = some n)
    (hbody : body.length = n) (hn : n ≤ 0x1000) (hval : bodyValidTy ty body = some true) (hq : ReqOk (reqHdr s req)) :
    (recv ch cl s req cst (segCells (replyHdr (reqHdr s req) n ++ body) [])).rest = [] ∧
    (recv ch cl s req cst (segCells (replyHdr (reqHdr s req) n ++ body) [])).res =
      .ok ⟨⟨(reqHdr s req).code, 5, n⟩, body, [], none⟩ := by
  obtain ⟨r2, r1, hir⟩ := recvBody_reply ch cl ty n cst (reqHdr s req) n body [] [] hty hbody hn hval hq (by simp)
  simp only [List.append_nil] at r1 r2
  unfold recv
  simp only [hk, hq.notReply, Bool.false_eq_true, if_false, r2, hir, List.isEmpty_nil, if_true, Option.isSome_none,
    Bool.not_true, Bool.or_self]
  exact ⟨r1, trivial⟩

/-- `recv_reply_with_files::<ty>`: accepted iff descriptors came along -/
theorem recv_bodyFiles_reply (ty : String) (n : Nat) (body : Bytes) (fds : List Fd) (hk : req.kind = .bodyFiles ty)
    (hty : sizeOfTy ty = some n) (hbody : body.length = n) (hn : n ≤ 0x1000) (hval : bodyValidTy ty body = some true)
    (hq : ReqOk (reqHdr s req)) (hfds : fds.length ≤ 32) :
    (recv ch cl s req cst (segCells (replyHdr (reqHdr s req) n ++ body) fds)).rest = [] ∧
    (fds ≠ [] → (recv ch cl s req cst (segCells (replyHdr (reqHdr s req) n ++ body) fds)).res =
      .ok ⟨⟨(reqHdr s req).code, 5, n⟩, body, [], some fds⟩) ∧
    (fds = [] → (recv ch cl s req cst (segCells (replyHdr (reqHdr s req) n ++ body) fds)).res = .err .invalidMsg) := by
  obtain ⟨r2, r1, hir⟩ := recvBody_reply ch cl ty n cst (reqHdr s req) n body [] fds hty hbody hn hval hq hfds
  simp only [List.append_nil] at r1 r2
  unfold recv
  simp only [hk, hq.notReply, Bool.false_eq_true, if_false, r2, hir, Bool.not_true]
  refine ⟨?_, ?_, ?_⟩
  · repeat' split
    all_goals exact r1
  · intro hne
    have : fds.isEmpty = false := by cases fds <;> simp_all
    simp [this, r2]
  · intro he; subst he; simp

/-- `recv_reply_with_optional_files::<ty>`: accepted with or without descriptors -/
theorem recv_bodyOptFiles_reply (ty : String) (n : Nat) (body : Bytes) (fds : List Fd) (hk : req.kind = .bodyOptFiles ty)
    (hty : sizeOfTy ty = some n) (hbody : body.length = n) (hn : n ≤ 0x1000) (hval : bodyValidTy ty body = some true)
    (hq : ReqOk (reqHdr s req)) (hfds : fds.length ≤ 32) :
    (recv ch cl s req cst (segCells (replyHdr (reqHdr s req) n ++ body) fds)).rest = [] ∧
    (recv ch cl s req cst (segCells (replyHdr (reqHdr s req) n ++ body) fds)).res =
      .ok ⟨⟨(reqHdr s req).code, 5, n⟩, body, [], if fds.isEmpty then none else some fds⟩ := by
  obtain ⟨r2, r1, hir⟩ := recvBody_reply ch cl ty n cst (reqHdr s req) n body [] fds hty hbody hn hval hq hfds
  simp only [List.append_nil] at r1 r2
  unfold recv
  simp only [hk, hq.notReply, Bool.false_eq_true, if_false, r2, hir, Bool.not_true]
  exact ⟨r1, trivial⟩

/-- `recv_reply_with_payload::<ty>`: fixed part, then exactly the payload the reply header declares -/
theorem recv_payload_reply (ty : String) (n : Nat) (body pl : Bytes) (hk : req.kind = .payload ty)
    (hty : sizeOfTy ty = some n) (hbody : body.length = n) (hval : bodyValidTy ty body = some true)
    (hq : ReqOk (reqHdr s req)) (hsz : n < (reqHdr s req).size) (hmax : (reqHdr s req).size ≤ 0x1000)
    (hpl : n + pl.length ≤ (reqHdr s req).size) :
    (recv ch cl s req cst (segCells (replyHdr (reqHdr s req) (n + pl.length) ++ body ++ pl) [])).rest = [] ∧
    (recv ch cl s req cst (segCells (replyHdr (reqHdr s req) (n + pl.length) ++ body ++ pl) [])).res =
      .ok ⟨⟨(reqHdr s req).code, 5, n + pl.length⟩, body, pl, none⟩ := by
  obtain ⟨r2, r1, hir⟩ := recvBody_reply ch cl ty n cst (reqHdr s req) (n + pl.length) body pl [] hty hbody (by omega) hval hq
    (by simp)
  obtain ⟨d1, d2, d3, d4⟩ := recvData_complete ch cl pl.length
    (recvBody ch cl ty cst (segCells (replyHdr (reqHdr s req) (n + pl.length) ++ body ++ pl) [])).cst (plain pl)
    (by rw [plain_length]; omega) (fun c hc => plain_fds pl c (List.mem_of_mem_take hc))
  have hpre : (decide ((reqHdr s req).size ≤ n) || decide ((reqHdr s req).size > 0x1000) || (reqHdr s req).isReply) = false := by
    simp [hq.notReply]; omega
  have c1 : ¬ (n + pl.length < n) := by omega
  have c2 : ¬ (pl.length > (reqHdr s req).size - n) := by omega
  have e1 : n + pl.length - n = pl.length := by omega
  have htk : (plain pl).take pl.length = plain pl := List.take_of_length_le (by rw [plain_length]; omega)
  have hdp : (plain pl).drop pl.length = [] := List.drop_of_length_le (by rw [plain_length]; omega)
  rw [htk, plain_map_b] at d1
  rw [hdp] at d2
  unfold recv
  simp only [hk, hty, hpre, Bool.false_eq_true, if_false, r2, hir, List.isEmpty_nil, if_true, Option.isSome_none,
    Bool.not_true, Bool.or_self, if_neg c1, if_neg c2, e1, r1, d1, d2, d4]
  exact ⟨trivial, trivial⟩

end

/-- is a reply or acknowledgement read after the request was written -/
def awaits (s : FSt) (req : Req) : Bool :=
  match req.kind with
  | .noWait => false
  | .ack => bitSet s.ackedProto 3 && (reqHdr s req).needReply
  | _ => true

/-- an awaited reply on an empty stream: the call waits while the stream is open, and fails once it is closed -/
theorem recv_nil {σ : Type} (ch : Chooser σ) (cl : Bool) (s : FSt) (req : Req) (cst : σ) (hw : awaits s req = true) :
    (recv ch cl s req cst []).res = .blocked ∧ cl = false ∨ ∃ e, (recv ch cl s req cst []).res = .err e := by
  -- a reader that only post-processes an accepted reply returns whatever else `recv_body` returns
  have pass : ∀ (ty : String) (k : Reply → RecvOut σ),
      (match (recvBody ch cl ty cst []).res with | .ok r => k r | _ => recvBody ch cl ty cst []).res = .blocked ∧ cl = false ∨
      ∃ e, (match (recvBody ch cl ty cst []).res with | .ok r => k r | _ => recvBody ch cl ty cst []).res = .err e := by
    intro ty k
    rcases recvBody_nil ch cl ty cst with ⟨h1, h2⟩ | ⟨e, h1⟩
    · left; simp only [h1]; exact ⟨trivial, h2⟩
    · right; simp only [h1]; exact ⟨e, rfl⟩
  unfold recv
  cases hk : req.kind with
  | noWait => simp [awaits, hk] at hw
  | ack =>
    simp only [awaits, hk, Bool.and_eq_true] at hw
    simp only [hw.1, hw.2, Bool.not_true, Bool.or_self, Bool.false_eq_true, if_false]
    exact pass _ _
  | body ty | bodyOptFiles ty | bodyFiles ty =>
    simp only
    split
    · exact Or.inr ⟨_, rfl⟩
    · exact pass _ _
  | payload ty =>
    simp only
    split
    · exact Or.inr ⟨_, rfl⟩
    · split
      · exact Or.inr ⟨_, rfl⟩
      · exact pass _ _

end Lemmas.Roundtrip
