import VhostModel.Model.LtsTable
import VhostModel.Lemmas.Shutdown
/-!
# Reading the segments of the shutdown paths in `Model.Shutdown` (C16)

`evsS` interprets a segment of `lib.rs` (the daemon thread's closure, `ShutdownHandle::shutdown`, `wait()`,
`Drop for VhostUserDaemon`) on the connection transition system `Model.Shutdown.St`.

Reading conventions of this model (header of `Model/Shutdown.lean`):
* `handle_request` is not one step of the model but a run of `dRead` / `dEof` / `dReset` / `dHandle` / `dReply` steps (one per
  system call) between `dEnter` and the step that reaches `post` (`Ok`) or `fin e` (`Err(e)`): the event `handleRequest`
  *enters* the call (`pre ↦ hdr 0`, flow `inCall`); `returned r` reads the rest of the segment with the call's result;
* hold points set the daemon thread's program counter: `daemon.before_handle_request ↦ pre`,
  `daemon.after_handle_request_ok ↦ post`, `daemon.before_final_shutdown ↦ fin e` with `e` the value the loop was left with;
  `shutdown.between_flag_and_socket ↦ stored` for the caller at hand;
* `sockShutdown` is `shutdown(Both)` on our end (idempotent, result ignored); `join` returns once the daemon thread has
  returned (`exited e`: the thread's result is `Err(HandleRequest(e))`; panics are not modelled, so `map_err(WaitDaemon)?`
  does not fail), else it blocks;
* `self.main_thread.take()` / `self.conn_state.take()` empty `hasThread` / `hasConn`; `wait()` has no hold point: the model
  splits its one segment at `join` (`wJoin` = up to and including `join`, `wClassify` = the rest);
* patterns: `SocketBroken(_)` is the class `sockBroken`; `Err(Error::HandleRequest(_))` and `Err(error)` take every `err e`.
-/
namespace Lemmas.LtsShutdown
open Base Model.Shutdown Model.LtsTable

inductive Flow where
  | run
  | held (n : String)
  | ret
  | brkVal
  | blocked
  /-- inside `handle_request` -/
  | inCall
  /-- an arm that does not take the value -/
  | noMatch
  | spin
  deriving DecidableEq, Repr

structure SS where
  st : St
  flow : Flow
  /-- the shutdown caller at hand -/
  who : Nat
  /-- result of `handle_request`: `none` = `Ok` -/
  hr : Option Err
  /-- value of `let result = loop { .. }` -/
  result : Option Err
  /-- value of `handle.join()` -/
  joined : Option TRes
  /-- value of `let result = match .. { .. }` / of the function -/
  wres : Option WRes
  /-- value of the last guard -/
  val : Bool

def startS (st : St) : SS :=
  { st := st, flow := .run, who := 0, hr := none,
    result := (match st.d with
               | .fin e => some e
               | _ => none),
    joined := (match st.w with
               | .joined e => some (.err e)
               | .idle => none),
    wres := none, val := false }

def holdS (n : String) (s : SS) : SS :=
  { s with
    flow := .held n
    st := if n = "daemon.before_handle_request" then { s.st with d := .pre }
          else if n = "daemon.after_handle_request_ok" then { s.st with d := .post }
          else if n = "daemon.before_final_shutdown" then { s.st with d := .fin (s.result.getD default) }
          else if n = "shutdown.between_flag_and_socket" then { s.st with callers := upd s.st.callers s.who .stored }
          else s.st }

def valueS (v : String) (s : SS) : SS :=
  if v = "false" then { s with val := false }
  else if v = "Ok(())" then { s with wres := some .ok }
  else if v = "Err(error)" then
    { s with wres := (match s.joined with
                      | some (.err e) => some (.err e)
                      | _ => s.wres) }
  else if v = "result" then { s with flow := .ret }
  else s

def actS (a : LAct) (s : SS) : SS :=
  match a with
  | .hold n => holdS n s
  | .handleRequest _ => { s with st := { s.st with d := .hdr 0 }, flow := .inCall }
  | .brkVal _ => { s with flow := .brkVal }
  | .sockShutdown _ => { s with st := { s.st with shut := true } }
  | .atomicStore _ _ _ => { s with st := { s.st with flag := true } }
  | .atomicLoad _ _ => { s with val := s.st.flag }
  | .threadJoin _ _ =>
    (match s.st.d with
     | .exited e => { s with st := { s.st with w := .joined e }, joined := some (.err e) }
     | _ => { s with flow := .blocked })
  | .h (.setField n _) => if n = "conn_state" then { s with st := { s.st with hasConn := false } } else s
  | .h (.value v) => valueS v s
  | .h .ok => { s with wres := some .ok, flow := .ret }
  | .h .done => { s with flow := .ret }
  | _ => s

def patOkS (p : String) (s : SS) : Bool :=
  match s.joined with
  | some .ok => p = "Ok(())"
  | some (.err e) =>
    if p = "Err(Error::HandleRequest(VhostUserError::SocketBroken(_)))" then decide (e = .sockBroken)
    else p = "Err(Error::HandleRequest(_))" || p = "Err(error)"
  | none => false

def afterCallS (s : SS) : SS :=
  match s.flow with
  | .ret => { s with flow := .run }
  | _ => s

def endLoopS (s : SS) : SS :=
  match s.flow with
  | .brkVal => { s with flow := .run, result := s.hr }
  | .run => { s with flow := .spin }
  | _ => s

mutual
def evS : LEvent → SS → SS
  | .act a, s => actS a s
  | .node k ss b1 b2, s =>
    match k with
    | .ifLet => if s.hr.isSome then evsS b1 s else evsS b2 s
    | .letElse => if s.st.hasThread then { s with st := { s.st with hasThread := false } } else evsS b1 s
    | .ifSome =>
      if ss.headD "" = "self.conn_state.take()" then
        (if s.st.hasConn then evsS b1 { s with st := { s.st with hasConn := false } } else evsS b2 s)
      else (if s.st.hasConn then evsS b1 s else evsS b2 s)
    | .helperCall _ => afterCallS (evsS b1 s)
    | .loop => endLoopS (evsS b1 s)
    | .loopFrom =>
      let s1 := evsS b1 s
      (match s1.flow with
       | .run => endLoopS (evsS b2 s1)
       | .brkVal => { s1 with flow := .run, result := s1.hr }
       | _ => s1)
    | .matchOn => armsS b1 s
    | .arm =>
      if patOkS (ss.headD "") s then
        (if ss.getD 1 "" = "" then evsS b2 s
         else
          let s1 := evsS b1 s
          if s1.val then evsS b2 s1 else { s1 with flow := .noMatch })
      else { s with flow := .noMatch }
    | _ => s
def evsS : List LEvent → SS → SS
  | [], s => s
  | e :: es, s =>
    match (evS e s).flow with
    | .run => evsS es (evS e s)
    | _ => evS e s
def armsS : List LEvent → SS → SS
  | [], s => s
  | e :: es, s =>
    match (evS e s).flow with
    | .noMatch => armsS es { evS e s with flow := .run }
    | _ => evS e s
end

/-- the rest of the segment from `daemon.before_handle_request` once `handle_request` has returned `r` -/
def returned (r : Option Err) (st : St) : Option St :=
  let s := evsS (.loopFrom "" "result" daemonAfterCall daemonLoopTop :: daemonExit) { startS st with hr := r }
  match s.flow with
  | .held _ => some s.st
  | _ => none

def DPc.inCall : DPc → Bool
  | .hdr _ | .body _ _ | .handler _ | .reply _ => true
  | _ => false

/-- still inside `handle_request`, or out of it with a result -/
def DPc.inOrOut : DPc → Bool
  | .pre | .exited _ => false
  | _ => true

theorem inOrOut_afterHdr (r : Req) : DPc.inOrOut (afterHdr r) = true := by
  unfold afterHdr; (repeat' split) <;> rfl

theorem inOrOut_afterHandler (r : Req) : DPc.inOrOut (afterHandler r) = true := by
  unfold afterHandler; split <;> rfl

theorem inner_pc (s s' : St) (l : Lbl) (hin : DPc.inCall s.d = true) (hl : l.isDaemon = true)
    (h : step s l = some s') : DPc.inOrOut s'.d = true := by
  have h' := Lemmas.Shutdown.DStep.of_step hl h
  generalize s.d = d at h' hin
  cases h' <;> simp [DPc.inCall] at hin <;> first | rfl | simp only [inOrOut_afterHdr, inOrOut_afterHandler]

/-- `wait()` from its entry up to and including `join` -/
def interpWaitJoin (st : St) : Option St :=
  let s := evsS waitJoin (startS st)
  match s.flow with
  | .run => some s.st
  | _ => none

/-- the function returned: its result is recorded -/
def finishWait (s : SS) : Option St :=
  match s.flow with
  | .ret => s.wres.map fun r => { s.st with results := s.st.results ++ [r], w := .idle }
  | _ => none

-- what running a concrete segment unfolds
attribute [local simp] evsS evS armsS actS holdS valueS patOkS afterCallS endLoopS startS segOf lrowOf List.lookup

/-- `wJoin`: `main_thread.take()` and `join`; blocked (`none`) as long as the daemon thread has not returned -/
theorem wJoin_is_segment (s : St) (h : s.hasThread = true ∧ s.w = .idle ∧ s.dropped = false) :
    step s .wJoin = interpWaitJoin s := by
  obtain ⟨h1, h2, h3⟩ := h
  cases hd : s.d <;>
    simp [step, h1, h2, h3, hd, interpWaitJoin, waitJoin]

theorem classifyWait_err (e : Err) (flag : Bool) :
    classifyWait (.err e) flag = if e = .sockBroken then .ok else if flag then .ok else .err e := by
  cases e <;> cases flag <;> rfl

/-- `wClassify`: the four arms, the reset of the connection state, the result (`hasConn`: the closure reads the flag
through `conn_state`, which is there whenever there is a thread to join — `ConnInv`) -/
theorem wClassify_is_segment (s : St) (e : Err) (h : s.w = .joined e) (hc : s.hasConn = true) :
    step s .wClassify = finishWait (evsS waitClassify (startS s)) := by
  by_cases he : e = .sockBroken <;> cases hf : s.flag <;>
    simp [step, h, hc, hf, he, finishWait, waitClassify, resetConn, flagRead, classifyWait_err]

theorem evsS_append (a b : List LEvent) : ∀ s : SS, (evsS a s).flow = .run → evsS (a ++ b) s = evsS b (evsS a s) := by
  induction a with
  | nil => intro s _; rfl
  | cons e a ih =>
    intro s h
    simp only [List.cons_append, evsS] at h ⊢
    cases hf : (evS e s).flow with
    | run => simp only [hf] at h ⊢; exact ih _ h
    | _ => simp [hf] at h

/-- the whole of `wait()` with a thread to join that has returned: `wJoin` then `wClassify` -/
theorem wait_is_segment (s : St) (e : Err) (h : s.hasThread = true ∧ s.w = .idle ∧ s.dropped = false) (hd : s.d = .exited e)
    (hc : s.hasConn = true) :
    run s [.wJoin, .wClassify] = finishWait (evsS (waitJoin ++ waitClassify) (startS s)) := by
  have hj : evsS waitJoin (startS s) = startS { s with w := .joined e, hasThread := false } := by
    simp [waitJoin, h.1, h.2.1, hd]
  rw [evsS_append _ _ _ (by rw [hj]; rfl), hj, ← wClassify_is_segment { s with w := .joined e, hasThread := false } e rfl hc]
  simp only [run, wJoin_is_segment s h, interpWaitJoin, hj]
  show (match step { s with w := .joined e, hasThread := false } .wClassify with
        | none => none
        | some s' => some s') = _
  cases step { s with w := .joined e, hasThread := false } .wClassify <;> rfl

def interpDrop (st : St) : Option St :=
  let s := evsS (segOf shutdownSegments "daemon_drop" "entry") (startS st)
  match s.flow with
  | .ret => some { s.st with dropped := true }
  | _ => none

theorem drop_is_segment (s : St) (h : s.dropped = false ∧ s.w = .idle) : step s .drop = interpDrop s := by
  obtain ⟨h1, h2⟩ := h
  cases hc : s.hasConn <;> cases hs : s.shut <;>
    simp [step, h1, h2, hc, hs, interpDrop, shutdownSegments]

/-- what `wClassify_is_segment` assumes: `conn_state` and `main_thread` are set together by `start_daemon`; `wait()` empties
the first before, the second after `join` -/
def ConnInv (s : St) : Prop :=
  (s.hasThread = true → s.dropped = false → s.hasConn = true) ∧
  (∀ e, s.w = .joined e → s.hasConn = true ∧ s.dropped = false ∧ s.hasThread = false)

theorem connInv_init (reqs : List Req) (prev : List WRes) : ConnInv (init reqs prev) := by
  simp [ConnInv, init]

/-- only the rules of the daemon object's owner write the fields `ConnInv` reads; their guards say why it holds after -/
theorem connInv_step (s s' : St) (l : Lbl) (hi : ConnInv s) (h : step s l = some s') : ConnInv s' := by
  cases hd : l.isDaemon
  · obtain ⟨i1, i2⟩ := hi
    cases Lemmas.Shutdown.EStep.of_step hd h with
    | join _ _ | classify _ | noThread _ | drop _ => refine ⟨?_, ?_⟩ <;> simp_all
    | _ => exact ⟨i1, i2⟩
  · have h' := Lemmas.Shutdown.DStep.of_step hd h
    generalize s.d = d at h'
    cases h' <;> exact hi

end Lemmas.LtsShutdown
