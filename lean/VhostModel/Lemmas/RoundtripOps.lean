import VhostModel.Lemmas.RoundtripDefs
/-!
# C03, per operation: the reply bytes in terms of the caller's arguments, and what `finish` makes of them

* `actOut_*` — the closed form `Lemmas.Roundtrip.actOut` evaluated on the request body the frontend builds (the fields
  the server echoes — ring index, inflight geometry, configuration window — are the caller's arguments);
* `fin_*` — `Model.Frontend.finish` on the reply: the value returned is `expectedValue`, the state `feAfter`;
* `turn_device_state` — SET_DEVICE_STATE_FD, whose status word and optional file decide the result.
-/
namespace Lemmas.Roundtrip
open Base Model.Stream Model.Msgs Model.Frontend Lemmas.Encode
open Model.BackendSrv (Err Hdr bitSet BSt HOut Out Res replyHdr ackOf bodyValid)

theorem pow8 : (256 : Nat) ^ 8 = 2 ^ 64 := by decide
theorem pow4 : (256 : Nat) ^ 4 = 2 ^ 32 := by decide

theorem leVal8 (v : Nat) : leVal (leBytes 8 v) = v % 2^64 := by rw [leVal_leBytes_mod, pow8]
theorem leVal4 (v : Nat) : leVal (leBytes 4 v) = v % 2^32 := by rw [leVal_leBytes_mod, pow4]
theorem leBytes8_mod (v : Nat) : leBytes 8 (v % 2^64) = leBytes 8 v := by rw [← pow8, leBytes_mod]
theorem leBytes4_mod (v : Nat) : leBytes 4 (v % 2^32) = leBytes 4 v := by rw [← pow4, leBytes_mod]

theorem bvU64 (bs : Bytes) (h : bs.length = 8) : bodyValidTy "VhostUserU64" bs = some true := by
  rw [bodyValidTy_of _ _ (by decide) (by decide)]; exact Lemmas.Owed.bodyValid_u64 bs h

theorem bvVringState (bs : Bytes) (h : bs.length = 8) : bodyValidTy "VhostUserVringState" bs = some true := by
  rw [bodyValidTy_of _ _ (by decide) (by decide)]; exact Lemmas.Owed.bodyValid_vstate bs h

section
variable (bst : BSt) (hdr : Hdr) (h : HOut)

theorem actOut_setProtocolFeatures (v : Nat) (hv : v < 2^64) :
    actOut bst hdr (u64 v) h .setProtocolFeatures = ackOf ({ bst with ackedProto := v }).updateFlag hdr h.ok := by
  have f := dec_U64 [] v hv
  simp only [List.append_nil] at f
  simp only [actOut, srv_g _ _ _ _ f]

theorem actOut_getVringBase (i : Nat) (hi : i < 2^32) :
    actOut bst hdr (u32 i ++ u32 0) h .getVringBase =
      if h.ok then replyHdr hdr 8 ++ (leBytes 4 i ++ leBytes 4 h.v) else [] := by
  obtain ⟨f1, _⟩ := dec_VringState [] i 0 hi (by omega)
  simp only [List.append_nil] at f1
  simp only [actOut, srv_g _ _ _ _ f1, List.append_assoc]

theorem actOut_getInflight (ms mo nq qs : Nat) (h1 : ms < 2^64) (h2 : mo < 2^64) (h3 : nq < 2^16) (h4 : qs < 2^16) :
    actOut bst hdr (u64 ms ++ u64 mo ++ u16 nq ++ u16 qs ++ [0, 0, 0, 0]) h .getInflight =
      if h.ok then replyHdr hdr 24 ++ (u64 (h.v % 2^64) ++ u64 mo ++ u16 nq ++ u16 qs ++ [0, 0, 0, 0]) else [] := by
  obtain ⟨_, f2, f3, f4⟩ := dec_Inflight [0, 0, 0, 0] ms mo nq qs h1 h2 h3 h4
  simp only [actOut, srv_g _ _ _ _ f2, srv_g _ _ _ _ f3, srv_g _ _ _ _ f4]
  simp only [List.append_assoc, u64, u16, leBytes8_mod]

theorem actOut_getConfig (off size fl : Nat) (pl : Bytes) (ho : off < 2^32) (hs : size < 2^32) (hf : fl < 2^32) :
    actOut bst hdr (u32 off ++ u32 size ++ u32 fl ++ pl) h .getConfig =
      if h.ok && h.b.length == size then replyHdr hdr (12 + size) ++ leBytes 4 off ++ leBytes 4 size ++ leBytes 4 fl ++ h.b
      else replyHdr hdr 12 ++ leBytes 4 off ++ leBytes 4 0 ++ leBytes 4 fl := by
  obtain ⟨f1, f2, f3⟩ := dec_Config pl off size fl ho hs hf
  simp only [actOut, srv_g _ _ _ _ f1, srv_g _ _ _ _ f2, srv_g _ _ _ _ f3]

theorem actOut_getShmem :
    actOut bst hdr [] h .getShmem =
      if h.ok then replyHdr hdr 2056 ++ (leBytes 4 h.v ++ leBytes 4 0 ++ (h.b ++ List.replicate 2048 0).take 2048) else [] := by
  simp only [actOut, List.append_assoc]

end

theorem shmem_body_length (v : Nat) (b : Bytes) :
    (leBytes 4 v ++ leBytes 4 0 ++ (b ++ List.replicate 2048 0).take 2048).length = 2056 := by
  rw [List.length_append, List.length_append, leBytes_length, leBytes_length, List.length_take, List.length_append,
    List.length_replicate]; omega

/-- the request's inflight geometry was accepted by the server's validator ⇒ so is the reply's, which echoes it -/
theorem inflight_reply_valid (ms mo nq qs v : Nat) (h1 : ms < 2^64) (h2 : mo < 2^64) (h3 : nq < 2^16) (h4 : qs < 2^16)
    (hv : v < 2^64)
    (hreq : bodyValid "VhostUserInflight" (u64 ms ++ u64 mo ++ u16 nq ++ u16 qs ++ [0, 0, 0, 0]) = some true) :
    bodyValidTy "VhostUserInflight" (u64 v ++ u64 mo ++ u16 nq ++ u16 qs ++ [0, 0, 0, 0]) = some true := by
  obtain ⟨_, _, f3, f4⟩ := dec_Inflight [0, 0, 0, 0] ms mo nq qs h1 h2 h3 h4
  obtain ⟨_, _, g3, g4⟩ := dec_Inflight [0, 0, 0, 0] v mo nq qs hv h2 h3 h4
  rw [Lemmas.Owed.bodyValid_inflight _ (by simp [u64, u16]), srv_g _ _ _ _ f3, srv_g _ _ _ _ f4] at hreq
  rw [bodyValidTy_of _ _ (by decide) (by decide), Lemmas.Owed.bodyValid_inflight _ (by simp [u64, u16]),
    srv_g _ _ _ _ g3, srv_g _ _ _ _ g4]
  exact hreq

section
variable {s : FSt} {a : List Nat} {pl : Bytes} {fds : List Fd} {bad : Bool} {regs : List (Nat × Nat × Nat × Nat × Bool)}
  {h : HOut} {file : Fd} {hd : Hdr}

theorem fin_get_features :
    finish s ⟨"get_features", a, pl, fds, bad, regs⟩ ⟨hd, leBytes 8 h.v, [], none⟩ =
      (expectedValue ⟨"get_features", a, pl, fds, bad, regs⟩ h file, feAfter s ⟨"get_features", a, pl, fds, bad, regs⟩ h) := by
  show (Ret.val (leVal (leBytes 8 h.v)), ({ s with virtio := leVal (leBytes 8 h.v) } : FSt)) = _
  rw [leVal8]; rfl

theorem fin_get_protocol_features :
    finish s ⟨"get_protocol_features", a, pl, fds, bad, regs⟩ ⟨hd, leBytes 8 (h.v ||| 8), [], none⟩ =
      (expectedValue ⟨"get_protocol_features", a, pl, fds, bad, regs⟩ h file,
       feAfter s ⟨"get_protocol_features", a, pl, fds, bad, regs⟩ h) := by
  show (Ret.val (leVal (leBytes 8 (h.v ||| 8)) &&& (2^22 - 1)), ({ s with proto := leVal (leBytes 8 (h.v ||| 8)) } : FSt)) = _
  rw [leVal8]; rfl

theorem fin_get_max_mem_slots :
    finish s ⟨"get_max_mem_slots", a, pl, fds, bad, regs⟩ ⟨hd, leBytes 8 h.v, [], none⟩ =
      (expectedValue ⟨"get_max_mem_slots", a, pl, fds, bad, regs⟩ h file,
       feAfter s ⟨"get_max_mem_slots", a, pl, fds, bad, regs⟩ h) := by
  show (Ret.val (leVal (leBytes 8 h.v)), s) = _
  rw [leVal8]; rfl

theorem fin_get_queue_num_ok (hu : usable ⟨"get_queue_num", a, pl, fds, bad, regs⟩ h = true) :
    finish s ⟨"get_queue_num", a, pl, fds, bad, regs⟩ ⟨hd, leBytes 8 h.v, [], none⟩ =
      (expectedValue ⟨"get_queue_num", a, pl, fds, bad, regs⟩ h file, feAfter s ⟨"get_queue_num", a, pl, fds, bad, regs⟩ h) := by
  have hu' : (h.ok && decide (h.v % 2^64 ≤ 0x8000)) = true := hu
  simp only [Bool.and_eq_true, decide_eq_true_eq] at hu'
  show (if leVal (leBytes 8 h.v) > 0x8000 then (Ret.err Err.invalidMsg, s)
    else (Ret.val (leVal (leBytes 8 h.v)), ({ s with maxQ := leVal (leBytes 8 h.v) } : FSt))) = _
  rw [leVal8, if_neg (by omega)]; rfl

theorem fin_get_queue_num_err (hok : h.ok = true) (hu : usable ⟨"get_queue_num", a, pl, fds, bad, regs⟩ h = false) :
    finish s ⟨"get_queue_num", a, pl, fds, bad, regs⟩ ⟨hd, leBytes 8 h.v, [], none⟩ = (.err .invalidMsg, s) := by
  have hu' : (h.ok && decide (h.v % 2^64 ≤ 0x8000)) = false := hu
  simp only [hok, Bool.true_and, decide_eq_false_iff_not] at hu'
  show (if leVal (leBytes 8 h.v) > 0x8000 then (Ret.err Err.invalidMsg, s)
    else (Ret.val (leVal (leBytes 8 h.v)), ({ s with maxQ := leVal (leBytes 8 h.v) } : FSt))) = _
  rw [leVal8, if_pos (by omega)]

theorem fin_get_vring_base (i : Nat) (hi : i < 2^32) :
    finish s ⟨"get_vring_base", a, pl, fds, bad, regs⟩ ⟨hd, leBytes 4 i ++ leBytes 4 h.v, [], none⟩ =
      (expectedValue ⟨"get_vring_base", a, pl, fds, bad, regs⟩ h file, feAfter s ⟨"get_vring_base", a, pl, fds, bad, regs⟩ h) := by
  obtain ⟨_, f2⟩ := dec_VringState [] i (h.v % 2^32) hi (Nat.mod_lt _ (by decide))
  simp only [List.append_nil, u32, leBytes4_mod] at f2
  show (Ret.val (g (leBytes 4 i ++ leBytes 4 h.v) "VhostUserVringState" ["num"]), s) = _
  rw [fe_g _ _ _ _ f2]; rfl

theorem fin_check_device_state (v : Nat) (hv : v < 2^64) :
    finish s ⟨"check_device_state", a, pl, fds, bad, regs⟩ ⟨hd, leBytes 8 v, [], none⟩ =
      (if v != 0 then (.err .backendInternal, s) else (.unit, s)) := by
  show (if leVal (leBytes 8 v) != 0 then (Ret.err Err.backendInternal, s) else (Ret.unit, s)) = _
  rw [leVal_leBytes 8 v (by omega)]

theorem fin_get_inflight (x mo nq qs : Nat) (h2 : mo < 2^64) (h3 : nq < 2^16) (h4 : qs < 2^16) :
    finish s ⟨"get_inflight_fd", [x, mo, nq, qs], pl, fds, bad, regs⟩
        ⟨hd, u64 (h.v % 2^64) ++ u64 mo ++ u16 nq ++ u16 qs ++ [0, 0, 0, 0], [], some [file]⟩ =
      (expectedValue ⟨"get_inflight_fd", [x, mo, nq, qs], pl, fds, bad, regs⟩ h file,
       feAfter s ⟨"get_inflight_fd", [x, mo, nq, qs], pl, fds, bad, regs⟩ h) := by
  obtain ⟨f1, f2, f3, f4⟩ := dec_Inflight [0, 0, 0, 0] (h.v % 2^64) mo nq qs (Nat.mod_lt _ (by decide)) h2 h3 h4
  show (Ret.inflight (g _ "VhostUserInflight" ["mmap_size"]) (g _ "VhostUserInflight" ["mmap_offset"])
    (g _ "VhostUserInflight" ["num_queues"]) (g _ "VhostUserInflight" ["queue_size"]) file, s) = _
  rw [fe_g _ _ _ _ f1, fe_g _ _ _ _ f2, fe_g _ _ _ _ f3, fe_g _ _ _ _ f4]; rfl

theorem fin_device_state {v : Nat} (hv : v < 2^64) {files : Option (List Fd)} :
    finish s ⟨"set_device_state_fd", a, pl, fds, bad, regs⟩ ⟨hd, leBytes 8 v, [], files⟩ =
      (if v == 0x100 && files.isNone then (.noFile, s)
       else if v == 0 && files.isSome then
         (match takeSingle files with | some f => .file f | none => .err .incorrectFds, s)
       else (.err .backendInternal, s)) := by
  show (if leVal (leBytes 8 v) == 0x100 && files.isNone then (Ret.noFile, s)
       else if leVal (leBytes 8 v) == 0 && files.isSome then
         (match takeSingle files with | some f => Ret.file f | none => Ret.err Err.incorrectFds, s)
       else (Ret.err Err.backendInternal, s)) = _
  rw [leVal_leBytes 8 v (by omega)]

theorem sizes_length (b : Bytes) : ((b ++ List.replicate 2048 0).take 2048).length = 2048 := by
  rw [List.length_take, List.length_append, List.length_replicate]; omega

theorem fin_shmem :
    finish s ⟨"get_shmem_config", a, pl, fds, bad, regs⟩
        ⟨hd, leBytes 4 h.v ++ leBytes 4 0 ++ (h.b ++ List.replicate 2048 0).take 2048, [], none⟩ =
      (expectedValue ⟨"get_shmem_config", a, pl, fds, bad, regs⟩ h file,
       feAfter s ⟨"get_shmem_config", a, pl, fds, bad, regs⟩ h) := by
  have f1 := getField_enc (s := "VhostUserShMemConfig") (p := ["nregions"]) (off := 0) (w := 4) (by decide) []
    (leBytes 4 0 ++ (h.b ++ List.replicate 2048 0).take 2048) (h.v % 2^32) rfl (Nat.mod_lt _ (by decide))
  simp only [List.nil_append, leBytes4_mod, ← List.append_assoc] at f1
  have e : ((leBytes 4 h.v ++ leBytes 4 0 ++ (h.b ++ List.replicate 2048 0).take 2048).drop 8).take 2048 =
      (h.b ++ List.replicate 2048 0).take 2048 := by
    rw [drop_append_len _ _ 8 (by simp), List.take_of_length_le (by rw [sizes_length]; omega)]
  show (Ret.shmem (g _ "VhostUserShMemConfig" ["nregions"]) (((leBytes 4 h.v ++ leBytes 4 0 ++
    (h.b ++ List.replicate 2048 0).take 2048).drop 8).take 2048), s) = _
  rw [fe_g _ _ _ _ f1, e]; rfl

end

/-- **SET_DEVICE_STATE_FD**: status 0 with the handler's file, status 0x100 for "no file", anything else is a failure -/
theorem turn_device_state {σ : Type} {ch : Chooser σ} {cl : Bool} {s' : FSt} {a : List Nat} {pl : Bytes} {fds : List Fd}
    {bad : Bool} {regs : List (Nat × Nat × Nat × Nat × Bool)} {req : Req} {h : HOut} {d : Out} {cst : σ} {file : Fd}
    (hk : req.kind = .bodyOptFiles "VhostUserU64")
    (hout : d.out = replyHdr (reqHdr s' req) 8 ++ leBytes 8 (if !h.ok then 0x101 else if h.file then 0 else 0x100))
    (hfds : d.outFds = if !h.ok then 0 else if h.file then 1 else 0) (hq : ReqOk (reqHdr s' req)) :
    TurnSpec ch cl s' ⟨"set_device_state_fd", a, pl, fds, bad, regs⟩ req h d cst file := by
  have hv : (if !h.ok then 0x101 else if h.file then 0 else 0x100) < 2^64 := by cases h.ok <;> cases h.file <;> decide
  obtain ⟨r1, r2⟩ := recv_bodyOptFiles_reply ch cl s' req cst "VhostUserU64" 8
    (leBytes 8 (if !h.ok then 0x101 else if h.file then 0 else 0x100)) (List.replicate d.outFds file) hk
    Lemmas.FeRecv.so_U64 (by simp) (by omega) (bvU64 _ (by simp)) hq (by rw [hfds]; cases h.ok <;> cases h.file <;> simp)
  rw [← hout] at r1 r2
  refine .of_recv (by simp [awaits, hk]) (fun hu => ⟨_, r2, r1, ?_⟩) (fun hu => .inr (.inr ⟨_, .backendInternal, r2, ?_⟩))
  · have hok : h.ok = true := hu
    rw [hfds, fin_device_state hv]
    show _ = ((if h.file = true then Ret.file file else Ret.noFile), s')
    cases hf : h.file <;> simp [hok, takeSingle]
  · have hok : h.ok = false := hu
    rw [hfds, fin_device_state hv]
    simp [hok]

end Lemmas.Roundtrip
