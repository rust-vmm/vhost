import VhostModel.Model.Vring
import VhostModel.Spec.Vring
import VhostModel.Lemmas.MemTable
import VhostModel.Lemmas.Bits
/-! helper lemmas for `Props/C14.lean` -/
namespace Lemmas.Vring
open Model.Vring

/-! ### powers of two and the `n & (n - 1)` test -/

theorem pow2_and_pred (k : Nat) : (2^k) &&& (2^k - 1) = 0 := by
  rw [Nat.and_two_pow_sub_one_eq_mod]; simp

/-- a positive number that is not a power of two shares its top bit with its predecessor -/
theorem and_pred_ne_zero {n : Nat} (hn : n ≠ 0) (hp : ¬ Spec.Vring.IsPow2 n) : n &&& (n - 1) ≠ 0 := by
  have h1 : 2 ^ n.log2 ≤ n := Nat.log2_self_le hn
  have h2 : n < 2 ^ (n.log2 + 1) := Nat.lt_log2_self
  have hne : n ≠ 2 ^ n.log2 := fun e => hp ⟨n.log2, e⟩
  have h3 : 2 ^ n.log2 ≤ n - 1 := by omega
  have tb : ∀ m, 2 ^ n.log2 ≤ m → m < 2 ^ (n.log2 + 1) → m.testBit n.log2 = true := by
    intro m hm1 hm2
    rw [Nat.testBit_eq_decide_div_mod_eq]
    have : m / 2 ^ n.log2 = 1 := by
      have hpos : 0 < 2 ^ n.log2 := Nat.two_pow_pos _
      apply Nat.div_eq_of_lt_le
      · simpa using hm1
      · rw [Nat.pow_succ] at hm2; omega
    simp [this]
  intro h0
  have := Nat.testBit_and n (n - 1) n.log2
  rw [h0, Nat.zero_testBit, tb n h1 h2, tb (n - 1) h3 (by omega)] at this
  simp at this

theorem isPow2_iff (n : Nat) : isPow2 n = true ↔ Spec.Vring.IsPow2 n := by
  unfold isPow2
  constructor
  · intro h
    simp only [Bool.and_eq_true, bne_iff_ne, ne_eq, beq_iff_eq] at h
    by_cases hp : Spec.Vring.IsPow2 n
    · exact hp
    · exact absurd h.2 (and_pred_ne_zero h.1 hp)
  · rintro ⟨k, rfl⟩
    simp only [Bool.and_eq_true, bne_iff_ne, ne_eq, beq_iff_eq]
    exact ⟨Nat.ne_of_gt (Nat.two_pow_pos _), pow2_and_pred k⟩

/-- `try_set_size` accepts exactly the powers of two up to the maximum, and then only changes the size -/
theorem trySetSize_eq_some_iff (q q' : Queue) (n : Nat) :
    q.trySetSize n = some q' ↔ (n ≤ q.maxSize ∧ Spec.Vring.IsPow2 n ∧ q' = { q with size := n }) := by
  rw [← isPow2_iff]
  simp only [Queue.trySetSize, isPow2, Bool.or_eq_true, decide_eq_true_eq, beq_iff_eq, bne_iff_ne, ne_eq,
    Bool.and_eq_true]
  split
  · rename_i hc; simp only [reduceCtorEq, false_iff]; rintro ⟨h1, ⟨h2, h3⟩, _⟩; omega
  · rename_i hc
    simp only [not_or, Nat.not_lt, Decidable.not_not] at hc
    simp only [Option.some.injEq, hc, not_false_eq_true, and_self, true_and, eq_comm]

theorem setSize_pow2 (q : Queue) (n : Nat) (h1 : n ≤ q.maxSize) (h2 : Spec.Vring.IsPow2 n) :
    q.setSize n = { q with size := n } := by
  rw [Queue.setSize, (trySetSize_eq_some_iff q _ n).2 ⟨h1, h2, rfl⟩]

theorem setSize_not_pow2 (q : Queue) (n : Nat) (h : ¬ Spec.Vring.IsPow2 n) : q.setSize n = q := by
  unfold Queue.setSize
  cases ht : q.trySetSize n with
  | none => rfl
  | some q' => exact absurd ((trySetSize_eq_some_iff q q' n).1 ht).2.1 h

/-! ### rings of a daemon -/

theorem setRing_length (d : Daemon) (i : Nat) (f : Vring → Vring) : (d.setRing i f).vrings.length = d.vrings.length := by
  simp [Daemon.setRing]

theorem setRing_get (d : Daemon) (i j : Nat) (f : Vring → Vring) :
    (d.setRing i f).vrings[j]? = (d.vrings[j]?).map fun v => if i = j then f v else v := by
  simp [Daemon.setRing, List.getElem?_modify]

theorem setRing_get_self (d : Daemon) (i : Nat) (f : Vring → Vring) : (d.setRing i f).vrings[i]? = (d.vrings[i]?).map f := by
  simp [setRing_get]

theorem setRing_get_ne {d : Daemon} {i j : Nat} {f : Vring → Vring} (h : i ≠ j) : (d.setRing i f).vrings[j]? = d.vrings[j]? := by
  simp [setRing_get, h]

/-! ### feature masks -/

theorem and_not_eq_zero_iff_subset (f o : BitVec 64) :
    f &&& ~~~o = 0 ↔ Spec.Vring.FeaturesSubset o.toNat f.toNat := by
  unfold Spec.Vring.FeaturesSubset
  constructor
  · intro h i hi
    rw [BitVec.testBit_toNat] at hi ⊢
    have := congrArg (fun v => v.getLsbD i) h
    simp only [BitVec.getLsbD_and, BitVec.getLsbD_not] at this
    by_cases hlt : i < 64
    · simp [hi, hlt] at this; exact this
    · have : f.getLsbD i = false := BitVec.getLsbD_of_ge f i (by omega)
      rw [this] at hi; cases hi
  · intro h
    apply BitVec.eq_of_getLsbD_eq
    intro i hi
    simp only [BitVec.getLsbD_and, BitVec.getLsbD_not, hi, decide_true, Bool.true_and]
    cases hf : f.getLsbD i with
    | false => simp
    | true =>
      have := h i (by rw [BitVec.testBit_toNat]; exact hf)
      rw [BitVec.testBit_toNat] at this
      simp [this]

/-- `acked & mask != 0` for a one-bit mask is that bit -/
theorem protoBit_eq (d : Daemon) (k : Nat) (hk : k < 64) : protoBit d (2^k) = d.ackedProto.getLsbD k := by
  have e : (d.ackedProto &&& BitVec.ofNat 64 (2^k)).toNat = d.ackedProto.toNat &&& 2^k := by
    rw [BitVec.toNat_and, BitVec.toNat_ofNat, Nat.mod_eq_of_lt (Nat.pow_lt_pow_right (by omega) hk)]
  rw [protoBit, Bool.eq_iff_iff, bne_iff_ne, ne_eq, BitVec.toNat_eq, e, Base.and_two_pow, ← BitVec.testBit_toNat]
  cases d.ackedProto.toNat.testBit k
  · simp
  · simp
/-! ### shapes of the queue operations -/
theorem proj_setRing {α} (d : Daemon) (i j : Nat) (f : Vring → Vring) (P : Vring → α)
    (h : ∀ v, d.vrings[i]? = some v → P (f v) = P v) :
    ((d.setRing i f).vrings[j]?).map P = (d.vrings[j]?).map P := by
  rw [setRing_get]
  cases hj : d.vrings[j]? with
  | none => rfl
  | some v =>
    by_cases e : i = j
    · subst e; simp [h v hj]
    · simp [e]

theorem setSize_shape (q : Queue) (n : Nat) : ∃ s, q.setSize n = { q with size := s } := by
  unfold Queue.setSize
  cases ht : q.trySetSize n with
  | none => exact ⟨q.size, rfl⟩
  | some q' => exact ⟨n, ((trySetSize_eq_some_iff q q' n).1 ht).2.2⟩

/-- `set_queue_info` installs the three addresses one after the other and stops at the first misaligned one: whatever the
outcome only these three fields change, and on success they are the arguments -/
theorem setQueueInfo_cases (q : Queue) (a b c : Nat) :
    ∃ x y z ok, q.setQueueInfo a b c = ({ q with descTable := x, availRing := y, usedRing := z }, ok) ∧
      (ok = true → a % 16 = 0 ∧ b % 2 = 0 ∧ c % 4 = 0 ∧ a = x ∧ b = y ∧ c = z) := by
  unfold Queue.setQueueInfo Queue.trySetDesc Queue.trySetAvail Queue.trySetUsed
  by_cases h1 : (a % 16 != 0) = true
  · simp only [h1, if_true]; exact ⟨_, _, _, false, rfl, nofun⟩
  · simp only [h1]
    by_cases h2 : (b % 2 != 0) = true
    · simp only [h2, if_true]; exact ⟨_, _, _, false, rfl, nofun⟩
    · simp only [h2]
      by_cases h3 : (c % 4 != 0) = true
      · simp only [h3, if_true]; exact ⟨_, _, _, false, rfl, nofun⟩
      · simp only [h3]
        exact ⟨_, _, _, true, rfl, fun _ => ⟨by simpa using h1, by simpa using h2, by simpa using h3, rfl, rfl, rfl⟩⟩

/-- `add_used` fails having changed at most the two counters of the queue, or it has written the element at the slot and
stored the incremented index -/
theorem addUsed_cases (q : Queue) (m : GuestMem) (head len : Nat) :
    (∃ nu na m', q.addUsed m head len = ({ q with nextUsed := nu, numAdded := na }, m', false)) ∨
    (head < q.size ∧ ∃ m1 m2,
      m.writeBytes (Spec.Vring.usedSlot q.usedRing q.nextUsed q.size) (le32 head ++ le32 len) = (true, m1) ∧
      m1.storeU16 (Spec.Vring.usedIdxAddr q.usedRing) ((q.nextUsed + 1) % 65536) = some m2 ∧
      q.addUsed m head len =
        ({ q with nextUsed := (q.nextUsed + 1) % 65536, numAdded := (q.numAdded + 1) % 65536 }, m2, true)) := by
  have hslot : q.usedRing + (4 + q.nextUsed % q.size * 8) = Spec.Vring.usedSlot q.usedRing q.nextUsed q.size := by
    unfold Spec.Vring.usedSlot; omega
  unfold Queue.addUsed
  by_cases h1 : head ≥ q.size
  · simp only [h1, if_true]; exact .inl ⟨_, _, _, rfl⟩
  · simp only [h1, if_false]
    by_cases h2 : ¬ q.usedRing + (4 + q.nextUsed % q.size * 8) < 2^64
    · simp only [h2]; exact .inl ⟨_, _, _, rfl⟩
    · simp only [h2, if_false]
      cases hw : m.writeBytes (q.usedRing + (4 + q.nextUsed % q.size * 8)) (le32 head ++ le32 len) with
      | mk ok m1 =>
        cases ok with
        | false => exact .inl ⟨_, _, _, rfl⟩
        | true =>
          simp only []
          by_cases h3 : ¬ q.usedRing + 2 < 2^64
          · simp only [h3]; exact .inl ⟨_, _, _, rfl⟩
          · simp only [h3, if_false]
            cases hs : m1.storeU16 (q.usedRing + 2) ((q.nextUsed + 1) % 65536) with
            | none => exact .inl ⟨_, _, _, rfl⟩
            | some m2 => exact .inr ⟨by omega, m1, m2, hslot ▸ hw, hs, rfl⟩

theorem setQueueInfo_nextAvail {q q1 : Queue} {a b c : Nat} {ok : Bool} (h : q.setQueueInfo a b c = (q1, ok)) :
    q1.nextAvail = q.nextAvail := by
  obtain ⟨x, y, z, _, e, _⟩ := setQueueInfo_cases q a b c
  rw [h] at e
  cases e
  rfl

/-- which ring's next-available index a message sets -/
def setsBase (i : Nat) : Msg → Bool
  | .setVringBase idx _ => idx.toNat == i
  | _ => false

theorem step_length (d : Daemon) (m : Msg) : (step d m).1.vrings.length = d.vrings.length := by
  cases m <;> simp only [step] <;> (repeat' split) <;> simp [setRing_length]

theorem step_nextAvail (d : Daemon) (m : Msg) (i : Nat) (h : setsBase i m = false) :
    ((step d m).1.vrings[i]?).map (·.queue.nextAvail) = (d.vrings[i]?).map (·.queue.nextAvail) := by
  cases m with
  | setVringNum index num =>
    simp only [step]
    repeat' split
    all_goals first
      | rfl
      | (apply proj_setRing; intro v _; obtain ⟨s, hs⟩ := setSize_shape v.queue (num.toNat % 65536); simp [hs])
  | setVringAddr index desc used avail =>
    simp only [step]
    split
    · rfl
    · rename_i v0 hv0
      split
      · rfl
      · split
        · rfl
        · split
          · rfl
          · split
            · rfl
            · split
              · rename_i q1 hq
                apply proj_setRing; intro v hv
                rw [hv0] at hv; cases hv
                exact setQueueInfo_nextAvail hq
              · rename_i q1 hq
                split
                · apply proj_setRing; intro v hv
                  rw [hv0] at hv; cases hv
                  exact setQueueInfo_nextAvail hq
                · apply proj_setRing; intro v hv
                  rw [hv0] at hv; cases hv
                  exact (setQueueInfo_nextAvail hq : q1.nextAvail = v0.queue.nextAvail)
  | setVringBase index base =>
    simp only [step]
    split
    · rfl
    · simp only [setsBase, beq_eq_false_iff_ne, ne_eq] at h
      rw [setRing_get_ne h]
  | getVringBase index =>
    simp only [step]
    split
    · rfl
    · apply proj_setRing; intro v _; rfl
  | setVringKick p fd =>
    simp only [step]
    split
    · rfl
    · apply proj_setRing; intro v _; unfold initIfNeeded; split <;> rfl
  | setVringCall p fd =>
    simp only [step]
    split
    · rfl
    · apply proj_setRing; intro v _; unfold initIfNeeded; split <;> rfl
  | setVringErr p fd =>
    simp only [step]
    split
    · rfl
    · apply proj_setRing; intro v _; rfl
  | setVringEnable index en =>
    simp only [step]
    repeat' split
    all_goals first | rfl | (apply proj_setRing; intro v _; rfl)
  | setFeatures f =>
    simp only [step]
    split
    · rfl
    · simp only [List.getElem?_map]
      cases d.vrings[i]? <;> rfl
  | setProtocolFeatures f => rfl
  | setBackendReqFd => rfl
  | mem op =>
    simp only [step]
    split <;> rfl
  | addUsed ring head len =>
    simp only [step]
    split
    · rfl
    · rename_i v0 hv0
      show (({ d.setRing ring _ with files := _ } : Daemon).vrings[i]?).map _ = _
      apply proj_setRing; intro v hv
      rw [hv0] at hv; cases hv
      obtain ⟨_, _, _, e⟩ | ⟨_, _, _, _, _, e⟩ := addUsed_cases v0.queue d.guestMem head len <;> simp [e]
  | signalUsed ring =>
    simp only [step]
    repeat' split
    all_goals rfl

theorem run_nextAvail (d : Daemon) (ms : List Msg) (i : Nat) (h : ∀ m ∈ ms, setsBase i m = false) :
    ((run d ms).1.vrings[i]?).map (·.queue.nextAvail) = (d.vrings[i]?).map (·.queue.nextAvail) := by
  induction ms generalizing d with
  | nil => rfl
  | cons m ms ih =>
    simp only [run]
    rw [ih _ (fun x hx => h x (List.mem_cons_of_mem _ hx)), step_nextAvail d m i (h m (by simp))]

/-! ### what a message does to the memory table, the protocol features and the call descriptors -/

def memOp? : Msg → Option Spec.MemTable.Op
  | .mem op => some op
  | _ => none

theorem step_mem (d : Daemon) (m : Msg) :
    (step d m).1.mem = (match memOp? m with | some op => (Model.MemTable.step d.mem op).1 | none => d.mem) ∧
    (∀ op, m = .mem op → ((step d m).2 = .ok .unit ↔ (Model.MemTable.step d.mem op).2 = true)) := by
  cases m with
  | mem op =>
    simp only [step, memOp?]
    obtain e | ⟨_, _, e, _⟩ := Lemmas.MemTable.step_cases d.mem op <;> simp [e]
  -- every branch of every other request leaves `mem` as it is
  | _ => simp only [step, memOp?]; (repeat' split) <;> simp [Daemon.setRing]

/-- the memory requests of a history -/
def memOps : List Msg → List Spec.MemTable.Op
  | [] => []
  | m :: ms => match memOp? m with
    | some op => op :: memOps ms
    | none => memOps ms

theorem run_mem (d : Daemon) (ms : List Msg) :
    (run d ms).1.mem = (Model.MemTable.run d.mem (memOps ms)).1 := by
  induction ms generalizing d with
  | nil => rfl
  | cons m ms ih =>
    simp only [run, memOps]
    rw [ih]
    have := (step_mem d m).1
    cases hm : memOp? m with
    | none => simp only [hm] at this ⊢; rw [this]
    | some op => simp only [hm] at this ⊢; simp only [Model.MemTable.run]; rw [this]

/-- the call-descriptor event of a message (only accepted messages count: the index must be a ring) -/
def callEvOf (n : Nat) : Msg → Option Spec.Vring.CallEv
  | .setVringCall p fd => if fdIndex p < n then some (.install (fdIndex p) fd) else none
  | .getVringBase idx => if idx.toNat < n then some (.stop idx.toNat) else none
  | _ => none

def callEvs (n : Nat) (ms : List Msg) : List Spec.Vring.CallEv := ms.filterMap (callEvOf n)

theorem initIfNeeded_call (v : Vring) : (initIfNeeded v).call = v.call := by
  unfold initIfNeeded; split <;> rfl

theorem step_call (d : Daemon) (m : Msg) (i : Nat) :
    ((step d m).1.vrings[i]?).map (·.call) =
      (d.vrings[i]?).map fun v => match callEvOf d.vrings.length m with
        | some ev => Spec.Vring.callStep i v.call ev
        | none => v.call := by
  cases m with
  | setVringNum index num =>
    simp only [step, callEvOf]
    repeat' split
    all_goals first
      | rfl
      | (apply proj_setRing; intro v _; rfl)
  | setVringAddr index desc used avail =>
    simp only [step, callEvOf]
    repeat' split
    all_goals first
      | rfl
      | (apply proj_setRing; intro v _; rfl)
  | setVringBase index base =>
    simp only [step, callEvOf]
    split
    · rfl
    · apply proj_setRing; intro v _; rfl
  | getVringBase index =>
    simp only [step, callEvOf]
    split
    · rename_i hnone
      simp [Nat.not_lt.2 (List.getElem?_eq_none_iff.1 hnone)]
    · rename_i v0 hv0
      have hlt : index.toNat < d.vrings.length := (List.getElem?_eq_some_iff.1 hv0).1
      simp only [hlt, if_true, Spec.Vring.callStep]
      by_cases e : index.toNat = i
      · subst e; simp [setRing_get_self, Function.comp_def]
      · simp [setRing_get_ne e, e]
  | setVringKick p fd =>
    simp only [step, callEvOf]
    split
    · rfl
    · apply proj_setRing; intro v _; rw [initIfNeeded_call]
  | setVringCall p fd =>
    simp only [step, callEvOf]
    split
    · rename_i hnone
      simp [Nat.not_lt.2 (List.getElem?_eq_none_iff.1 hnone)]
    · rename_i v0 hv0
      have hlt : fdIndex p < d.vrings.length := (List.getElem?_eq_some_iff.1 hv0).1
      simp only [hlt, if_true, Spec.Vring.callStep]
      by_cases e : fdIndex p = i
      · subst e; simp [setRing_get_self, Function.comp_def, initIfNeeded_call]
      · simp [setRing_get_ne e, e]
  | setVringErr p fd =>
    simp only [step, callEvOf]
    split
    · rfl
    · apply proj_setRing; intro v _; rfl
  | setVringEnable index en =>
    simp only [step, callEvOf]
    repeat' split
    all_goals first | rfl | (apply proj_setRing; intro v _; rfl)
  | setFeatures f =>
    simp only [step, callEvOf]
    split
    · rfl
    · simp only [List.getElem?_map]
      cases d.vrings[i]? <;> rfl
  | setProtocolFeatures f => rfl
  | setBackendReqFd => rfl
  | mem op =>
    simp only [step, callEvOf]
    split <;> rfl
  | addUsed ring head len =>
    simp only [step, callEvOf]
    split
    · rfl
    · show (({ d.setRing ring _ with files := _ } : Daemon).vrings[i]?).map _ = _
      apply proj_setRing; intro v _; rfl
  | signalUsed ring =>
    simp only [step, callEvOf]
    repeat' split
    all_goals rfl

theorem run_length (d : Daemon) (ms : List Msg) : (run d ms).1.vrings.length = d.vrings.length := by
  induction ms generalizing d with
  | nil => rfl
  | cons m ms ih => simp only [run]; rw [ih, step_length]

theorem run_call (d : Daemon) (ms : List Msg) (i : Nat) :
    ((run d ms).1.vrings[i]?).map (·.call) =
      (d.vrings[i]?).map fun v => (callEvs d.vrings.length ms).foldl (Spec.Vring.callStep i) v.call := by
  induction ms generalizing d with
  | nil => simp [run, callEvs]
  | cons m ms ih =>
    simp only [run]
    rw [ih, step_length]
    have hs := step_call d m i
    cases hv : d.vrings[i]? with
    | none =>
      rw [hv] at hs
      simp only [Option.map_none, Option.map_eq_none_iff] at hs
      simp [hs]
    | some v =>
      rw [hv] at hs
      simp only [Option.map_some] at hs
      cases hv' : (step d m).1.vrings[i]? with
      | none => rw [hv'] at hs; simp at hs
      | some v' =>
        rw [hv'] at hs
        simp only [Option.map_some, Option.some.injEq] at hs
        simp only [Option.map_some, callEvs, List.filterMap_cons]
        cases he : callEvOf d.vrings.length m with
        | none => simp only [he] at hs ⊢; rw [hs]
        | some ev => simp only [he] at hs ⊢; rw [List.foldl_cons, hs]

/-! ### guest memory writes -/

theorem writeBytes_regions (m : GuestMem) (a : Nat) (bs : List UInt8) : (m.writeBytes a bs).2.regions = m.regions := by
  induction bs generalizing m a with
  | nil => rfl
  | cons b bs ih =>
    unfold GuestMem.writeBytes
    split
    · rfl
    · rw [ih]

/-- a successful write found a file cell behind every byte address -/
theorem writeBytes_ok_located (m m1 : GuestMem) (a : Nat) (bs : List UInt8) (h : m.writeBytes a bs = (true, m1)) :
    ∀ k, k < bs.length → (Model.MemTable.locate m.regions (a + k)).isSome = true := by
  induction bs generalizing m a with
  | nil => intro k hk; cases hk
  | cons b bs ih =>
    unfold GuestMem.writeBytes at h
    split at h
    · cases h
    · rename_i fs hw
      intro k hk
      cases k with
      | zero =>
        unfold Model.MemTable.writeByte at hw
        cases hl : Model.MemTable.locate m.regions a with
        | none => simp [hl] at hw
        | some c => simp
      | succ k =>
        have := ih { m with files := fs } (a + 1) h k (by simpa using hk)
        have e : a + (k + 1) = a + 1 + k := by omega
        rw [e]; exact this

theorem storeU16_load (m m2 : GuestMem) (a v : Nat) (hv : v < 65536) (h : m.storeU16 a v = some m2) :
    m2.loadU16 a = some v ∧ m2.regions = m.regions := by
  unfold GuestMem.storeU16 at h
  cases hc : m.u16Cell a with
  | none => simp [hc] at h
  | some c =>
    obtain ⟨f, o⟩ := c
    simp only [hc, Option.map_some, Option.some.injEq] at h
    subst h
    refine ⟨?_, rfl⟩
    have hc' : ({ m with files := (m.files.set f o (UInt8.ofNat (v % 256))).set f (o + 1) (UInt8.ofNat (v / 256 % 256)) } :
        GuestMem).u16Cell a = some (f, o) := by
      unfold GuestMem.u16Cell at hc ⊢
      exact hc
    unfold GuestMem.loadU16
    rw [hc']
    simp only [Option.map_some, Model.MemTable.Files.set]
    have h1 : ¬ (o = o + 1) := by omega
    simp only [true_and, h1, if_false, and_self, if_true, Option.some.injEq]
    have e1 : (UInt8.ofNat (v % 256)).toNat = v % 256 := by
      simp [UInt8.toNat_ofNat']
    have e2 : (UInt8.ofNat (v / 256 % 256)).toNat = v / 256 % 256 := by
      simp [UInt8.toNat_ofNat']
    rw [e1, e2]; omega

/-- a located cell is a cell the property's table names -/
theorem locate_some_backed {s : Model.MemTable.St} {T : List Spec.MemTable.Region} (h : Lemmas.MemTable.Rel s T)
    {g : Nat} (hl : (Model.MemTable.locate s.regions g).isSome = true) :
    ∃ f o, Model.MemTable.locate s.regions g = some (f, o) ∧ Spec.MemTable.backedBy T g f o := by
  unfold Model.MemTable.locate at hl ⊢
  cases hf : Model.MemTable.findRegion s.regions g with
  | none => simp [hf] at hl
  | some r =>
    unfold Model.MemTable.findRegion at hf
    have hmem := List.mem_of_find?_eq_some hf
    have hc := List.find?_some hf
    have hx : r ∈ T.map Lemmas.MemTable.toMem := (h.regions.mem_iff).mp hmem
    obtain ⟨t, ht, rfl⟩ := List.mem_map.mp hx
    refine ⟨_, _, rfl, t, ht, ?_, rfl, rfl⟩
    rw [Lemmas.MemTable.contains_iff] at hc
    exact hc

end Lemmas.Vring
