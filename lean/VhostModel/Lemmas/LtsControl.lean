import VhostModel.Model.LtsTable
import VhostModel.Lemmas.Worker
/-!
# Reading the segments of the control paths in `Model.Worker` (C12, control side)

`evsC` interprets a segment of `set_vring_enable` / `reset_device` / `get_vring_base` / `set_vring_kick` (with the private
helpers `update_vring_registration`, `unregister_vring_kick`, `initialize_vring` run through their own events down to
`epollRegister` / `epollUnregister`) on the state of `Model.Worker`, until the next hold point or the method's return.

Reading conventions of this model (header of `Model/Worker.lean`):
* one ring, one worker: the loop over `self.queues_per_thread` runs its body once and the mask test holds; the loop over
  `self.vrings` of `reset_device` runs once; the guards `check_feature` / `indexBound` pass;
* `enable` is the argument of SET_VRING_ENABLE (`true` for `CMsg.enable`); `file` is a fresh descriptor (`next`) for
  `CMsg.restart` and `None` for `CMsg.nofd`;
* `epollRegister` adds the descriptor (`EEXIST` tolerated, no other failure), `epollUnregister` removes it;
* a hold point sets the stage of the message: `ctl.state ↦ 1`, `ctl.epoll ↦ 2`, `ctl.drop ↦ 3`; for SET_VRING_KICK the model
  numbers `ctl.state ↦ 1` if the guard of the next segment holds and `2` if not, `ctl.ready ↦ 2`, `ctl.epoll ↦ 3`
  (`StageInv`: the guard cannot change while the control thread waits at `ctl.state`, no other thread writes `ready` / `kick`);
  the method's return is the reply;
* the queue configuration, the feature words and the backend callbacks are not this model's;
* ghost: `noteDisable` with `set_enabled(false)`, `noteStop` with `set_queue_ready(false)`.
-/
namespace Lemmas.LtsControl
open Base Model.Worker Spec.KickDelivery Model.LtsTable

inductive Flow where
  | run
  | held (n : String)
  | ret
  | brk
  deriving DecidableEq, Repr

structure CS where
  st : St
  m : CMsg
  flow : Flow
  /-- `fd` of `if let Some(fd) = vring_state.get_kick()` -/
  fd : Option Evt

def startC (st : St) (m : CMsg) : CS := ⟨st, m, .run, none⟩

/-- the guard of `set_vring_kick` after `ctl.state`: `vring_needs_init`, or `!ready` in the mutated code -/
def guardC (st : St) : Bool := if st.cfg.nofdStarts then !st.ready else (!st.ready && st.kick.isSome)

def stageAt (n : String) (s : CS) : Nat :=
  if n = "ctl.state" then
    (match s.m with
     | .restart | .nofd => if guardC s.st then 1 else 2
     | _ => 1)
  else if n = "ctl.ready" then 2
  else if n = "ctl.epoll" then
    (match s.m with
     | .restart | .nofd => 3
     | _ => 2)
  else 3

def boolArgC (a : String) (s : CS) : Bool :=
  if a = "true" then true else if a = "enable" then decide (s.m = .enable) else false

def vringCallC (m a : String) (s : CS) : CS :=
  if m = "set_enabled" then
    (if boolArgC a s then { s with st := { s.st with enabled := true } }
     else { s with st := noteDisable { s.st with enabled := false } })
  else if m = "set_queue_ready" then
    (if boolArgC a s then { s with st := { s.st with ready := true } }
     else { s with st := noteStop { s.st with ready := false } })
  else if m = "set_kick" then
    (if a = "file" ∧ s.m = .restart then { s with st := { s.st with kick := some s.st.next, next := s.st.next + 1 } }
     else { s with st := { s.st with kick := none } })
  else s

def actC (a : LAct) (s : CS) : CS :=
  match a with
  | .hold n => { s with st := { s.st with cpc := .inMsg s.m (stageAt n s) }, flow := .held n }
  | .h (.vringCall m [a]) => vringCallC m a s
  | .h (.epollRegister _ _) =>
    (match s.fd with
     | some d => { s with st := { s.st with reg := upd s.st.reg d true } }
     | none => s)
  | .h .epollUnregister =>
    (match s.fd with
     | some d => { s with st := { s.st with reg := upd s.st.reg d false } }
     | none => s)
  | .h .brk => { s with flow := .brk }
  | .h .ok | .h .done | .h (.okValue _) => { s with flow := .ret }
  | _ => s

def condC (c : String) (s : CS) : Bool :=
  if c = ownsRing then true
  else if c = readyEnabled then s.st.ready && s.st.enabled
  else if c = needsInit then !s.st.ready && s.st.kick.isSome
  else if c = notReady then !s.st.ready
  else false

def afterCallC (s0 s : CS) : CS :=
  match s.flow with
  | .ret => { s with flow := .run, fd := s0.fd }
  | _ => s

def endForC (s : CS) : CS :=
  match s.flow with
  | .brk => { s with flow := .run }
  | _ => s

mutual
def evC : LEvent → CS → CS
  | .act a, s => actC a s
  | .node k ss b1 b2, s =>
    match k with
    | .ifCond => if condC (ss.headD "") s then evsC b1 s else evsC b2 s
    | .ifSome =>
      (match s.st.kick with
       | some d => evsC b1 { s with fd := some d }
       | none => evsC b2 s)
    | .helperCall _ => afterCallC s (evsC b1 s)
    | .forEach => endForC (evsC b1 s)
    | .forEachVring => endForC (evsC b1 s)
    | .forVringFrom => endForC (evsC b1 s)
    | _ => s
def evsC : List LEvent → CS → CS
  | [], s => s
  | e :: es, s =>
    match (evC e s).flow with
    | .run => evsC es (evC e s)
    | _ => evC e s
end

def finishC (s : CS) : Option St :=
  match s.flow with
  | .held _ => some s.st
  | .ret => some (reply s.st s.m)
  | _ => none

/-- the mutation `Cfg.nofdStarts`: the guard of `set_vring_kick` weakened from `vring_needs_init(vring)` to `!ready` -/
def mutNofd : LEvent → Option (List LEvent)
  | .node .ifCond [c] t f => if c = needsInit then some [.node .ifCond [notReady] t f] else none
  | _ => none

def editB (mu : Bool) (es : List LEvent) : List LEvent := if mu then LSeg.rewriteL mutNofd es else es

def editC (cfg : Cfg) (es : List LEvent) : List LEvent := editB cfg.nofdStarts es

/-- what the model assumes when it numbers the stages of SET_VRING_KICK: at stage 1 the guard holds, at stage 2 it does
not (it was evaluated when `ctl.state` was reached, and nobody else writes `ready` / `kick`) -/
def StageInv (s : St) : Prop :=
  match s.cpc with
  | .inMsg .restart 1 | .inMsg .nofd 1 => guardC s = true
  | .inMsg .restart 2 | .inMsg .nofd 2 => guardC s = false
  | .inMsg .enable k | .inMsg .disable k | .inMsg .reset k => k ≤ 2
  | .inMsg _ k => k ≤ 3
  | .idle => True

/-! ## the segments, after the edit -/

/-- the segment of `set_vring_kick` from `ctl.state` -/
def kickStateSeg (mu : Bool) : List LEvent := [
  .ifCond (if mu then notReady else needsInit)
    [initializeVring [.vringCall "set_queue_ready" ["true"], .hold "ctl.ready"]]
    [updateReg "index" updateRegHead]]

def isKick : CMsg → Bool
  | .restart | .nofd => true
  | _ => false

/-- stage `k` of message `m` starts from `ctl.state` of `set_vring_kick` -/
def atKickState (m : CMsg) (k : Nat) (v : Bool) : Bool := isKick m && (k == 1 || (k == 2 && !v))

theorem atKickState_iff (m : CMsg) (k : Nat) (v : Bool) :
    atKickState m k v = true ↔ isKick m = true ∧ (k = 1 ∨ (k = 2 ∧ v = false)) := by simp [atKickState]

def ctlSegOf (mu : Bool) (m : CMsg) (k : Nat) (v : Bool) : List LEvent :=
  if atKickState m k v then kickStateSeg mu else ctlSeg m k v

theorem ctlSeg_kickState (m : CMsg) (k : Nat) (v : Bool) (h : atKickState m k v = true) :
    ctlSeg m k v = kickStateSeg false := by
  cases m <;> simp [atKickState, isKick] at h <;> rcases h with rfl | ⟨rfl, rfl⟩ <;> rfl

theorem editB_ctlSeg (mu : Bool) (m : CMsg) (k : Nat) (v : Bool) (hk : k ≤ 3) :
    editB mu (ctlSeg m k v) = ctlSegOf mu m k v := by
  unfold ctlSegOf
  cases mu
  · split
    · exact ctlSeg_kickState m k v ‹_›
    · rfl
  · have : k = 0 ∨ k = 1 ∨ k = 2 ∨ k = 3 := by omega
    rcases this with rfl | rfl | rfl | rfl <;> cases m <;> (try cases v) <;> rfl

theorem evsC_singleton (e : LEvent) (s : CS) : evsC [e] s = evC e s := by
  rw [evsC]; split <;> rfl

theorem condC_ownsRing (s : CS) : condC ownsRing s = true := by simp [condC]

theorem condC_readyEnabled (s : CS) : condC readyEnabled s = (s.st.ready && s.st.enabled) := by
  simp [condC, readyEnabled, ownsRing]

theorem condC_needsInit (s : CS) : condC needsInit s = (!s.st.ready && s.st.kick.isSome) := by
  simp [condC, needsInit, readyEnabled, ownsRing]

theorem condC_notReady (s : CS) : condC notReady s = !s.st.ready := by
  simp [condC, notReady, needsInit, readyEnabled, ownsRing]

-- what running a concrete segment unfolds
attribute [local simp] evsC evC actC vringCallC boolArgC afterCallC endForC finishC condC_ownsRing condC_readyEnabled
  condC_needsInit condC_notReady ctlSeg ctlFn ctlPoint segOf lrowOf List.lookup

theorem noteDisable_cpc (st : St) (c : CPc) : { noteDisable st with cpc := c } = noteDisable { st with cpc := c } := rfl

theorem noteStop_cpc (st : St) (c : CPc) : { noteStop st with cpc := c } = noteStop { st with cpc := c } := rfl

theorem unregKick_ready (st : St) : (unregKick st).ready = st.ready := by unfold unregKick; split <;> rfl
theorem unregKick_cfg (st : St) : (unregKick st).cfg = st.cfg := by unfold unregKick; split <;> rfl

theorem guardC_eq (st : St) : guardC st = (!st.ready && (st.cfg.nofdStarts || st.kick.isSome)) := by
  cases h : st.cfg.nofdStarts <;> simp [guardC, h]

theorem evC_unregisterKick (st : St) (m : CMsg) (fd : Option Evt) :
    evC unregisterKick ⟨st, m, .run, fd⟩ = ⟨unregKick st, m, .run, fd⟩ := by
  cases hk : st.kick <;> simp [unregisterKick, threadLoop, unregKick, hk]

theorem stageAt_epoll (s : CS) : stageAt "ctl.epoll" s = if isKick s.m then 3 else 2 := by
  cases h : s.m <;> simp [stageAt, isKick, h]

theorem evC_updateReg_head (idx : String) (st : St) (m : CMsg) (fd : Option Evt) :
    evC (updateReg idx updateRegHead) ⟨st, m, .run, fd⟩ =
      ⟨{ epollUpdate st with cpc := .inMsg m (if isKick m then 3 else 2) }, m, .held "ctl.epoll", st.kick.or fd⟩ := by
  cases hk : st.kick <;> cases hre : (st.ready && st.enabled) <;>
    simp [updateReg, updateRegHead, threadLoop, epollUpdate, stageAt_epoll, hk, hre]

theorem evC_updateReg_tail (idx : String) (st : St) (m : CMsg) (fd : Option Evt) :
    evC (updateReg idx [.ok]) ⟨st, m, .run, fd⟩ = ⟨st, m, .run, fd⟩ := by
  simp [updateReg]

theorem evsC_resetTail (st : St) (m : CMsg) (fd : Option Evt) :
    evsC resetTail ⟨st, m, .run, fd⟩ = ⟨st, m, .ret, fd⟩ := by
  simp [resetTail]

theorem condC_guard (st : St) (m : CMsg) (fd : Option Evt) :
    condC (if st.cfg.nofdStarts then notReady else needsInit) ⟨st, m, .run, fd⟩ = guardC st := by
  cases h : st.cfg.nofdStarts <;> simp [guardC, h]

theorem evsC_kickStateSeg (st : St) (m : CMsg) (fd : Option Evt) (hm : isKick m = true) :
    evsC (kickStateSeg st.cfg.nofdStarts) ⟨st, m, .run, fd⟩ =
      if guardC st then ⟨{ st with ready := true, cpc := .inMsg m 2 }, m, .held "ctl.ready", fd⟩
      else ⟨{ epollUpdate st with cpc := .inMsg m 3 }, m, .held "ctl.epoll", st.kick.or fd⟩ := by
  simp only [kickStateSeg, evsC_singleton, evC, List.headD, condC_guard]
  cases guardC st
  · simp [evC_updateReg_head, hm]
  · cases m <;> simp [isKick] at hm <;> simp [initializeVring, stageAt]

theorem stageInv_init (cfg : Cfg) : StageInv (init cfg) := by simp [StageInv, init]

open Lemmas.Worker in
/-- every rule lands on a stage whose numbering is right, whatever the state before (the other threads' steps keep it:
`step_inv`); only the two entry rules of `set_vring_kick` look at the guard -/
theorem CSeg.stageInv {s s' : St} {m : CMsg} {k : Nat} (r : CSeg s m k s') : StageInv s' := by
  cases r with
  | newKick | noKick =>
    simp only [StageInv, guardC_eq]
    cases s.ready <;> cases s.cfg.nofdStarts <;> simp
  | disable hm => cases m <;> cases hm <;> simp [StageInv, noteDisable]
  | setReady hm => rcases hm with rfl | rfl <;> simp [StageInv, guardC_eq]
  | epoll => cases m <;> simp [StageInv, epollStage]
  | reply => simp [StageInv, reply, emit]
  | _ => simp [StageInv, noteStop]

theorem step_inv {s s' : St} {l : Lbl} (hi : StageInv s) (h : step s l = some s') : StageInv s' := by
  cases l with
  | kick d => cases h; exact hi
  | w =>
    have f := Lemmas.Worker.w_frame h
    unfold StageInv guardC at hi ⊢
    rw [f.cpc, f.ready, f.kick, f.cfg]; exact hi
  | send m =>
    obtain ⟨-, rfl⟩ := Lemmas.Worker.send_eq h
    cases m <;> simp [StageInv, emit]
  | c => obtain ⟨m, k, -, r⟩ := Lemmas.Worker.c_seg h; exact CSeg.stageInv r

end Lemmas.LtsControl
