import VhostModel.Model.MemTable
import VhostModel.Lemmas.HandlerTable
/-!
# Reading the handler's rows in `Model.MemTable` (C13)

`evsM` interprets the rows of `set_mem_table`, `add_mem_region`, `remove_mem_region` on the state of `Model.MemTable`
(`regions` behind `atomic_mem`, `mappings`, the `update_memory` notifications), event by event:

* `libTry "mmap_region"` fails iff the operating system refuses the mapping (`Req.mapOk`) or the length is 0;
  `libTry "GuestRegionMmap::new"` fails iff `guest_base + size` overflows; `libTry "GuestMemoryMmap::from_regions"`,
  `"insert_region"`, `"remove_region"` are vm-memory's collection rules (`fromRegions`, `insertRegion`, `removeRegion`);
* `memReplace` installs the memory object built before, `mappingsAssign` / `mappingsPush` / `mappingsRetain` change the
  translation table, `backendTry "update_memory"` appends a notification and — the model's assumption, see the header of
  `Model/MemTable.lean` — cannot fail;
* the helper `log_region` is the identity (no SET_LOG_BASE in this model: that path is `Lemmas/HandlerLog.lean`).

Then: `setMemTable`, `addMemRegion`, `removeMemRegion` *are* these interpretations (`*_is_row`).
-/
namespace Lemmas.HandlerMem
open Base Model.MemTable Model.HandlerTable
open Spec.MemTable (Req Op)
open HandlerTable (tableBody)

inductive Flow where
  | run
  | ret (ok : Bool)
  deriving DecidableEq

structure MS where
  st : St
  /-- `ctx.iter().zip(files)` of SET_MEM_TABLE -/
  reqs : List Req
  /-- `region` (and `file`): the argument of ADD_MEM_REG / REM_MEM_REG, the loop variable of SET_MEM_TABLE -/
  req : Req
  /-- the locals `regions`, `mappings`, `guest_region`, `mem` -/
  regionsL : List Region
  mappingsL : List AddrMapping
  cur : Option Region
  mem : Option (List Region)
  flow : Flow

def fail (s : MS) : MS := { s with flow := .ret false }

def libTryM (s : MS) (w : String) : MS :=
  if w = "mmap_region" then (if s.req.mapOk && decide (0 < s.req.size) then s else fail s)
  else if w = "GuestRegionMmap::new" then
    (if s.req.gpa + s.req.size < 2^64 then { s with cur := some ⟨s.req.gpa, s.req.size, s.req.fid, s.req.off⟩ } else fail s)
  else if w = "GuestMemoryMmap::from_regions" then
    (match fromRegions s.regionsL with
     | none => fail s
     | some m => { s with mem := some m })
  else if w = "insert_region" then
    (match s.cur with
     | none => s
     | some g =>
       match insertRegion s.st.regions g with
       | none => fail s
       | some m => { s with mem := some m })
  else if w = "remove_region" then
    (match removeRegion s.req.gpa s.req.size s.st.regions with
     | none => fail s
     | some m => { s with mem := some m })
  else s

def actM (a : HAct) (s : MS) : MS :=
  match a with
  | .localNew n =>
    if n = "regions" then { s with regionsL := [] } else if n = "mappings" then { s with mappingsL := [] } else s
  | .libTry w _ => libTryM s w
  | .localPush n _ =>
    if n = "mappings" then { s with mappingsL := s.mappingsL ++ [mappingOf s.req] }
    else if n = "regions" then
      (match s.cur with
       | some g => { s with regionsL := s.regionsL ++ [g] }
       | none => s)
    else s
  | .memReplace =>
    (match s.mem with
     | some m => { s with st := { s.st with regions := m } }
     | none => s)
  | .backendTry m _ _ =>
    if m = "update_memory" then { s with st := { s.st with notified := s.st.notified ++ [s.st.regions] } } else s
  | .mappingsAssign => { s with st := { s.st with mappings := s.mappingsL } }
  | .mappingsPush _ => { s with st := { s.st with mappings := s.st.mappings ++ [mappingOf s.req] } }
  | .mappingsRetain c =>
    let keep := fun (m : AddrMapping) => cond c { mapping_gpa_base := m.gpaBase, region_guest_phys_addr := s.req.gpa }
    { s with st := { s.st with mappings := s.st.mappings.filter keep } }
  | .ok => { s with flow := .ret true }
  | .err _ => fail s
  | _ => s

def memLoop : String := "ctx.iter().zip(files)"

mutual
def evM : HEvent → MS → MS
  | .act a, s => actM a s
  | .helperCall _ _ _ _, s => s
  | .forEach c body, s =>
    if c = memLoop then
      s.reqs.foldl (fun s r => match s.flow with
        | .run => evsM body { s with req := r }
        | _ => s) s
    else s
  | .forEachVring _, s => s
  | .ifCond _ _ _, s => s
  | .ifSome _ _ _, s => s
def evsM : List HEvent → MS → MS
  | [], s => s
  | e :: es, s =>
    match (evM e s).flow with
    | .run => evsM es (evM e s)
    | _ => evM e s
end

def startM (st : St) (reqs : List Req) (req : Req) : MS := ⟨st, reqs, req, [], [], none, none, .run⟩

def resultM (s : MS) : St × Bool :=
  (s.st, match s.flow with
         | .ret b => b
         | .run => true)

def runRow (name : String) (st : St) (reqs : List Req) (req : Req) : St × Bool :=
  resultM (evsM (row name) (startM st reqs req))

theorem evsM_step {e : HEvent} {es : List HEvent} {s s1 : MS} (h : evM e s = s1) (hrun : s1.flow = .run) :
    evsM (e :: es) s = evsM es s1 := by
  simp only [evsM, h, hrun]

theorem evsM_stop {e : HEvent} {es : List HEvent} {s s1 : MS} (b : Bool) (h : evM e s = s1) (hret : s1.flow = .ret b) :
    evsM (e :: es) s = s1 := by
  simp only [evsM, h, hret]

/-! ## the loop of `set_mem_table` -/

theorem loopBody_ok (t : MS) (ht : t.flow = .run) (g : Region) (h : mmapRegion t.req = some g) :
    evsM tableBody t = { t with cur := some g, mappingsL := t.mappingsL ++ [mappingOf t.req], regionsL := t.regionsL ++ [g] } := by
  obtain ⟨st, reqs, req, rl, ml, cur, mem, flow⟩ := t
  simp only at ht h; subst ht
  unfold mmapRegion at h
  by_cases h1 : (req.mapOk && decide (0 < req.size)) = true
  · rw [if_pos h1] at h
    by_cases h2 : req.gpa + req.size < 2 ^ 64
    · rw [if_pos h2] at h
      cases h
      simp [tableBody, evsM, evM, actM, libTryM, h1, h2, logRegion]
    · rw [if_neg h2] at h; cases h
  · rw [if_neg h1] at h; cases h

theorem loopBody_fail (t : MS) (ht : t.flow = .run) (h : mmapRegion t.req = none) :
    (evsM tableBody t).flow = .ret false ∧ (evsM tableBody t).st = t.st := by
  obtain ⟨st, reqs, req, rl, ml, cur, mem, flow⟩ := t
  simp only at ht h; subst ht
  unfold mmapRegion at h
  by_cases h1 : (req.mapOk && decide (0 < req.size)) = true
  · rw [if_pos h1] at h
    by_cases h2 : req.gpa + req.size < 2 ^ 64
    · rw [if_pos h2] at h; cases h
    · simp [tableBody, evsM, evM, actM, libTryM, h1, h2, fail]
  · simp [tableBody, evsM, evM, actM, libTryM, h1, fail]

abbrev loopM (f : MS → Req → MS) (rs : List Req) (s : MS) : MS :=
  rs.foldl (fun s r => match s.flow with
    | .run => f s r
    | _ => s) s

theorem loopM_cons (f : MS → Req → MS) (r : Req) (rs : List Req) (s : MS) (hs : s.flow = .run) :
    loopM f (r :: rs) s = loopM f rs (f s r) := by
  simp only [loopM, List.foldl_cons, hs]

theorem loopM_stuck (f : MS → Req → MS) (rs : List Req) (s : MS) (b : Bool) (h : s.flow = .ret b) :
    loopM f rs s = s := by
  induction rs with
  | nil => rfl
  | cons r rs ih => simp only [loopM, List.foldl_cons, h] at ih ⊢; exact ih

/-- the loop builds what `buildAll` builds, appended to the locals; a failure leaves with `Err` and the state as it was -/
theorem loop_buildAll (rs : List Req) (s : MS) (hs : s.flow = .run) :
    match buildAll rs with
    | none =>
      (loopM (fun s r => evsM tableBody { s with req := r }) rs s).flow = .ret false ∧
      (loopM (fun s r => evsM tableBody { s with req := r }) rs s).st = s.st
    | some (gs, ms) =>
      ∃ c q, loopM (fun s r => evsM tableBody { s with req := r }) rs s =
        { s with regionsL := s.regionsL ++ gs, mappingsL := s.mappingsL ++ ms, cur := c, req := q } := by
  induction rs generalizing s with
  | nil => exact ⟨s.cur, s.req, by simp [loopM]⟩
  | cons r rs ih =>
    rw [loopM_cons _ _ _ _ hs]
    simp only [buildAll]
    cases hm : mmapRegion r with
    | none =>
      have hf := loopBody_fail { s with req := r } hs hm
      simp only
      rw [loopM_stuck _ _ _ false hf.1]
      exact hf
    | some g =>
      rw [loopBody_ok { s with req := r } hs g hm]
      have := ih { s with req := r, cur := some g, mappingsL := s.mappingsL ++ [mappingOf r], regionsL := s.regionsL ++ [g] } hs
      cases hb : buildAll rs with
      | none => simp only [hb] at this ⊢; exact this
      | some p =>
        simp only [hb] at this ⊢
        obtain ⟨c, q, h⟩ := this
        exact ⟨c, q, by rw [h]; simp [List.append_assoc]⟩

/-- the loop event itself -/
theorem evM_loop (s : MS) (hs : s.flow = .run) :
    match buildAll s.reqs with
    | none =>
      (evM (.forEach "ctx.iter().zip(files)" tableBody) s).flow = .ret false ∧
      (evM (.forEach "ctx.iter().zip(files)" tableBody) s).st = s.st
    | some (gs, ms) =>
      ∃ c q, evM (.forEach "ctx.iter().zip(files)" tableBody) s =
        { s with regionsL := s.regionsL ++ gs, mappingsL := s.mappingsL ++ ms, cur := c, req := q } := by
  have h := loop_buildAll s.reqs s hs
  simp only [evM, memLoop, if_true]
  exact h

end Lemmas.HandlerMem
