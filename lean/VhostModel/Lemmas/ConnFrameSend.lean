import VhostModel.Lemmas.ConnSend

/-!
# The sending framing functions: `send_header`, `send_message`, `send_message_with_payload`

Each is: guards, then (`send_frame`) build the iovec array, call `send_iovec_all` (the call rule applied to
`Lemmas.ConnSend.send_iovec_all_run`), `?`, the `PartialMessage` check against the total length.
-/
namespace Lemmas.ConnFrameSend
open Imp Gen.ConnLoops Model.Endpoint Lemmas.ConnSend

/-- the outcome of a framing send function, given the model's run of the loop over the whole message and the length the
function expects to have been sent -/
def FrameSendSpec {σ : Type} (m : Wire × SendRes) (total : Nat) (res : Res σ) : Prop :=
  wireOf res.2.2.sent = m.1 ∧
  match m.2 with
  | .ok n => res.1 = (if n ≠ total then .done (.err .partialMessage) else .done (.ok {}))
  | .broken => ∃ e, res.1 = .done (.err (.sock .broken e))
  | .other => ∃ c e, (c = .connect ∨ c = .other) ∧ res.1 = .done (.err (.sock c e))
  | .outOfScript => res.1 = .stuck .outOfScript

theorem bytes_alloc (mem : List Bytes) (ps : List Bytes) :
    IoVal.bytes (mem ++ [ps.flatten]) { store := mem.length, start := 0, lens := ps.map (·.length) } = ps.flatten := by
  simp only [IoVal.bytes, List.getD_eq_getElem?_getD, List.getElem?_concat_length, Option.getD_some, List.drop_zero]
  apply List.take_of_length_le
  rw [List.length_flatten]
  exact Nat.le_refl _

/-- the common end of the three functions; `tot` is the length the count is checked against -/
theorem send_frame {σ : Type} (env : Env σ) (nm : String) (io fds r n : Var) (pieces : List Piece) (bufs : List Bytes) (tot : Expr)
    (total : Nat) (F : Nat) (fr : Frame) (w : World σ) (hF : w.script.length < F) (hp : evalPieces env fr pieces = some bufs)
    (htot : ∀ (x : Nat) (rv : RVal), evalE env
      { fr with io := upd fr.io io.id { store := w.mem.length, start := 0, lens := bufs.map (·.length) },
                r := upd fr.r r.id rv, n := upd fr.n n.id x } tot = some total) :
    FrameSendSpec (sendAll ((fr.f fds.id).getD []) bufs.flatten 0 (w.script.map (toEv env.classify)) (wireOf w.sent)) total
      (exec env (.seq (.allocIo io pieces) (.seq
        (.call nm SendIovecAll.fnBody [] [] [(SendIovecAll.fds, fds)] [(SendIovecAll.iovs, .var io)] r)
        (.seq (.matchResult r [n] none .skip (.retErr (.intoRes r)))
          (.seq (.ite (.ne (.var n) tot) (.retErr (.const .partialMessage)) .skip) (.ret [] .none []))))) F fr w) := by
  have hby := bytes_alloc w.mem bufs
  obtain ⟨c, fr', w', hx, hc, t1, _⟩ := send_iovec_all_run env F
    { n := fun _ => 0, l := fun _ => [], f := upd (fun _ => none) 0 (fr.f fds.id),
      io := upd (fun _ => {}) 0 { store := w.mem.length, start := 0, lens := bufs.map (·.length) } }
    { w with mem := w.mem ++ [bufs.flatten] } hF (by simp only [upd_apply, reduceIte]; rw [hby, List.length_flatten]) _ rfl
  simp only [upd_apply, reduceIte, hby] at hc t1
  rw [exec_seq, exec_allocIo, hp]
  simp only []
  -- the call is the call rule applied to the run of `send_iovec_all`
  rw [exec_seq, exec_call_of env F _ _ nm _ [] [] _ _ r rfl (by simp only [bindArgsIo, evalIo, upd_apply, reduceIte]) hx]
  generalize sendAll ((fr.f fds.id).getD []) bufs.flatten 0 (w.script.map (toEv env.classify)) (wireOf w.sent) = m at *
  obtain ⟨mw, mr⟩ := m
  -- by the model's result: the count is compared with the total, an error goes through `?`, an exhausted script stops the run
  cases mr with
  | ok x =>
    obtain ⟨fo, bufs', rfl⟩ := hc
    by_cases hn : x = total <;> simp [FrameSendSpec, exec_matchResult, evalB, evalE, htot, evalErr, evalEs, evalF, hn, t1]
  | broken => obtain ⟨e, rfl⟩ := hc; simp [FrameSendSpec, exec_matchResult, evalErr, errOf, Err.into, t1]
  | other => obtain ⟨cl, e, hcl, rfl⟩ := hc; simpa [FrameSendSpec, exec_matchResult, evalErr, errOf, Err.into, t1] using hcl
  | outOfScript => subst hc; exact ⟨t1, rfl⟩

/-- `send_header` (`hdr` = byte-slice slot 0, `fds` = descriptor slot 0) -/
theorem send_header_exec {σ : Type} (env : Env σ) (F : Nat) (fr : Frame) (w : World σ) (hF : w.script.length < F) :
    FrameSendSpec (sendAll ((fr.f 0).getD []) (fr.b 0) 0 (w.script.map (toEv env.classify)) (wireOf w.sent)) env.sizeH
      (exec env SendHeader.fnBody F fr w) := by
  have h := send_frame env "send_iovec_all" SendHeader.iovs SendHeader.fds SendHeader.r_bytes SendHeader.bytes [.buf SendHeader.hdr]
    [fr.b 0] .sizeOfH env.sizeH F fr w hF rfl (fun _ _ => rfl)
  rwa [List.flatten_cons, List.flatten_nil, List.append_nil] at h

/-- `send_message` (`hdr`, `body` = byte-slice slots 0, 1; `fds` = descriptor slot 0) -/
theorem send_message_exec {σ : Type} (env : Env σ) (F : Nat) (fr : Frame) (w : World σ) (hF : w.script.length < F) :
    if env.sizeT > env.maxMsg then
      (exec env SendMessage.fnBody F fr w).1 = .done (.err .oversizedMsg) ∧ (exec env SendMessage.fnBody F fr w).2.2.sent = w.sent
    else
      FrameSendSpec (sendAll ((fr.f 0).getD []) (fr.b 0 ++ fr.b 1) 0 (w.script.map (toEv env.classify)) (wireOf w.sent))
        (env.sizeH + env.sizeT) (exec env SendMessage.fnBody F fr w) := by
  unfold SendMessage.fnBody
  rw [exec_seq, exec_ite]
  by_cases hg : env.sizeT > env.maxMsg
  · simp [evalB, evalE, hg, evalErr]
  · simp only [evalB, evalE, hg, decide_false, exec_skip, if_false]
    have h := send_frame env "send_iovec_all" SendMessage.iovs_arg SendMessage.fds SendMessage.r_bytes SendMessage.bytes
      [.buf SendMessage.hdr, .buf SendMessage.body] [fr.b 0, fr.b 1] (.add .sizeOfH .sizeOfT) (env.sizeH + env.sizeT) F fr w hF rfl
      (fun _ _ => rfl)
    rwa [List.flatten_cons, List.flatten_cons, List.flatten_nil, List.append_nil] at h

/-- `send_message_with_payload` (`hdr`, `body`, `payload` = byte-slice slots 0, 1, 2; `fds` = descriptor slot 0) -/
theorem send_message_with_payload_exec {σ : Type} (env : Env σ) (F : Nat) (fr : Frame) (w : World σ) (hF : w.script.length < F) :
    if env.sizeT > env.maxMsg ∨ (fr.b 2).length > env.maxMsg - env.sizeT then
      (exec env SendMessageWithPayload.fnBody F fr w).1 = .done (.err .oversizedMsg) ∧
      (exec env SendMessageWithPayload.fnBody F fr w).2.2.sent = w.sent
    else if (fr.f 0).isSome ∧ ((fr.f 0).getD []).length > 32 then
      (exec env SendMessageWithPayload.fnBody F fr w).1 = .done (.err .incorrectFds) ∧
      (exec env SendMessageWithPayload.fnBody F fr w).2.2.sent = w.sent
    else
      FrameSendSpec (sendAll ((fr.f 0).getD []) (fr.b 0 ++ fr.b 1 ++ fr.b 2) 0 (w.script.map (toEv env.classify)) (wireOf w.sent))
        (env.sizeH + env.sizeT + (fr.b 2).length) (exec env SendMessageWithPayload.fnBody F fr w) := by
  unfold SendMessageWithPayload.fnBody
  rw [exec_seq, exec_assign]
  simp only [evalE]
  rw [exec_seq, exec_ite]
  by_cases hg : env.sizeT > env.maxMsg
  · simp [evalB, evalE, hg, evalErr]
  · have hg' : env.sizeT ≤ env.maxMsg := by omega
    simp only [evalB, evalE, hg, decide_false, exec_skip, false_or]
    rw [exec_seq, exec_ite]
    by_cases hg2 : (fr.b 2).length > env.maxMsg - env.sizeT
    · simp [evalB, evalE, hg2, hg', evalErr]
    · simp only [evalB, evalE, hg2, hg', decide_false, exec_skip, if_false, upd_apply, if_true]
      rw [exec_seq]
      by_cases hf : (fr.f 0).isSome ∧ ((fr.f 0).getD []).length > 32
      · simp [evalB, evalE, hf.1, hf.2, evalErr]
      · simp only [hf, if_false]
        have hstep : exec env (.ite (.fIsSome SendMessageWithPayload.fds)
              (.ite (.gt (.lenF SendMessageWithPayload.fds) (.lit 32)) (.retErr (.const .incorrectFds)) .skip) .skip) F
              { fr with n := upd fr.n 0 (fr.b 2).length } w
            = (.normal, { fr with n := upd fr.n 0 (fr.b 2).length }, w) := by
          rw [exec_ite]
          cases hs : (fr.f 0).isSome
          · simp [evalB, hs]
          · have : ¬ ((fr.f 0).getD []).length > 32 := fun h => hf ⟨hs, h⟩
            simp [evalB, evalE, this, hs]
        rw [hstep]
        simp only []
        rw [exec_seq, exec_assign]
        simp only [evalE, upd_apply, reduceIte]
        have h := send_frame env "send_iovec_all" SendMessageWithPayload.iovs_arg SendMessageWithPayload.fds SendMessageWithPayload.r_len
          SendMessageWithPayload.len [.buf SendMessageWithPayload.hdr, .buf SendMessageWithPayload.body, .buf SendMessageWithPayload.payload]
          [fr.b 0, fr.b 1, fr.b 2] (.var SendMessageWithPayload.total) (env.sizeH + env.sizeT + (fr.b 2).length) F
          { fr with n := upd (upd fr.n 0 (fr.b 2).length) 1 (env.sizeH + env.sizeT + (fr.b 2).length) } w hF rfl (fun _ _ => rfl)
        simpa only [List.flatten_cons, List.flatten_nil, List.append_nil, ← List.append_assoc] using h
end Lemmas.ConnFrameSend
