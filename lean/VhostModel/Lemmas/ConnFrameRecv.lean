import VhostModel.Lemmas.ConnRecv

/-!
# The receiving framing functions: `recv_header`, `recv_body`, `recv_body_into_buf`, `recv_payload_into_buf`

Each is: build the iovec array over fresh objects, call `recv_into_iovec_all`, `?`, the checks, `Ok(..)`.
`recv_frame` is everything up to the checks (the call is the call rule applied to `Lemmas.ConnRecv.recv_all_run`); the
per-function lemmas run the checks and give the outcome as a function of the model's `recvAll` over `size_of::<H>() [+ size_of::<T>()] [+ buf.len()]` bytes.
-/
namespace Lemmas.ConnFrameRecv
open Imp Gen.ConnLoops Lemmas.ConnRecv
open Model.Stream (Cell Chooser clampK recvAll RecvAll)

theorem flatten_zeros (lens : List Nat) : (lens.map (List.replicate · (0 : UInt8))).flatten = List.replicate lens.sum 0 := by
  induction lens with
  | nil => rfl
  | cons a l ih => rw [List.map_cons, List.flatten_cons, ih, List.replicate_append_replicate, List.sum_cons]

theorem pieceBytes_last (mem : List Bytes) (X : Bytes) (lens : List Nat) (i : Nat) :
    IoVal.pieceBytes (mem ++ [X]) { store := mem.length, start := 0, lens := lens } i = (X.drop (lens.take i).sum).take (lens.getD i 0) := by
  simp only [IoVal.pieceBytes, List.getD_eq_getElem?_getD, List.getElem?_concat_length, Option.getD_some, Nat.zero_add]

/-- the common start of the four functions; unless the read waits, the rest runs with the count in `n`, the files in `f` and
the bytes read, padded with zeros, as the last store of the heap -/
theorem recv_frame {σ : Type} (env : Env σ) (nm : String) (io r n f : Var) (pieces : List Piece) (lens : List Nat) (rest : Stmt)
    (F : Nat) (fr : Frame) (w : World σ) (hcl : env.classify ENOBUFS = .retry) (hF : w.stream.length + 1 ≤ F)
    (hp : evalPieces env fr pieces = some (lens.map (List.replicate · 0)))
    (R : RecvAll σ) (hR : R = recvAll env.ch 32 env.isClosed lens.sum w.cst w.stream true)
    (res : Res σ) (hres : res = exec env (.seq (.allocIo io pieces) (.seq
      (.call nm RecvIntoIovecAll.fnBody [] [] [] [(RecvIntoIovecAll.iovs, .var io)] r)
      (.seq (.matchResult r [n] (some f) .skip (.retErr (.intoRes r))) rest))) F fr w) :
    R.bytes.length ≤ lens.sum ∧
    (R.outcome = .blocked → res.1 = .stuck .blocked ∧ res.2.1.f 0 = optOf R.fds ∧
      res.2.2 = { w with mem := w.mem ++ [R.bytes ++ List.replicate (lens.sum - R.bytes.length) 0], stream := R.rest, cst := R.st,
                         closed := w.closed ++ R.closed }) ∧
    (R.outcome ≠ .blocked → res = exec env rest F
      { fr with io := upd fr.io io.id { store := w.mem.length, start := 0, lens := lens },
                r := upd fr.r r.id (.ok { nats := [R.bytes.length], fds := optOf R.fds }),
                n := upd fr.n n.id R.bytes.length, f := upd fr.f f.id (optOf R.fds) }
      { w with mem := w.mem ++ [R.bytes ++ List.replicate (lens.sum - R.bytes.length) 0], stream := R.rest, cst := R.st,
               closed := w.closed ++ R.closed }) := by
  obtain ⟨t5, fr', hx, hb⟩ := recv_all_run env F
    { n := fun _ => 0, l := fun _ => [], f := fun _ => none, io := upd (fun _ => {}) 0 ⟨w.mem.length, 0, lens⟩ }
    { w with mem := w.mem ++ [List.replicate lens.sum 0] } hcl hF w.mem.length lens rfl (by simp) (by simp) R hR
  have hw : allWorld w.mem.length { w with mem := w.mem ++ [List.replicate lens.sum 0] } R =
      { w with mem := w.mem ++ [R.bytes ++ List.replicate (lens.sum - R.bytes.length) 0], stream := R.rest, cst := R.st,
               closed := w.closed ++ R.closed } := by
    simp only [allWorld, List.getD_eq_getElem?_getD, List.getElem?_concat_length, Option.getD_some,
      List.set_append_right _ _ (Nat.le_refl _), Nat.sub_self, List.set_cons_zero, writeAt_zeros]
  rw [exec_seq, exec_allocIo, hp] at hres
  simp only [List.map_map, Function.comp_def, List.length_replicate, List.map_id', flatten_zeros] at hres
  -- the call is the call rule applied to the run of `recv_into_iovec_all`
  rw [exec_seq, exec_call_of env F _ _ nm _ [] [] [] _ r rfl (by simp only [bindArgsIo, evalIo, upd_apply, reduceIte]) hx, hw] at hres
  refine ⟨t5, fun hbk => ?_, fun hbk => ?_⟩
  · rw [hres, allCtl_blocked hbk]
    exact ⟨rfl, (hb hbk).2, rfl⟩
  · rw [hres, allCtl_done hbk]
    simp only [exec_seq, exec_matchResult, upd_apply, reduceIte, bindN_cons, bindN_nil, exec_skip]

/-- what `recv_header` does, given the model's read of `size_of::<H>()` bytes -/
def HeaderSpec {σ : Type} (env : Env σ) (w : World σ) (R : RecvAll σ) (res : Res σ) : Prop :=
  res.2.2.stream = R.rest ∧ res.2.2.cst = R.st ∧
  (if R.outcome = .blocked then
    res.1 = .stuck .blocked ∧ res.2.2.closed = w.closed ++ R.closed ∧ res.2.1.f 0 = optOf R.fds
  else if R.bytes.length = 0 then
    res.1 = .done (.err .disconnected) ∧ res.2.2.closed = w.closed ++ R.closed ++ R.fds
  else if R.bytes.length ≠ env.sizeH then
    res.1 = .done (.err .partialMessage) ∧ res.2.2.closed = w.closed ++ R.closed ++ R.fds
  else if !env.validH R.bytes then
    res.1 = .done (.err .invalidMessage) ∧ res.2.2.closed = w.closed ++ R.closed ++ R.fds
  else
    res.1 = .done (.ok { fds := optOf R.fds, bufs := [R.bytes] }) ∧ res.2.2.closed = w.closed ++ R.closed)

theorem recv_header_exec {σ : Type} (env : Env σ) (F : Nat) (fr : Frame) (w : World σ)
    (hcl : env.classify ENOBUFS = .retry) (hF : w.stream.length + 1 ≤ F) :
    HeaderSpec env w (recvAll env.ch 32 env.isClosed env.sizeH w.cst w.stream true) (exec env RecvHeader.fnBody F fr w) := by
  obtain ⟨t5, hb, hn⟩ := recv_frame env "recv_into_iovec_all" RecvHeader.iovs RecvHeader.r_bytes RecvHeader.bytes RecvHeader.files
    [.zeros .sizeOfH] [env.sizeH] _ F fr w hcl hF rfl _ rfl (exec env RecvHeader.fnBody F fr w) rfl
  simp only [List.sum_cons, List.sum_nil, Nat.add_zero] at t5 hb hn
  generalize recvAll env.ch 32 env.isClosed env.sizeH w.cst w.stream true = R at *
  unfold HeaderSpec
  by_cases hbk : R.outcome = .blocked
  · obtain ⟨e1, e2, e3⟩ := hb hbk
    simp [hbk, e1, e2, e3]
  · rw [hn hbk]
    simp only [hbk, if_false]
    by_cases h0 : R.bytes.length = 0
    · simp [evalB, evalE, evalErr, h0, optOf_getD, List.append_assoc]
    · by_cases h1 : R.bytes.length = env.sizeH
      · have h0' : ¬ env.sizeH = 0 := by omega
        have hR : R.bytes.take env.sizeH = R.bytes := List.take_of_length_le (by omega)
        by_cases hv : env.validH R.bytes
        · simp [h0', hR, evalB, evalE, evalEs, evalF, evalBuf, pieceBytes_last, h1, hv]
        · simp [h0', hR, evalB, evalE, evalErr, evalBuf, pieceBytes_last, h1, hv, optOf_getD, List.append_assoc]
      · simp [evalB, evalE, evalErr, h0, h1, optOf_getD, List.append_assoc]

/-- what `recv_body::<T>` does, given the model's read of `size_of::<H>() + size_of::<T>()` bytes -/
def BodySpec {σ : Type} (env : Env σ) (w : World σ) (R : RecvAll σ) (res : Res σ) : Prop :=
  res.2.2.stream = R.rest ∧ res.2.2.cst = R.st ∧
  (if R.outcome = .blocked then
    res.1 = .stuck .blocked ∧ res.2.2.closed = w.closed ++ R.closed ∧ res.2.1.f 0 = optOf R.fds
  else if R.bytes.length ≠ env.sizeH + env.sizeT then
    res.1 = .done (.err .partialMessage) ∧ res.2.2.closed = w.closed ++ R.closed ++ R.fds
  else if !env.validH (R.bytes.take env.sizeH) || !env.validT (R.bytes.drop env.sizeH) then
    res.1 = .done (.err .invalidMessage) ∧ res.2.2.closed = w.closed ++ R.closed ++ R.fds
  else
    res.1 = .done (.ok { fds := optOf R.fds, bufs := [R.bytes.take env.sizeH, R.bytes.drop env.sizeH] }) ∧
    res.2.2.closed = w.closed ++ R.closed)

theorem recv_body_exec {σ : Type} (env : Env σ) (F : Nat) (fr : Frame) (w : World σ)
    (hcl : env.classify ENOBUFS = .retry) (hF : w.stream.length + 1 ≤ F) :
    BodySpec env w (recvAll env.ch 32 env.isClosed (env.sizeH + env.sizeT) w.cst w.stream true) (exec env RecvBody.fnBody F fr w) := by
  obtain ⟨t5, hb, hn⟩ := recv_frame env "recv_into_iovec_all" RecvBody.iovs RecvBody.r_bytes RecvBody.bytes RecvBody.files
    [.zeros .sizeOfH, .zeros .sizeOfT] [env.sizeH, env.sizeT] _ F fr w hcl hF rfl _ rfl (exec env RecvBody.fnBody F fr w) rfl
  simp only [List.sum_cons, List.sum_nil, Nat.add_zero] at t5 hb hn
  generalize recvAll env.ch 32 env.isClosed (env.sizeH + env.sizeT) w.cst w.stream true = R at *
  unfold BodySpec
  by_cases hbk : R.outcome = .blocked
  · obtain ⟨e1, e2, e3⟩ := hb hbk
    simp [hbk, e1, e2, e3]
  · rw [hn hbk]
    simp only [hbk, if_false]
    by_cases h1 : R.bytes.length = env.sizeH + env.sizeT
    · have hR : List.take env.sizeT (List.drop env.sizeH R.bytes) = List.drop env.sizeH R.bytes :=
        List.take_of_length_le (by simp; omega)
      by_cases hv : env.validH (R.bytes.take env.sizeH) <;> by_cases hv2 : env.validT (R.bytes.drop env.sizeH) <;>
        simp [hR, evalB, evalE, evalErr, evalEs, evalF, evalBuf, pieceBytes_last, h1, hv, hv2, optOf_getD, List.append_assoc]
    · simp [evalB, evalE, evalErr, h1, optOf_getD, List.append_assoc]

/-- what `recv_body_into_buf(buf)` does, given the model's read of `size_of::<H>() + buf.len()` bytes; the memory behind
header and `buf` is the last store of the heap -/
def BodyIntoBufSpec {σ : Type} (env : Env σ) (w : World σ) (L : Nat) (R : RecvAll σ) (res : Res σ) : Prop :=
  res.2.2.stream = R.rest ∧ res.2.2.cst = R.st ∧
  res.2.2.mem = w.mem ++ [R.bytes ++ List.replicate (env.sizeH + L - R.bytes.length) 0] ∧
  (if R.outcome = .blocked then
    res.1 = .stuck .blocked ∧ res.2.2.closed = w.closed ++ R.closed ∧ res.2.1.f 0 = optOf R.fds
  else if R.bytes.length < env.sizeH then
    res.1 = .done (.err .partialMessage) ∧ res.2.2.closed = w.closed ++ R.closed ++ R.fds
  else if !env.validH (R.bytes.take env.sizeH) then
    res.1 = .done (.err .invalidMessage) ∧ res.2.2.closed = w.closed ++ R.closed ++ R.fds
  else
    res.1 = .done (.ok { nats := [R.bytes.length - env.sizeH], fds := optOf R.fds, bufs := [R.bytes.take env.sizeH] }) ∧
    res.2.2.closed = w.closed ++ R.closed)

/-- `recv_body_into_buf` (`buf` = byte-slice slot 0) -/
theorem recv_body_into_buf_exec {σ : Type} (env : Env σ) (F : Nat) (fr : Frame) (w : World σ)
    (hcl : env.classify ENOBUFS = .retry) (hF : w.stream.length + 1 ≤ F) :
    BodyIntoBufSpec env w (fr.b 0).length (recvAll env.ch 32 env.isClosed (env.sizeH + (fr.b 0).length) w.cst w.stream true)
      (exec env RecvBodyIntoBuf.fnBody F fr w) := by
  obtain ⟨t5, hb, hn⟩ := recv_frame env "recv_into_iovec_all" RecvBodyIntoBuf.iovs RecvBodyIntoBuf.r_bytes RecvBodyIntoBuf.bytes
    RecvBodyIntoBuf.files [.zeros .sizeOfH, .zeros (.lenB RecvBodyIntoBuf.buf)] [env.sizeH, (fr.b 0).length] _ F fr w hcl hF rfl _ rfl
    (exec env RecvBodyIntoBuf.fnBody F fr w) rfl
  simp only [List.sum_cons, List.sum_nil, Nat.add_zero] at t5 hb hn
  generalize recvAll env.ch 32 env.isClosed (env.sizeH + (fr.b 0).length) w.cst w.stream true = R at *
  unfold BodyIntoBufSpec
  by_cases hbk : R.outcome = .blocked
  · obtain ⟨e1, e2, e3⟩ := hb hbk
    simp [hbk, e1, e2, e3]
  · rw [hn hbk]
    simp only [hbk, if_false]
    by_cases h1 : R.bytes.length < env.sizeH
    · simp [evalB, evalE, evalErr, h1, optOf_getD, List.append_assoc]
    · have h1' : env.sizeH ≤ R.bytes.length := by omega
      have hp0 : List.take env.sizeH (R.bytes ++ List.replicate (env.sizeH + (fr.b 0).length - R.bytes.length) 0) = List.take env.sizeH R.bytes :=
        List.take_append_of_le_length h1'
      by_cases hv : env.validH (R.bytes.take env.sizeH) <;>
        simp [evalB, evalE, evalErr, evalEs, evalF, evalBuf, pieceBytes_last, h1, h1', hv, hp0, optOf_getD, List.append_assoc]

/-- what `recv_payload_into_buf::<T>(buf)` does, given the model's read of `size_of::<H>() + size_of::<T>() + buf.len()`
bytes -/
def PayloadIntoBufSpec {σ : Type} (env : Env σ) (w : World σ) (L : Nat) (R : RecvAll σ) (res : Res σ) : Prop :=
  res.2.2.stream = R.rest ∧ res.2.2.cst = R.st ∧
  res.2.2.mem = w.mem ++ [R.bytes ++ List.replicate (env.sizeH + env.sizeT + L - R.bytes.length) 0] ∧
  (if R.outcome = .blocked then
    res.1 = .stuck .blocked ∧ res.2.2.closed = w.closed ++ R.closed ∧ res.2.1.f 0 = optOf R.fds
  else if R.bytes.length < env.sizeH + env.sizeT then
    res.1 = .done (.err .partialMessage) ∧ res.2.2.closed = w.closed ++ R.closed ++ R.fds
  else if !env.validH (R.bytes.take env.sizeH) || !env.validT ((R.bytes.drop env.sizeH).take env.sizeT) then
    res.1 = .done (.err .invalidMessage) ∧ res.2.2.closed = w.closed ++ R.closed ++ R.fds
  else
    res.1 = .done (.ok { nats := [R.bytes.length - (env.sizeH + env.sizeT)], fds := optOf R.fds,
                          bufs := [R.bytes.take env.sizeH, (R.bytes.drop env.sizeH).take env.sizeT] }) ∧
    res.2.2.closed = w.closed ++ R.closed)

/-- `recv_payload_into_buf` (`buf` = byte-slice slot 0) -/
theorem recv_payload_into_buf_exec {σ : Type} (env : Env σ) (F : Nat) (fr : Frame) (w : World σ)
    (hcl : env.classify ENOBUFS = .retry) (hF : w.stream.length + 1 ≤ F) :
    PayloadIntoBufSpec env w (fr.b 0).length
      (recvAll env.ch 32 env.isClosed (env.sizeH + env.sizeT + (fr.b 0).length) w.cst w.stream true)
      (exec env RecvPayloadIntoBuf.fnBody F fr w) := by
  obtain ⟨t5, hb, hn⟩ := recv_frame env "recv_into_iovec_all" RecvPayloadIntoBuf.iovs RecvPayloadIntoBuf.r_bytes RecvPayloadIntoBuf.bytes
    RecvPayloadIntoBuf.files [.zeros .sizeOfH, .zeros .sizeOfT, .zeros (.lenB RecvPayloadIntoBuf.buf)]
    [env.sizeH, env.sizeT, (fr.b 0).length] _ F fr w hcl hF rfl _ rfl (exec env RecvPayloadIntoBuf.fnBody F fr w) rfl
  simp only [List.sum_cons, List.sum_nil, Nat.add_zero, ← Nat.add_assoc] at t5 hb hn
  generalize recvAll env.ch 32 env.isClosed (env.sizeH + env.sizeT + (fr.b 0).length) w.cst w.stream true = R at *
  unfold PayloadIntoBufSpec
  by_cases hbk : R.outcome = .blocked
  · obtain ⟨e1, e2, e3⟩ := hb hbk
    simp [hbk, e1, e2, e3]
  · rw [hn hbk]
    simp only [hbk, if_false]
    by_cases h1 : R.bytes.length < env.sizeH + env.sizeT
    · simp [evalB, evalE, evalErr, h1, optOf_getD, List.append_assoc]
    · have h1' : env.sizeH + env.sizeT ≤ R.bytes.length := by omega
      have hp0 : List.take env.sizeH (R.bytes ++ List.replicate (env.sizeH + env.sizeT + (fr.b 0).length - R.bytes.length) 0)
          = List.take env.sizeH R.bytes := List.take_append_of_le_length (by omega)
      have hp1 : List.take env.sizeT (List.drop env.sizeH (R.bytes ++ List.replicate (env.sizeH + env.sizeT + (fr.b 0).length - R.bytes.length) 0))
          = List.take env.sizeT (List.drop env.sizeH R.bytes) := by
        rw [List.drop_append_of_le_length (by omega), List.take_append_of_le_length (by simp; omega)]
      by_cases hv : env.validH (R.bytes.take env.sizeH) <;> by_cases hv2 : env.validT ((R.bytes.drop env.sizeH).take env.sizeT) <;>
        simp [evalB, evalE, evalErr, evalEs, evalF, evalBuf, pieceBytes_last, h1, h1', hv, hv2, hp0, hp1, optOf_getD, List.append_assoc]
end Lemmas.ConnFrameRecv
