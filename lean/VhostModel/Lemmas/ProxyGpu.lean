import VhostModel.Lemmas.ProxyBase
/-!
# The GPU proxy model is the generated `gpu_backend_req.rs` programs (equations over all states, calls and streams)

* `gpu_request_table`: `Model.GpuProxy.request` for a method `m` = the generated send helper of `m`'s row run on the
  inputs read off state, method and call: its check is the refusal, otherwise header and bytes are the program's;
* `gpuProg_run`: the three generated send helpers in closed form;
* `gpu_recvReply_table`: `recvReply` = the generated `recv_reply` program;
* `gpu_callRecv_table`: after the write nothing is read iff the row has no reply type; otherwise `recv_reply::<row.reply>`.
-/
namespace Lemmas.Proxy
open Base ProxySig Model.ProxyTable Model.Msgs Model.Stream Model.RecvBody
open Model.BackendSrv (Err Hdr encHdr hdrNewFlags)
open Model.Frontend (Reply RecvRes RecvOut)
open Model.GpuProxy

/-- the three generated send helpers in closed form: `check_state`; then one message with code = the `request`
argument, **flags 0**, size 0 / `size_of::<T>() as u32` / `(size_of::<T>() + data.len()) as u32`: header only / header +
body / header + body + data -/
theorem gpuProg_run (x : PIn) (k : SendKind) (hfit : k = .payload → x.sizeOfT + x.dataLen < 2^64) :
    run x (gpuProg (SendKind.helper k)) none =
      if x.errorIsSome then .err .socketBroken
      else .sent x.code 0 ((if k = .header then 0 else x.sizeOfT + if k = .payload then x.dataLen else 0) % 2^32)
        (SendKind.helper k) (k != .header) (k == .payload) true [.okHdr] := by
  -- six cases (helper × `check_state`), each the evaluation of `run` on a four-statement program
  cases k <;> cases hx : x.errorIsSome <;>
    simp_all [SendKind.helper, gpuProg, run, Gen.ProxyOps.Gpu.send_header.stmts, Gen.ProxyOps.Gpu.send_message.stmts,
      Gen.ProxyOps.Gpu.send_message_with_payload.stmts]

/-- a payload within `u32::MAX` keeps the `usize` sum of `send_message_with_payload` defined -/
theorem gpu_run (st : GSt) (c : Call) {m : Method} (hmem : m ∈ methods)
    (hpl : m.send = .payload → c.payload.length ≤ maxMsgSize - (gpuRowOf m).size) :
    run (gpuIn st m c) (gpuProg (gpuRowOf m).helper) none =
      if st.error.isSome then .err .socketBroken
      else .sent m.code 0 ((if m.send = .header then 0 else (gpuRowOf m).size + if m.send = .payload then c.payload.length else 0) % 2^32)
        (SendKind.helper m.send) (m.send != .header) (m.send == .payload) true [.okHdr] :=
  gpuProg_run (gpuIn st m c) m.send fun hs => by
    have := hpl hs; have := (gpuRow_size hmem).1
    show (gpuRowOf m).size + c.payload.length < 2^64
    simp only [maxMsgSize] at *; omega

theorem gpu_request_table (st : GSt) (c : Call) (m : Method) (hm : methods.find? (·.name == c.name) = some m)
    (hlen : m.send ≠ .header → c.body.length = (gpuRowOf m).size)
    (hpl : m.send = .payload → c.payload.length ≤ maxMsgSize - (gpuRowOf m).size) :
    request st c =
      (match run (gpuIn st m c) (gpuProg (gpuRowOf m).helper) none with
       | .err e => .error (errOf e)
       | .sent code flags size _ body payload fds _ =>
         .ok ⟨m, ⟨code, flags, size⟩,
              encHdr code flags size ++ (if body then c.body else []) ++ (if payload then c.payload else []),
              if (gpuRowOf m).fd && fds then c.fds.take 1 else []⟩
       | _ => .error .other) := by
  have hmem : m ∈ methods := List.mem_of_find?_eq_some hm
  obtain ⟨hle, hbody⟩ := gpuRow_size hmem
  -- only `send_message` methods have a body without payload or a descriptor; header-only methods have no body type
  obtain ⟨hhdr, hfd⟩ :=
    (show ∀ m ∈ methods, (m.send = .header ∨ m.bodyTy.isSome = true) ∧ (m.send ≠ .message → m.fd = false) by decide) m hmem
  rw [gpu_run st c hmem hpl]
  unfold request
  rw [hm]
  cases herr : st.error with
  | some e => simp [errOf]
  | none =>
    have hrfd : (gpuRowOf m).fd = m.fd := rfl
    rcases hs : m.send with _ | _ | _
    · simp [hs, hrfd, hfd (by simp [hs])]
    all_goals
      obtain ⟨ty, hty⟩ := Option.isSome_iff_exists.1 (hhdr.resolve_left (by simp [hs]))
      have hl := hlen (by simp [hs])
      have hb := hbody ty hty
    · simp [hs, hty, hb, hl, maxMsgSize, Nat.not_lt.2 (by omega : (gpuRowOf m).size ≤ 4294967295),
        Nat.mod_eq_of_lt (by omega : (gpuRowOf m).size < 4294967296), hrfd]
    · have hp := hpl hs
      simp only [maxMsgSize, Nat.reducePow, Nat.add_one_sub_one] at hp
      simp [hs, hty, hb, hl, maxMsgSize, Nat.not_lt.2 (by omega : (gpuRowOf m).size ≤ 4294967295), hp,
        hfd (by simp [hs]), hrfd]

theorem gpu_recvReply_table {σ : Type} (ch : Chooser σ) (cl : Bool) (st : GSt) (rh : Hdr) (ty : String) (n : Nat)
    (hn : sizeOfTy ty = some n) (cst : σ) (str : List Cell) :
    recvReply ch cl st rh ty cst str =
      (match run (gpuInSt st) Gen.ProxyOps.Gpu.recv_reply.stmts none with
       | .err e => ⟨.err (errOf e), str, cst, []⟩
       | .recv _ rest => gpuAfterRecv (gpuInSt st) ty rest rh (recvBody ch cl hdrValidGpu n (replyBodyOk ty) cst str)
       | _ => ⟨.err .other, str, cst, []⟩) := by
  unfold recvReply
  cases herr : st.error with
  | some e => simp [run, Gen.ProxyOps.Gpu.recv_reply.stmts, gpuInSt, herr, errOf]
  | none =>
    simp only [hn, run, Gen.ProxyOps.Gpu.recv_reply.stmts, gpuInSt, herr, gpuAfterRecv, replyIn, Option.isSome_none,
      Bool.false_eq_true, if_false]
    generalize recvBody ch cl hdrValidGpu n (replyBodyOk ty) cst str = o
    rcases o with ⟨res, rest, cst', closed⟩
    cases res with
    | blocked => simp
    | err e => simp
    | ok r =>
      cases h1 : isReplyFor gpuCodes r.hdr rh <;> cases h2 : r.files.isSome <;> cases h3 : replyBodyOk ty r.body <;>
        simp [h1, h2, h3, errOf]

/-- after the request is written: nothing is read for a method whose row has no reply type; otherwise exactly
`recv_reply::<row.reply>`, whose value is returned (`ret = body`) or dropped (`ret = unit`) -/
theorem gpu_callRecv_table {σ : Type} (ch : Chooser σ) (cl : Bool) (st : GSt) (req : Req) (cst : σ) (str : List Cell) :
    callRecv ch cl st req cst str =
      (match (gpuRowOf req.m).reply with
       | none => ⟨.unit, req.bytes, req.fds, str, cst, []⟩
       | some ty =>
         let o := recvReply ch cl st req.hdr ty cst str
         match o.res with
         | .blocked => ⟨.blocked, req.bytes, req.fds, o.rest, o.cst, o.closed⟩
         | .err e => ⟨.err e, req.bytes, req.fds, o.rest, o.cst, o.closed⟩
         | .ok r =>
           ⟨(match (gpuRowOf req.m).ret, ty with
             | .unit, _ => .unit
             | .body, "VhostUserU64" => .val (leVal r.body)
             | .body, _ => .bytes r.body), req.bytes, req.fds, o.rest, o.cst, o.closed⟩) := by
  unfold callRecv
  rcases req with ⟨m, hdr, bytes, fds⟩
  rcases m with ⟨name, code, send, bodyTy, fd, reply⟩
  cases reply <;> simp [gpuRowOf, ReplyTy.ty] <;> (split <;> simp [*])

end Lemmas.Proxy
