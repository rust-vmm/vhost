import VhostModel.Lemmas.RoundtripRecv
import VhostModel.Lemmas.RoundtripSrv
import VhostModel.Lemmas.Owed
import VhostModel.Lemmas.FrontendTable
import VhostModel.Props.C03
import VhostModel.Props.C07
/-!
# The C03 composition theorem: vocabulary, and one turn per kind of reply reader

* `usable op h` — the handler's scripted outcome is a success the frontend can hand to the caller;
* `expectedValue op h file` — what the API call must then return, in terms of the handler's outcome only;
* `sendState`, `feAfter` — frontend state after the request was written / after the reply was accepted;
* `inStep s bst` — the negotiation states of the two endpoints agree;
* `replyCells o file` — the server's output as the cells of one `sendmsg` (the handler's file is `file`);
* `TurnSpec` — what one API call does against the output of the server turn it caused.

`TurnSpec` is then established per reader (`turn_ack`, `turn_body`, `turn_bodyFiles`, `turn_config`), for an awaited call through
`TurnSpec.of_recv`.  In `turn_body*`, `wr` tells whether the server wrote a reply at all: the value getters write nothing
when the handler fails, other arms always reply and report the failure in band.  GET_CONFIG answers everything but a
usable outcome with a payload-less structure whose `size` is 0, on which the frontend returns an error without waiting for
a payload (F-C03-cfg repaired).
-/
namespace Lemmas.Roundtrip
open Base Model.Stream Model.Msgs Model.Frontend Lemmas.Encode
open Model.BackendSrv (Err Hdr bitSet BSt HOut Out Res ackOf replyHdr bodyValid)

/-- the handler produced a result the call can return: it succeeded, and
* `get_config`: the configuration bytes have the requested length;
* `get_queue_num`: the number (as transmitted, 64 bits) does not exceed the 0x8000 queues the library supports;
* `set_backend_req_fd`: always — the server installs the channel itself, the application's handler cannot fail it.
(File-returning operations: `get_shared_object`, `postcopy_advise` and `get_inflight_fd` return a file exactly when
the handler succeeds; for `set_device_state_fd` success without a file is a result of its own, `Ret.noFile`.) -/
def usable (op : Op) (h : HOut) : Bool :=
  match op.name, op.a with
  | "set_backend_req_fd", _ => true
  | "get_config", [_, size, _, _] => h.ok && h.b.length == size
  | "get_queue_num", _ => h.ok && decide (h.v % 2^64 ≤ 0x8000)
  | _, _ => h.ok

/-- the value the API call returns for a usable handler outcome `h`; `file` is the file the handler produced -/
def expectedValue (op : Op) (h : HOut) (file : Fd) : Ret :=
  match op.name, op.a with
  | "get_features", _ => .val (h.v % 2^64)
  | "get_protocol_features", _ => .val (((h.v ||| 8) % 2^64) &&& (2^22 - 1))
  | "get_queue_num", _ => .val (h.v % 2^64)
  | "get_max_mem_slots", _ => .val (h.v % 2^64)
  | "get_vring_base", _ => .val (h.v % 2^32)
  | "get_config", [off, size, fl, _] => .config off size fl h.b
  | "get_shared_object", _ => .file file
  | "postcopy_advise", _ => .file file
  | "get_inflight_fd", [_, mo, nq, qs] => .inflight (h.v % 2^64) mo nq qs file
  | "set_device_state_fd", _ => if h.file then .file file else .noFile
  | "get_shmem_config", _ => .shmem (h.v % 2^32) ((h.b ++ List.replicate 2048 0).take 2048)
  | _, _ => .unit

/-- frontend state once the request is on the wire (`request`'s second component) -/
def sendState (s : FSt) (op : Op) : FSt :=
  match op.name, op.a with
  | "set_features", [v] => { s with acked := v &&& s.virtio }
  | "set_protocol_features", [v] => { s with ackedProto := v }
  | _, _ => s

/-- frontend state once the reply to a usable outcome was accepted -/
def feAfter (s' : FSt) (op : Op) (h : HOut) : FSt :=
  match op.name with
  | "get_features" => { s' with virtio := h.v % 2^64 }
  | "get_protocol_features" => { s' with proto := (h.v ||| 8) % 2^64 }
  | "get_queue_num" => { s' with maxQ := h.v % 2^64 }
  | _ => s'

/-- the two endpoints agree on the negotiation: same offered virtio features, same acknowledged protocol features, the
server's REPLY_ACK flag is what these determine (`Props.C04.Inv`), and REPLY_ACK was acknowledged only while
VHOST_USER_F_PROTOCOL_FEATURES is offered -/
def inStep (s : FSt) (bst : BSt) : Bool :=
  s.virtio == bst.virtio && s.ackedProto == bst.ackedProto &&
  (bst.replyAck == (bitSet bst.virtio 30 && bitSet bst.ackedProto 3)) &&
  (!bitSet bst.ackedProto 3 || bitSet bst.virtio 30)

theorem inStep_parts {s : FSt} {bst : BSt} (h : inStep s bst = true) :
    s.virtio = bst.virtio ∧ s.ackedProto = bst.ackedProto ∧ bst.replyAck = bitSet s.ackedProto 3 ∧
    (bitSet bst.ackedProto 3 = true → bitSet bst.virtio 30 = true) := by
  simp only [inStep, Bool.and_eq_true, beq_iff_eq, Bool.or_eq_true, Bool.not_eq_true'] at h
  obtain ⟨⟨⟨h1, h2⟩, h3⟩, h4⟩ := h
  refine ⟨h1, h2, ?_, ?_⟩
  · rw [h3, h2]
    cases hb : bitSet bst.ackedProto 3 with
    | false => simp
    | true => rcases h4 with h4 | h4 <;> simp_all
  · intro hb; rcases h4 with h4 | h4 <;> simp_all

/-- what the server wrote, as the cells of the one `sendmsg` it is written with; the descriptors attached (at most one
in this model) are copies of the handler's file -/
def replyCells (o : Out) (file : Fd) : List Cell := segCells o.out (List.replicate o.outFds file)

/-- outcome of an API call that went on the wire, against the output `d` of the server turn -/
structure TurnSpec {σ : Type} (ch : Chooser σ) (cl : Bool) (s' : FSt) (op : Op) (req : Req) (h : HOut) (d : Out) (cst : σ)
    (file : Fd) : Prop where
  /-- nothing is awaited: success without reading; the server wrote nothing (and the operation is one that returns no
  value and leaves the frontend state alone) -/
  unawaited : awaits s' req = false →
    (callRecv ch cl s' op req cst (replyCells d file)).ret = .unit ∧ (callRecv ch cl s' op req cst (replyCells d file)).st = s' ∧
    (callRecv ch cl s' op req cst (replyCells d file)).rest = [] ∧ d.out = [] ∧
    expectedValue op h file = .unit ∧ feAfter s' op h = s'
  /-- usable outcome: exactly the handler's value, the reply is consumed entirely -/
  ok : awaits s' req = true → usable op h = true →
    (callRecv ch cl s' op req cst (replyCells d file)).ret = expectedValue op h file ∧
    (callRecv ch cl s' op req cst (replyCells d file)).st = feAfter s' op h ∧
    (callRecv ch cl s' op req cst (replyCells d file)).rest = []
  /-- failure or unusable outcome: an error — or, only while the stream is still open and the server wrote nothing
  (its `handle_request` has failed, the serve loop is about to close the connection), the call is still waiting -/
  fail : awaits s' req = true → usable op h = false →
    (callRecv ch cl s' op req cst (replyCells d file)).st = s' ∧
    ((∃ e, (callRecv ch cl s' op req cst (replyCells d file)).ret = .err e) ∨
     ((callRecv ch cl s' op req cst (replyCells d file)).ret = .blocked ∧ cl = false ∧ d.out = [] ∧ d.res = .err .handlerErr))

theorem sendState_hdrFlags (s : FSt) (op : Op) : (sendState s op).hdrFlags = s.hdrFlags := by
  unfold sendState; split <;> rfl

theorem reqHdr_sendState (s : FSt) (op : Op) (req : Req) : reqHdr (sendState s op) req = reqHdr s req := by
  simp only [reqHdr, reqFlags, sendState_hdrFlags]

/-- every accepting branch of `request` ends in the request together with `sendState s op` -/
theorem request_keeps (s : FSt) (op : Op) (req : Req) (s' : FSt) (hreq : request s op = .ok (req, s')) : s' = sendState s op := by
  obtain ⟨name, a, pl, fds, bad, regs⟩ := op
  revert hreq
  fun_cases request s ⟨name, a, pl, fds, bad, regs⟩
  all_goals intro hreq
  all_goals cases hreq
  all_goals subst_vars
  all_goals rfl

theorem request_state (s : FSt) (op : Op) (req : Req) (s' : FSt) (hreq : request s op = .ok (req, s')) :
    s' = sendState s op ∧ (op.name = "set_protocol_features" → bitSet s.virtio 30 = true) := by
  refine ⟨request_keeps s op req s' hreq, fun hn => ?_⟩
  cases hb : bitSet s.virtio 30 with
  | true => rfl
  | false =>
    obtain ⟨e, he⟩ := Props.C07.frontend_proto_exchange_needs_offer s op hb (.inr hn)
    rw [he] at hreq; cases hreq

/-- the operations whose API method post-processes the reply; for every other one `finish`, `usable`, `expectedValue` and
`feAfter` take their default branch -/
def valueOps : List String :=
  ["get_features", "get_protocol_features", "get_queue_num", "get_vring_base", "get_max_mem_slots", "check_device_state",
   "get_config", "get_shared_object", "postcopy_advise", "get_inflight_fd", "set_device_state_fd", "get_shmem_config"]

theorem plain_op {op : Op} (hn : valueOps.contains op.name = false) (s : FSt) (h : HOut) (file : Fd) :
    (∀ r, finish s op r = (.unit, s)) ∧ ((op.name != "set_backend_req_fd") = true → usable op h = h.ok) ∧
    expectedValue op h file = .unit ∧ feAfter s op h = s := by
  obtain ⟨name, a, pl, fds, bad, regs⟩ := op
  simp only [valueOps, List.contains_cons, List.contains_nil, Bool.or_false, Bool.or_eq_false_iff, beq_eq_false_iff_ne,
    ne_eq] at hn
  refine ⟨fun r => ?_, fun hs => ?_, ?_, ?_⟩
  · unfold finish; split <;> first | rfl | simp_all only
  · simp only [bne_iff_ne, ne_eq] at hs
    unfold usable; split <;> first | rfl | simp_all only
  · unfold expectedValue; split <;> first | rfl | simp_all only
  · unfold feAfter; split <;> first | rfl | simp_all only

open Lemmas.FrontendTable Model.FrontendTable in
/-- no row of the frontend's table that ends in `wait_for_ack`, or reads nothing, is one of `valueOps`: all the name
comparisons in one evaluation -/
theorem plain_rows : ∀ row ∈ modelOps, (row.await == .ack || row.await == .none) = true →
    valueOps.contains row.name = false := by decide +kernel

open Lemmas.FrontendTable in
theorem plain_of_kind {s : FSt} {op : Op} {req : Req} {s' : FSt} (hreq : request s op = .ok (req, s'))
    (hk : req.kind = .ack ∨ req.kind = .noWait) : valueOps.contains op.name = false := by
  obtain ⟨row, hrow, _, hsends, _⟩ := request_ok_row s op req s' hreq
  obtain ⟨hm, hname, _⟩ := rowFor_mem hrow
  rw [← hname]
  refine plain_rows row hm ?_
  rw [← hsends.2.1]
  rcases hk with hk | hk <;> rw [hk] <;> rfl

section
variable {σ : Type} (ch : Chooser σ) (cl : Bool) (s' : FSt) (op : Op) (req : Req) (cst : σ) (str : List Cell)

theorem callRecv_of_ok {rep : Reply} (hr : (recv ch cl s' req cst str).res = .ok rep) :
    (callRecv ch cl s' op req cst str).ret = (finish s' op rep).1 ∧
    (callRecv ch cl s' op req cst str).st = (finish s' op rep).2 ∧
    (callRecv ch cl s' op req cst str).rest = (recv ch cl s' req cst str).rest := by
  simp only [callRecv, hr, and_self]

theorem callRecv_of_err {e : Err} (hr : (recv ch cl s' req cst str).res = .err e) :
    (callRecv ch cl s' op req cst str).ret = .err e ∧
    (callRecv ch cl s' op req cst str).st = s' ∧
    (callRecv ch cl s' op req cst str).rest = (recv ch cl s' req cst str).rest := by
  simp only [callRecv, hr, and_self]

theorem callRecv_of_blocked (hr : (recv ch cl s' req cst str).res = .blocked) :
    (callRecv ch cl s' op req cst str).ret = .blocked ∧
    (callRecv ch cl s' op req cst str).st = s' ∧
    (callRecv ch cl s' op req cst str).rest = (recv ch cl s' req cst str).rest := by
  simp only [callRecv, hr, and_self]

/-- an awaited call facing an empty stream: the failure clause of `TurnSpec` -/
theorem callRecv_nil (hw : awaits s' req = true) :
    (callRecv ch cl s' op req cst []).st = s' ∧
    ((∃ e, (callRecv ch cl s' op req cst []).ret = .err e) ∨ ((callRecv ch cl s' op req cst []).ret = .blocked ∧ cl = false)) := by
  rcases recv_nil ch cl s' req cst hw with ⟨h1, h2⟩ | ⟨e, h1⟩
  · obtain ⟨a, b, _⟩ := callRecv_of_blocked ch cl s' op req cst [] h1
    exact ⟨b, Or.inr ⟨a, h2⟩⟩
  · obtain ⟨a, b, _⟩ := callRecv_of_err ch cl s' op req cst [] h1
    exact ⟨b, Or.inl ⟨e, a⟩⟩

theorem callRecv_unawaited (hw : awaits s' req = false) (hfin : ∀ r, finish s' op r = (.unit, s')) :
    (callRecv ch cl s' op req cst str).ret = .unit ∧ (callRecv ch cl s' op req cst str).st = s' ∧
    (callRecv ch cl s' op req cst str).rest = str := by
  have hr : (recv ch cl s' req cst str).rest = str ∧ ∃ r, (recv ch cl s' req cst str).res = .ok r := by
    cases hk : req.kind with
    | noWait => unfold recv; simp only [hk]; exact ⟨trivial, _, rfl⟩
    | ack =>
      refine Props.C03.no_wait_without_ack ch cl s' req cst str hk ?_
      simp only [awaits, hk, Bool.and_eq_false_iff] at hw; exact hw
    | _ => simp [awaits, hk] at hw
  obtain ⟨hrest, rep, hrep⟩ := hr
  obtain ⟨a, b, c⟩ := callRecv_of_ok ch cl s' op req cst str hrep
  rw [hfin] at a b
  exact ⟨a, b, c.trans hrest⟩

end

theorem segCells_nil (fds : List Fd) : segCells [] fds = [] := rfl

section turns
variable {σ : Type} {ch : Chooser σ} {cl : Bool} {s' : FSt} {op : Op} {req : Req} {h : HOut} {d : Out} {cst : σ} {file : Fd}

theorem TurnSpec.of_recv (haw : awaits s' req = true)
    (hok : usable op h = true → ∃ rep, (recv ch cl s' req cst (replyCells d file)).res = .ok rep ∧
      (recv ch cl s' req cst (replyCells d file)).rest = [] ∧ finish s' op rep = (expectedValue op h file, feAfter s' op h))
    (hfail : usable op h = false →
      (replyCells d file = [] ∧ d.out = [] ∧ d.res = .err .handlerErr) ∨
      (∃ e, (recv ch cl s' req cst (replyCells d file)).res = .err e) ∨
      (∃ rep e, (recv ch cl s' req cst (replyCells d file)).res = .ok rep ∧ finish s' op rep = (.err e, s'))) :
    TurnSpec ch cl s' op req h d cst file := by
  constructor
  · intro hw; rw [haw] at hw; cases hw
  · intro _ hu
    obtain ⟨rep, r, hrest, hfin⟩ := hok hu
    obtain ⟨a, b, c⟩ := callRecv_of_ok ch cl s' op req cst _ r
    rw [hfin] at a b
    exact ⟨a, b, c.trans hrest⟩
  · intro _ hu
    rcases hfail hu with ⟨hnil, ho, hr⟩ | ⟨e, r⟩ | ⟨rep, e, r, hfin⟩
    · rw [hnil]
      obtain ⟨a, b⟩ := callRecv_nil ch cl s' op req cst haw
      exact ⟨a, b.imp id fun ⟨b1, b2⟩ => ⟨b1, b2, ho, hr⟩⟩
    · obtain ⟨a, b, _⟩ := callRecv_of_err ch cl s' op req cst _ r
      exact ⟨b, .inl ⟨e, a⟩⟩
    · obtain ⟨a, b, _⟩ := callRecv_of_ok ch cl s' op req cst _ r
      rw [hfin] at a b
      exact ⟨b, .inl ⟨e, a⟩⟩

/-- **acknowledged operations** -/
theorem turn_ack (stx : BSt) (okf : Bool)
    (hk : req.kind = .ack) (hfin : ∀ r, finish s' op r = (.unit, s'))
    (hout : d.out = ackOf stx (reqHdr s' req) okf) (hfds : d.outFds = 0)
    (hra : stx.replyAck = bitSet s'.ackedProto 3) (hus : usable op h = okf) (hev : expectedValue op h file = .unit)
    (hfe : feAfter s' op h = s') (hq : ReqOk (reqHdr s' req)) :
    TurnSpec ch cl s' op req h d cst file := by
  have hcells : replyCells d file = segCells (ackOf stx (reqHdr s' req) okf) [] := by
    simp only [replyCells, hout, hfds, List.replicate_zero]
  constructor
  · intro hw
    obtain ⟨a, b, c⟩ := callRecv_unawaited ch cl s' op req cst (replyCells d file) hw hfin
    have hnil : ackOf stx (reqHdr s' req) okf = [] := by
      simp only [awaits, hk] at hw
      simp only [ackOf, hra, hw, Bool.false_eq_true, if_false]
    refine ⟨a, b, c.trans ?_, by rw [hout, hnil], hev, hfe⟩
    rw [hcells, hnil, segCells_nil]
  · intro hw hu
    simp only [awaits, hk, Bool.and_eq_true] at hw
    rw [hus] at hu
    have hbytes : ackOf stx (reqHdr s' req) okf = replyHdr (reqHdr s' req) 8 ++ leBytes 8 0 := by
      simp only [ackOf, hra, hw.1, hw.2, hu, Bool.and_self, if_true]
    rw [hcells, hbytes]
    obtain ⟨r1, r2, _⟩ := recv_ack_reply ch cl s' req cst 0 hk hw.1 hw.2 hq (by omega)
    obtain ⟨a, b, c⟩ := callRecv_of_ok ch cl s' op req cst _ (r2 rfl)
    rw [hfin] at a b
    exact ⟨a.trans hev.symm, b.trans hfe.symm, c.trans r1⟩
  · intro hw hu
    simp only [awaits, hk, Bool.and_eq_true] at hw
    rw [hus] at hu
    have hbytes : ackOf stx (reqHdr s' req) okf = replyHdr (reqHdr s' req) 8 ++ leBytes 8 1 := by
      simp only [ackOf, hra, hw.1, hw.2, hu, Bool.and_self, if_true, Bool.false_eq_true, if_false]
    rw [hcells, hbytes]
    obtain ⟨r1, _, r3⟩ := recv_ack_reply ch cl s' req cst 1 hk hw.1 hw.2 hq (by omega)
    obtain ⟨a, b, c⟩ := callRecv_of_err ch cl s' op req cst _ (r3 (by omega))
    exact ⟨b, Or.inl ⟨_, a⟩⟩

/-- **`recv_reply::<ty>`** -/
theorem turn_body (ty : String) (n : Nat) (body : Bytes) (wr : Bool)
    (hk : req.kind = .body ty) (hty : sizeOfTy ty = some n) (hn : n ≤ 0x1000)
    (hout : d.out = if wr then replyHdr (reqHdr s' req) n ++ body else []) (hfds : d.outFds = 0)
    (hres : wr = false → d.res = .err .handlerErr)
    (hblen : body.length = n) (hval : wr = true → bodyValidTy ty body = some true)
    (hwr : usable op h = true → wr = true)
    (hfinok : wr = true → usable op h = true →
      finish s' op ⟨⟨(reqHdr s' req).code, 5, n⟩, body, [], none⟩ = (expectedValue op h file, feAfter s' op h))
    (hfinerr : wr = true → usable op h = false →
      ∃ e, finish s' op ⟨⟨(reqHdr s' req).code, 5, n⟩, body, [], none⟩ = (.err e, s'))
    (hq : ReqOk (reqHdr s' req)) :
    TurnSpec ch cl s' op req h d cst file := by
  have hcells : replyCells d file = segCells (if wr then replyHdr (reqHdr s' req) n ++ body else []) [] := by
    simp only [replyCells, hout, hfds, List.replicate_zero]
  have hrecv : wr = true → (recv ch cl s' req cst (replyCells d file)).rest = [] ∧
      (recv ch cl s' req cst (replyCells d file)).res = .ok ⟨⟨(reqHdr s' req).code, 5, n⟩, body, [], none⟩ := fun hw => by
    rw [hcells, if_pos hw]; exact recv_body_reply ch cl s' req cst ty n body hk hty hblen hn (hval hw) hq
  refine .of_recv (by simp [awaits, hk]) (fun hu => ?_) (fun hu => ?_)
  · obtain ⟨r1, r2⟩ := hrecv (hwr hu)
    exact ⟨_, r2, r1, hfinok (hwr hu) hu⟩
  · cases hw : wr with
    | true =>
      obtain ⟨e, he⟩ := hfinerr hw hu
      exact .inr (.inr ⟨_, e, (hrecv hw).2, he⟩)
    | false => exact .inl ⟨by rw [hcells, if_neg (Bool.eq_false_iff.1 hw), segCells_nil], by rw [hout, if_neg (Bool.eq_false_iff.1 hw)], hres hw⟩

/-- `turn_body` for a value getter: a reply iff the handler succeeded, every success usable -/
theorem turn_body_simple (ty : String) (n : Nat) (body : Bytes)
    (hk : req.kind = .body ty) (hty : sizeOfTy ty = some n) (hn : n ≤ 0x1000)
    (hout : d.out = if h.ok then replyHdr (reqHdr s' req) n ++ body else []) (hfds : d.outFds = 0)
    (hres : h.ok = false → d.res = .err .handlerErr)
    (hblen : body.length = n) (hval : bodyValidTy ty body = some true) (hus : usable op h = h.ok)
    (hfinok : finish s' op ⟨⟨(reqHdr s' req).code, 5, n⟩, body, [], none⟩ = (expectedValue op h file, feAfter s' op h))
    (hq : ReqOk (reqHdr s' req)) :
    TurnSpec ch cl s' op req h d cst file :=
  turn_body ty n body h.ok hk hty hn hout hfds hres hblen (fun _ => hval)
    (fun hu => by rw [hus] at hu; exact hu) (fun _ _ => hfinok)
    (fun hw hu => by rw [hus, hw] at hu; cases hu) hq

/-- **`recv_reply_with_files::<ty>`**: the handler's file comes along iff the handler succeeded -/
theorem turn_bodyFiles (ty : String) (n : Nat) (body : Bytes) (wr : Bool)
    (hk : req.kind = .bodyFiles ty) (hty : sizeOfTy ty = some n) (hn : n ≤ 0x1000)
    (hout : d.out = if wr then replyHdr (reqHdr s' req) n ++ body else []) (hfds : d.outFds = if h.ok then 1 else 0)
    (hres : wr = false → d.res = .err .handlerErr)
    (hblen : body.length = n) (hval : wr = true → bodyValidTy ty body = some true)
    (hwr : h.ok = true → wr = true) (hus : usable op h = h.ok)
    (hfinok : h.ok = true →
      finish s' op ⟨⟨(reqHdr s' req).code, 5, n⟩, body, [], some [file]⟩ = (expectedValue op h file, feAfter s' op h))
    (hq : ReqOk (reqHdr s' req)) :
    TurnSpec ch cl s' op req h d cst file := by
  refine .of_recv (by simp [awaits, hk]) (fun hu => ?_) (fun hu => ?_)
  · have hok := hus.symm.trans hu
    have hcells : replyCells d file = segCells (replyHdr (reqHdr s' req) n ++ body) [file] := by
      simp only [replyCells, hout, hfds, hok, if_true, hwr hok, List.replicate_one]
    rw [hcells]
    obtain ⟨r1, r2, _⟩ := recv_bodyFiles_reply ch cl s' req cst ty n body [file] hk hty hblen hn (hval (hwr hok)) hq (by simp)
    exact ⟨_, r2 (by simp), r1, hfinok hok⟩
  · have hok := hus.symm.trans hu
    cases hw : wr with
    | true =>
      have hcells : replyCells d file = segCells (replyHdr (reqHdr s' req) n ++ body) [] := by
        simp only [replyCells, hout, hfds, hok, hw, if_true, Bool.false_eq_true, if_false, List.replicate_zero]
      rw [hcells]
      obtain ⟨_, _, r3⟩ := recv_bodyFiles_reply ch cl s' req cst ty n body [] hk hty hblen hn (hval hw) hq (by simp)
      exact .inr (.inl ⟨_, r3 rfl⟩)
    | false =>
      exact .inl ⟨by simp only [replyCells, hout, hw, Bool.false_eq_true, if_false, segCells_nil], by rw [hout, if_neg (Bool.eq_false_iff.1 hw)],
        hres hw⟩

/-- a fixed part that `recv_body` refuses makes `recv_reply_with_payload` fail with the same error -/
theorem recv_payload_of_body_err {σ : Type} (ch : Chooser σ) (cl : Bool) (s : FSt) (req : Req) (cst : σ) (str : List Cell)
    (ty : String) (n : Nat) (e : Err) (hk : req.kind = .payload ty) (hty : sizeOfTy ty = some n)
    (hsz : n < (reqHdr s req).size) (hmax : (reqHdr s req).size ≤ 0x1000) (hr : (reqHdr s req).isReply = false)
    (hb : (recvBody ch cl ty cst str).res = .err e) :
    (recv ch cl s req cst str).res = .err e := by
  have hpre : (decide ((reqHdr s req).size ≤ n) || decide ((reqHdr s req).size > 0x1000) || (reqHdr s req).isReply) = false := by
    simp [hr]; omega
  unfold recv
  simp only [hk, hty, hpre, Bool.false_eq_true, if_false, hb]

theorem config_valid_args {off size fl : Nat} (ho : off < 2^32) (hs : size < 2^32) (hf : fl < 2^32)
    (hv : bodyValid "VhostUserConfig" (u32 off ++ u32 size ++ u32 fl) = some true) : Spec.validConfig off size fl := by
  obtain ⟨f1, f2, f3⟩ := dec_Config [] off size fl ho hs hf
  simp only [List.append_nil] at f1 f2 f3
  rw [Lemmas.Owed.bodyValid_config _ (by simp [u32]), srv_g _ _ _ _ f1, srv_g _ _ _ _ f2, srv_g _ _ _ _ f3] at hv
  simpa using hv

theorem config_zero_invalid {off fl : Nat} (ho : off < 2^32) (hf : fl < 2^32) :
    bodyValidTy "VhostUserConfig" (leBytes 4 off ++ leBytes 4 0 ++ leBytes 4 fl) ≠ some true := by
  obtain ⟨f1, f2, f3⟩ := dec_Config [] off 0 fl ho (by omega) hf
  simp only [List.append_nil] at f1 f2 f3
  rw [bodyValidTy_of _ _ (by decide) (by decide)]
  show bodyValid "VhostUserConfig" (u32 off ++ u32 0 ++ u32 fl) ≠ some true
  rw [Lemmas.Owed.bodyValid_config _ (by simp [u32]), srv_g _ _ _ _ f1, srv_g _ _ _ _ f2, srv_g _ _ _ _ f3]
  simp [Spec.validConfig]

/-- **GET_CONFIG** -/
theorem turn_config {off size fl x : Nat} {pl : Bytes} {fds : List Fd} {bad : Bool} {regs : List (Nat × Nat × Nat × Nat × Bool)}
    (ho : off < 2^32) (hs : size < 2^32) (hf : fl < 2^32) (hx : x = size) (hk : req.kind = .payload "VhostUserConfig")
    (hsize : (reqHdr s' req).size = 12 + size) (hmax : 12 + size ≤ 0x1000)
    (hv : bodyValid "VhostUserConfig" (u32 off ++ u32 size ++ u32 fl) = some true)
    (hout : d.out =
      if h.ok && h.b.length == size then
        replyHdr (reqHdr s' req) (12 + size) ++
          leBytes 4 off ++ leBytes 4 size ++ leBytes 4 fl ++ h.b
      else replyHdr (reqHdr s' req) 12 ++
          leBytes 4 off ++ leBytes 4 0 ++ leBytes 4 fl)
    (hfds : d.outFds = 0)
    (hq : ReqOk (reqHdr s' req)) :
    TurnSpec ch cl s' ⟨"get_config", [off, size, fl, x], pl, fds, bad, regs⟩ req h d cst file := by
  have haw : awaits s' req = true := by simp [awaits, hk]
  have hvc := config_valid_args ho hs hf hv
  have hty := Lemmas.FeRecv.so_Config
  have hx' := hx.symm
  subst hx'
  refine .of_recv haw (fun hu => ?_) (fun hu => ?_)
  · have hu' : (h.ok && h.b.length == size) = true := hu
    have hlen : h.b.length = size := by simp only [Bool.and_eq_true, beq_iff_eq] at hu'; exact hu'.2
    have hcells : replyCells d file =
        segCells (replyHdr (reqHdr s' req) (12 + h.b.length) ++
          (u32 off ++ u32 size ++ u32 fl) ++ h.b) [] := by
      rw [replyCells, hout, hfds, if_pos hu']
      simp only [List.replicate_zero, hlen, u32, List.append_assoc]
    rw [hcells]
    obtain ⟨r1, r2⟩ := recv_payload_reply ch cl s' _ cst "VhostUserConfig" 12 (u32 off ++ u32 size ++ u32 fl) h.b hk hty
      (by simp [u32]) (by rw [bodyValidTy_of _ _ (by decide) (by decide)]; exact hv) hq
      (by rw [hsize]; have := hvc.1; omega) (by rw [hsize]; omega) (by rw [hsize]; omega)
    obtain ⟨f1, f2, f3⟩ := dec_Config [] off size fl ho hs hf
    simp only [List.append_nil] at f1 f2 f3
    have hfin : finish s' ⟨"get_config", [off, size, fl, size], pl, fds, bad, regs⟩
        ⟨⟨(reqHdr s' req).code, 5, 12 + h.b.length⟩, u32 off ++ u32 size ++ u32 fl, h.b, none⟩ = (.config off size fl h.b, s') := by
      have hz : (size == 0) = false := by have := hvc.1; simp; omega
      simp only [finish, fe_g _ _ _ _ f1, fe_g _ _ _ _ f2, fe_g _ _ _ _ f3, hz, Bool.false_eq_true, if_false, hlen,
        bne_self_eq_false, Bool.or_self]
    exact ⟨_, r2, r1, hfin⟩
  · have hu' : (h.ok && h.b.length == size) = false := hu
    have hcells : replyCells d file =
        segCells (replyHdr (reqHdr s' req) 12 ++
          (leBytes 4 off ++ leBytes 4 0 ++ leBytes 4 fl) ++ []) [] := by
      rw [replyCells, hout, hfds, if_neg (by rw [hu']; exact Bool.false_ne_true)]
      simp only [List.replicate_zero, List.append_assoc, List.append_nil]
    rw [hcells]
    obtain ⟨_, _, r3⟩ := recvBody_segCells ch cl "VhostUserConfig" 12 cst
      (replyHdr (reqHdr s' req) 12)
      (leBytes 4 off ++ leBytes 4 0 ++ leBytes 4 fl) [] [] hty (Lemmas.BackendChannel.encHdr_length _ _ _) (by simp) (by simp) _ rfl
    have hr := recv_payload_of_body_err ch cl s' req cst _
      "VhostUserConfig" 12 .invalidMsg hk hty (by rw [hsize]; have := hvc.1; omega) (by rw [hsize]; omega) hq.notReply
      (r3 (Or.inr (config_zero_invalid ho hf)))
    exact .inr (.inl ⟨_, hr⟩)

end turns

end Lemmas.Roundtrip
