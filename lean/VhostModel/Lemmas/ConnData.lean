import VhostModel.Lemmas.ConnImp
import VhostModel.Lemmas.Stream
import VhostModel.Gen.ConnLoops

/-!
# `recv_data`: the interpreted loop against `Model.Stream.recvData`
-/
namespace Lemmas.ConnData
open Imp Gen.ConnLoops Lemmas.Stream
open Model.Stream (Cell Chooser clampK recvData RecvData)

section body
variable {σ : Type} (env : Env σ) (F : Nat) (fr : Frame) (w : World σ)

/-- one iteration of the loop of `recv_data`, by the `recvmsg` it performs
(`len` = slot 0, `data_read` = slot 1, `rbuf` = iovec slot 0) -/
theorem body_spec (hl : (fr.io 0).lens = [fr.n 0]) (hp : fr.n 1 < fr.n 0) {c : Ctl} {fr' : Frame} {w' : World σ}
    (hx : exec env RecvData.whileBody F fr w = (c, fr', w')) :
    fr'.n 0 = fr.n 0 ∧ fr'.io 0 = fr.io 0 ∧ fr'.f = fr.f ∧
    match read env.ch env.isClosed (fr.n 0 - fr.n 1) w.cst w.stream with
    | .blocked => c = .stuck .blocked ∧ fr'.n 1 = fr.n 1 ∧ w' = w
    | .eof => c = .brk ∧ fr'.n 1 = fr.n 1 ∧ w' = w
    | .got chunk rest st' =>
      if chunk.flatMap (·.fds) = [] then
        c = .normal ∧ fr'.n 1 = fr.n 1 + chunk.length ∧
        w' = { w with stream := rest, cst := st',
                      mem := w.mem.set (fr.io 0).store (writeAt (w.mem.getD (fr.io 0).store []) ((fr.io 0).start + fr.n 1) (chunk.map (·.b))) }
      else
        c = .done (.err (.sock (env.classify ENOBUFS) ENOBUFS)) ∧ fr'.n 1 = fr.n 1 ∧
        w' = { w with stream := rest, cst := st', closed := w.closed ++ chunk.flatMap (·.fds) } := by
  have h1 : fr.n 1 ≤ fr.n 0 := by omega
  have hw : fr.n 0 - fr.n 1 ≠ 0 := by omega
  simp only [RecvData.whileBody, exec_seq, exec_assignIo, evalIo, evalE, h1, ↓reduceIte, hl, List.length_cons,
    List.length_nil, Nat.zero_add, Nat.lt_add_one, Nat.add_sub_cancel', List.getD_eq_getElem?_getD, getElem?_pos,
    List.getElem_cons_zero, Option.getD_some, Std.le_refl, and_self, List.take_zero, List.sum_nil, exec_callRecv,
    upd_apply, List.sum_cons, Nat.add_zero, exec_matchResult, exec_skip, exec_retErr, exec_ite, evalB, exec_brk,
    exec_assign, primRecv_read env w _ _ _ hw] at hx
  cases hr : read env.ch env.isClosed (fr.n 0 - fr.n 1) w.cst w.stream with
  | blocked =>
    rw [hr] at hx
    obtain ⟨rfl, rfl, rfl⟩ := hx
    exact ⟨rfl, rfl, rfl, rfl, rfl, rfl⟩
  | eof =>
    rw [hr] at hx
    simp at hx
    obtain ⟨rfl, rfl, rfl⟩ := hx
    exact ⟨rfl, rfl, rfl, rfl, rfl, rfl⟩
  | got chunk rest st' =>
    simp only [hr] at hx
    have hk : chunk.length ≠ 0 := Nat.ne_of_gt (read_got hw hr).2.1
    by_cases hcf : chunk.flatMap (·.fds) = []
    · simp [hcf, hk] at hx
      obtain ⟨rfl, rfl, rfl⟩ := hx
      simp [hcf]
    · rw [if_pos (List.length_pos_iff.2 hcf)] at hx
      simp [evalErr, errOf, Err.into] at hx
      obtain ⟨rfl, rfl, rfl⟩ := hx
      simp [hcf]
end body

section loop
variable {σ : Type} (env : Env σ) (F : Nat)

/-- `store` is the `Vec` being filled -/
def LoopInv (len store : Nat) (fr : Frame) (w : World σ) : Prop :=
  fr.n 0 = len ∧ fr.io 0 = { store := store, start := 0, lens := [len] } ∧ fr.n 1 ≤ len ∧
  store < w.mem.length ∧ (w.mem.getD store []).length = len

/-- the loop entered at position `pos` with descriptor variables `f` ends as the model's `D` says -/
def LoopPost (len store pos : Nat) (f : Nat → Option (List Fd)) (w : World σ) (D : RecvData σ) (res : Res σ) : Prop :=
  res.1 = (match D.outcome with
    | .blocked => .stuck .blocked
    | .enobufs => .done (.err (.sock .retry ENOBUFS))
    | _ => .normal) ∧
  res.2.2 = { w with stream := D.rest, cst := D.st, closed := w.closed ++ D.lost,
                     mem := w.mem.set store (writeAt (w.mem.getD store []) pos D.bytes) } ∧
  pos + D.bytes.length ≤ len ∧ res.2.1.n 1 = pos + D.bytes.length ∧
  res.2.1.io 0 = { store := store, start := 0, lens := [len] } ∧ res.2.1.f = f

theorem data_loop (hcl : env.classify ENOBUFS = .retry) (len store : Nat) :
    ∀ (k : Nat) (fr : Frame) (w : World σ), LoopInv len store fr w → w.stream.length < k →
      LoopPost len store (fr.n 1) fr.f w (recvData env.ch env.isClosed (len - fr.n 1) w.cst w.stream)
        (loop (fun fr w => evalB env fr w.mem (.lt (.var RecvData.data_read) (.var RecvData.len)))
          (fun fr w => exec env RecvData.whileBody F fr w) k fr w) := by
  apply loop_rule (LoopInv len store) (fun fr _ => decide (fr.n 1 < fr.n 0)) (fun _ w => w.stream.length)
    (fun fr w r => LoopPost len store (fr.n 1) fr.f w (recvData env.ch env.isClosed (len - fr.n 1) w.cst w.stream) r)
  · intro fr w _; rfl
  · intro fr w ⟨h0, hio, hle, hst, hfl⟩ ht
    have : len - fr.n 1 = 0 := by have := of_decide_eq_false ht; omega
    simp only [this, recvData_zero, LoopPost, set_writeAt_nil _ _ _ hst, List.append_nil, List.length_nil, Nat.add_zero]
    exact ⟨trivial, trivial, hle, trivial, hio, trivial⟩
  · intro fr w ⟨h0, hio, hle, hst, hfl⟩ ht c fr' w' hx
    have hp : fr.n 1 < fr.n 0 := of_decide_eq_true ht
    obtain ⟨k0, kio, kf, hspec⟩ := body_spec env F fr w (by rw [hio, h0]) hp hx
    have hw : len - fr.n 1 ≠ 0 := by omega
    rw [hio, h0] at hspec
    rw [hio] at kio
    simp only [Nat.zero_add] at hspec
    simp only [recvData_read _ _ _ _ hw]
    -- the iteration and the model take the same `read`
    cases hr : read env.ch env.isClosed (len - fr.n 1) w.cst w.stream with
    | blocked | eof =>
      simp only [hr] at hspec
      obtain ⟨rfl, a3, rfl⟩ := hspec
      simp only [LoopPost, set_writeAt_nil _ _ _ hst, List.append_nil, List.length_nil, Nat.add_zero]
      exact ⟨trivial, trivial, hle, a3, kio, kf⟩
    | got chunk rest st' =>
      simp only [hr] at hspec
      obtain ⟨_, hk1, hk2, hm⟩ := read_got hw hr
      by_cases hcf : chunk.flatMap (·.fds) = []
      · rw [if_pos hcf] at hspec
        simp only [if_neg (fun h : ¬ _ => h hcf)]
        obtain ⟨rfl, a3, rfl⟩ := hspec
        have hlen : (chunk.map (·.b)).length = chunk.length := List.length_map _
        have hwl : fr.n 1 + chunk.length ≤ (w.mem.getD store []).length := by rw [hfl]; omega
        refine ⟨⟨by rw [k0, h0], kio, by rw [a3]; omega, by rw [List.length_set]; exact hst, ?_⟩, hm, fun r => ?_⟩
        · simp only []
          rw [getD_set_self _ _ _ hst, length_writeAt _ _ _ (by rw [hlen]; exact hwl), hfl]
        · simp only [a3, kf, Nat.sub_add_eq]
          generalize recvData env.ch env.isClosed (len - fr.n 1 - chunk.length) st' rest = R
          intro ⟨e0, e1, e2, e3⟩
          simp only [LoopPost, List.length_append, hlen, ← Nat.add_assoc]
          exact ⟨e0, by rw [e1]; simp only [set_writeAt_append _ _ _ _ _ hlen hst hwl], e2, e3⟩
      · -- descriptors arrive where none can be received: `ENOBUFS`
        rw [if_neg hcf] at hspec
        simp only [if_pos hcf]
        obtain ⟨rfl, a3, rfl⟩ := hspec
        simp only [LoopPost, hcl, set_writeAt_nil _ _ _ hst, List.length_nil, Nat.add_zero]
        exact ⟨trivial, trivial, hle, a3, kio, kf⟩
end loop

/-- the `Vec` that `recv_data(len)` has filled -/
def dataBuf {σ : Type} (len : Nat) (D : RecvData σ) : Bytes := D.bytes ++ List.replicate (len - D.bytes.length) 0

theorem dataBuf_full {σ : Type} {len : Nat} {D : RecvData σ} (h : D.bytes.length = len) : dataBuf len D = D.bytes := by
  simp [dataBuf, h]

theorem take_dataBuf {σ : Type} (len : Nat) (D : RecvData σ) : (dataBuf len D).take D.bytes.length = D.bytes := by
  simp [dataBuf]

/-- how `recv_data(len)` ends, by the model's outcome -/
def dataCtl {σ : Type} (len : Nat) (D : RecvData σ) : Ctl :=
  match D.outcome with
  | .blocked => .stuck .blocked
  | .enobufs => .done (.err (.sock .retry ENOBUFS))
  | _ => .done (.ok { nats := [D.bytes.length], bufs := [dataBuf len D] })

/-- socket and heap after `recv_data(len)`; `rbuf` is the store allocated by the call (`w.mem.length`) -/
def dataWorld {σ : Type} (len : Nat) (w : World σ) (D : RecvData σ) : World σ :=
  { w with stream := D.rest, cst := D.st, closed := w.closed ++ D.lost, mem := w.mem ++ [dataBuf len D] }

/-- the whole of `recv_data` (`len` = slot 0): the run is a function of the model's result.  The activation it ends in
keeps `data_read` and has touched no descriptor variable.  Fuel: at least one more than the stream is long. -/
theorem recv_data_run {σ : Type} (env : Env σ) (F : Nat) (fr : Frame) (w : World σ)
    (hcl : env.classify ENOBUFS = .retry) (hF : w.stream.length + 1 ≤ F) (len : Nat) (hlen : fr.n RecvData.len.id = len)
    (D : RecvData σ) (hD : D = recvData env.ch env.isClosed len w.cst w.stream) :
    D.bytes.length ≤ len ∧
    ∃ fr', exec env RecvData.fnBody F fr w = (dataCtl len D, fr', dataWorld len w D) ∧
      fr'.n RecvData.data_read.id = D.bytes.length ∧ fr'.f = fr.f := by
  subst hlen
  have hI : LoopInv (fr.n 0) w.mem.length
      { fr with io := upd fr.io 0 { store := w.mem.length, start := 0, lens := [fr.n 0] }, n := upd fr.n 1 0 }
      { w with mem := w.mem ++ [List.replicate (fr.n 0) 0] } :=
    ⟨rfl, rfl, Nat.zero_le _, by simp, by simp⟩
  have h := data_loop env F hcl (fr.n 0) w.mem.length F _ _ hI hF
  have hres : exec env RecvData.fnBody F fr w = exec env (.seq (.while (.lt (.var RecvData.data_read) (.var RecvData.len)) RecvData.whileBody)
        (.ret [.var RecvData.data_read] .none [.whole RecvData.rbuf])) F
        { fr with io := upd fr.io 0 { store := w.mem.length, start := 0, lens := [fr.n 0] }, n := upd fr.n 1 0 }
        { w with mem := w.mem ++ [List.replicate (fr.n 0) 0] } := by
    simp [RecvData.fnBody, evalPieces, evalPiece, evalE]
  rw [exec_seq, exec_while] at hres
  generalize loop _ _ F _ _ = r at h hres
  obtain ⟨c, fr3, w3⟩ := r
  obtain ⟨rfl, rfl, t5, u2, u3, uf⟩ := h
  simp only [upd_apply, reduceIte, Nat.sub_zero, Nat.zero_add, List.getD_eq_getElem?_getD, List.getElem?_concat_length, Option.getD_some,
    List.set_append_right _ _ (Nat.le_refl _), Nat.sub_self, List.set_cons_zero, ← hD] at t5 u2 u3 hres
  rw [writeAt_zeros] at hres
  refine ⟨t5, ?_⟩
  rw [hres]
  have hb : IoVal.bytes (w.mem ++ [D.bytes ++ List.replicate (fr.n 0 - D.bytes.length) 0]) ⟨w.mem.length, 0, [fr.n 0]⟩ =
      D.bytes ++ List.replicate (fr.n 0 - D.bytes.length) 0 := by
    simp only [IoVal.bytes, List.getD_eq_getElem?_getD, List.getElem?_concat_length, Option.getD_some, List.drop_zero, List.sum_cons,
      List.sum_nil, Nat.add_zero]
    exact List.take_of_length_le (by simp; omega)
  -- the loop stopped inside the function, or ended and `ret` reads the buffer back
  cases ho : D.outcome <;>
    simp only [dataCtl, dataWorld, dataBuf, ho, exec_ret, evalEs, evalE, evalF, List.map_cons, List.map_nil, evalBuf, u2, u3, hb] <;>
    exact ⟨_, rfl, u2, uf⟩

end Lemmas.ConnData
