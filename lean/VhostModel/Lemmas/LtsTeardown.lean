import VhostModel.Model.LtsTable
/-!
# Reading the teardown paths in `Model.Shutdown.TD` (C16: exit events, `Drop for VhostUserHandler`, the tail of `serve()`)

`evsT` interprets the events of `VhostUserHandler::send_exit_event` / `VringEpollHandler::send_exit_event`, of the joins of
`Drop for VhostUserHandler` and of the tail of `serve()` on `Model.Shutdown.TD.St`.

Reading conventions (header of `Model/Shutdown.lean`, part "Teardown"):
* `self.handlers` / `self.worker_threads` have `c.n` elements; the loops run over `0 … c.n - 1`;
* `self.exit_event_fd` is `Some` iff the backend supplied an exit event (`c.supplied`); `notify` raises the event;
* `thread.join()` returns once the worker has left its loop (`gone`), else it blocks; what the worker returned is only logged;
* none of these functions has a hold point: the model takes one step per worker (`svSignal`, `hSignal`, `hJoin`), i.e. it is
  finer than the segments; `Props.LtsSteps.serve_tail_is_segment` and `handler_drop_is_segments` say that the *run* of those
  steps is the interpretation of the segment.
-/
namespace Lemmas.LtsTeardown
open Base Model.Shutdown Model.Shutdown.TD Model.LtsTable

inductive Flow where
  | run | ret | blocked
  deriving DecidableEq, Repr

structure TS where
  t : TD.St
  flow : Flow
  /-- index of the element the enclosing `for` is at -/
  cur : Nat
  /-- `result`: what `wait()` returned -/
  w : WRes
  /-- the value of the function -/
  out : Option WRes

def actT (a : LAct) (s : TS) : TS :=
  match a with
  | .exitEventSend => { s with t := { s.t with evt := upd s.t.evt s.cur true } }
  | .threadJoin _ _ => if s.t.gone s.cur then s else { s with flow := .blocked }
  | .h (.value v) =>
    if v = "Ok(())" then { s with out := some .ok } else if v = "result" then { s with out := some s.w } else s
  | .h .done => { s with flow := .ret }
  | _ => s

def patOkT (scrut pat : String) (s : TS) : Bool :=
  if pat = "_" then true
  else if scrut = "&result" then
    (match s.w with
     | .err _ => pat = "Err(e)"
     | .ok => false)
  else
    (match s.w with
     | .err .disconnected => pat = "Error::HandleRequest(VhostUserError::Disconnected)"
     | .err .partialMsg => pat = "Error::HandleRequest(VhostUserError::PartialMessage)"
     | _ => false)

def isArmT (scrut : String) (s : TS) : LEvent → Bool
  | .node .arm ss _ _ => patOkT scrut (ss.headD "") s
  | _ => false

def afterCallT (s : TS) : TS :=
  match s.flow with
  | .ret => { s with flow := .run }
  | _ => s

mutual
def evT (c : TD.Cfg) : LEvent → TS → TS
  | .act a, s => actT a s
  | .node k ss b1 b2, s =>
    match k with
    | .helperCall _ => afterCallT (evsT c b1 s)
    | .forEach =>
      { (List.range c.n).foldl
          (fun s i => match s.flow with
            | .run => evsT c b1 { s with cur := i }
            | _ => s) s with cur := s.cur }
    | .ifSome => if c.supplied then evsT c b1 s else evsT c b2 s
    | .ifLet => evsT c b2 s
    | .matchOn => armsT c (ss.getD 1 "") b1 s
    | .arm => evsT c b2 s
    | _ => s
def evsT (c : TD.Cfg) : List LEvent → TS → TS
  | [], s => s
  | e :: es, s =>
    match (evT c e s).flow with
    | .run => evsT c es (evT c e s)
    | _ => evT c e s
def armsT (c : TD.Cfg) (scrut : String) : List LEvent → TS → TS
  | [], s => s
  | e :: es, s => if isArmT scrut s e then evT c e s else armsT c scrut es s
end

def startT (t : TD.St) (w : WRes) : TS := ⟨t, .run, 0, w, none⟩

-- what running a concrete segment unfolds
attribute [local simp] evsT evT armsT actT isArmT patOkT afterCallT

/-- the exit events of workers `0 … k-1` raised (if the backend supplies them) -/
def signalAll (c : TD.Cfg) (evt : Nat → Bool) : Nat → (Nat → Bool)
  | 0 => evt
  | k + 1 => if c.supplied then upd (signalAll c evt k) k true else signalAll c evt k

theorem upd_or (e : Nat → Bool) (k : Nat) (b : Bool) : upd e k (e k || b) = if b then upd e k true else e := by
  cases b
  · funext j
    simp only [upd, Bool.or_false, Bool.false_eq_true, if_false]
    split
    · rename_i h; rw [h]
    · rfl
  · simp

/-- the model takes one step per worker and one more -/
theorem run_chain (c : TD.Cfg) (l : TD.Lbl) : ∀ (n : Nat) (f : Nat → TD.St),
    (∀ k, k < n → TD.step c (f k) l = some (f (k + 1))) →
    TD.run c (f 0) (List.replicate (n + 1) l) = TD.step c (f n) l
  | 0, f, _ => by
    simp only [List.replicate, TD.run]
    cases TD.step c (f 0) l <;> rfl
  | n + 1, f, h => by
    simp only [List.replicate_succ (n := n + 1), TD.run, h 0 (Nat.succ_pos n)]
    exact run_chain c l n (fun k => f (k + 1)) fun k hk => h (k + 1) (Nat.succ_lt_succ hk)

theorem evT_forEach (c : TD.Cfg) (coll : String) (body : List LEvent) (s : TS) (hs : s.flow = .run) (F : Nat → TD.St)
    (h0 : F 0 = s.t)
    (hb : ∀ k, k < c.n → evsT c body { s with t := F k, cur := k } = { s with t := F (k + 1), cur := k }) :
    evT c (.forEach coll body) s = { s with t := F c.n } := by
  obtain ⟨t, flow, cur, w, out⟩ := s
  subst hs h0
  simp only at hb ⊢
  have loop : ∀ k, k ≤ c.n → ∃ j, (List.range k).foldl
      (fun (s : TS) i => match s.flow with
        | .run => evsT c body { s with cur := i }
        | _ => s) ⟨F 0, .run, cur, w, out⟩ = ⟨F k, .run, j, w, out⟩ := by
    intro k
    induction k with
    | zero => intro _; exact ⟨cur, rfl⟩
    | succ k ih =>
      intro hk
      obtain ⟨j, hj⟩ := ih (by omega)
      exact ⟨k, by simp only [List.range_succ, List.foldl_append, hj, List.foldl_cons, List.foldl_nil, hb k hk]⟩
  obtain ⟨j, hj⟩ := loop c.n (Nat.le_refl _)
  simp only [evT, hj]

/-- `VhostUserHandler::send_exit_event`, event by event: every worker's exit event is raised -/
theorem evT_sendExitEvent (c : TD.Cfg) (recv : String) (s : TS) (hs : s.flow = .run) :
    evT c (sendExitEvent recv) s = { s with t := { s.t with evt := signalAll c s.t.evt c.n } } := by
  have h := evT_forEach c "self.handlers.iter()" [workerExitSend] s hs (fun k => { s.t with evt := signalAll c s.t.evt k }) rfl
    fun k _ => by cases hsup : c.supplied <;> simp [workerExitSend, signalAll, hsup, hs]
  show afterCallT (evsT c [.forEach "self.handlers.iter()" [workerExitSend], .done] s) = _
  rw [evsT, h]
  simp [hs]

def finishServe (s : TS) : TD.St := { s.t with sv := .done s.w (s.out.getD s.w) }

/-- the result mapping at the end of `serve()` is `classifyServe` -/
theorem serve_result (c : TD.Cfg) (s : TS) (hs : s.flow = .run) :
    evsT c [serveResultMatch] s = { s with out := some (classifyServe s.w) } := by
  obtain ⟨t, flow, cur, w, out⟩ := s
  subst hs
  cases w with
  | ok => simp [serveResultMatch, classifyServe]
  | err e => cases e <;> simp [serveResultMatch, classifyServe]

end Lemmas.LtsTeardown
