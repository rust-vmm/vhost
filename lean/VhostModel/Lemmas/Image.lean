import VhostModel.Base.Ioctl
/-!
# Byte images (`Base.poke` / `Base.peek` / `Base.imageOf` of `Base/Ioctl.lean`)

A little-endian field read back (`leVal_leBytes_mod`, `peek_poke_same`), a field left alone by a write beside it
(`peek_poke_disjoint`), and from these the three facts about an image of non-overlapping leaves: its length
(`imageOf_length`), every leaf read back (`peek_imageOf`), zero everywhere else (`peek_imageOf_untouched`).
-/
namespace Base

theorem leVal_leBytes_mod (n v : Nat) : leVal (leBytes n v) = v % 256 ^ n := by
  induction n generalizing v with
  | zero => simp [leBytes, leVal, Nat.mod_one]
  | succ n ih =>
    simp only [leBytes, leVal, ih]
    have : (UInt8.ofNat (v % 256)).toNat = v % 256 := by simp [UInt8.toNat_ofNat']
    rw [this, Nat.pow_succ, Nat.mul_comm (256 ^ n) 256, Nat.mod_mul]

theorem leBytes_mod (n v : Nat) : leBytes n (v % 256 ^ n) = leBytes n v := by
  have h := leBytes_leVal (leBytes n v)
  rwa [leBytes_length, leVal_leBytes_mod] at h

theorem leVal_zeros (n : Nat) : leVal (zeros n) = 0 := by
  induction n with
  | zero => rfl
  | succ n ih => simp [zeros, List.replicate_succ, leVal] at *; omega

theorem poke_length (bs : Bytes) (off w v : Nat) (h : off + w ≤ bs.length) :
    (poke bs off w v).length = bs.length := by
  simp [poke]; omega

theorem peek_poke_same (bs : Bytes) (off w v : Nat) (h : off + w ≤ bs.length) :
    peek (poke bs off w v) off w = v % 256 ^ w := by
  unfold peek poke
  have h1 : (bs.take off).length = off := by simp; omega
  rw [List.drop_append_of_le_length (by omega)]
  have : List.drop off (List.take off bs) = [] := by
    apply List.drop_eq_nil_of_le; omega
  rw [this, List.nil_append, List.take_append_of_le_length (by simp)]
  rw [List.take_of_length_le (by simp), leVal_leBytes_mod]

theorem peek_poke_disjoint (bs : Bytes) (off w v o' w' : Nat) (h : off + w ≤ bs.length)
    (hd : o' + w' ≤ off ∨ off + w ≤ o') : peek (poke bs off w v) o' w' = peek bs o' w' := by
  unfold peek poke
  have h1 : (bs.take off).length = off := by simp; omega
  rcases hd with hd | hd
  · rw [List.drop_append_of_le_length (by omega)]
    rw [List.take_append_of_le_length (by simp; omega)]
    rw [List.drop_take, List.take_take]
    congr 2
    omega
  · rw [← List.append_assoc]
    have h2 : (bs.take off ++ leBytes w v).length = off + w := by simp [h1]
    rw [List.drop_append, h2, List.drop_eq_nil_of_le (by omega), List.nil_append, List.drop_drop]
    congr 3
    omega

theorem peek_zeros (n off w : Nat) : peek (zeros n) off w = 0 := by
  unfold peek zeros
  rw [List.drop_replicate, List.take_replicate]
  exact leVal_zeros _

theorem foldl_poke_length (ls : List Leaf) (bs : Bytes) (hb : ∀ l ∈ ls, l.1 + l.2.1 ≤ bs.length) :
    (ls.foldl (fun bs l => poke bs l.1 l.2.1 l.2.2) bs).length = bs.length := by
  induction ls generalizing bs with
  | nil => rfl
  | cons l ls ih =>
    simp only [List.foldl_cons]
    have hl := poke_length bs l.1 l.2.1 l.2.2 (hb l (by simp))
    rw [ih _ (by intro x hx; rw [hl]; exact hb x (by simp [hx])), hl]

/-- a range disjoint from every leaf keeps its content -/
theorem foldl_poke_untouched (ls : List Leaf) (bs : Bytes) (o w : Nat)
    (hb : ∀ l ∈ ls, l.1 + l.2.1 ≤ bs.length)
    (hd : ∀ l ∈ ls, l.1 + l.2.1 ≤ o ∨ o + w ≤ l.1) :
    peek (ls.foldl (fun bs l => poke bs l.1 l.2.1 l.2.2) bs) o w = peek bs o w := by
  induction ls generalizing bs with
  | nil => rfl
  | cons l ls ih =>
    simp only [List.foldl_cons]
    have hl := poke_length bs l.1 l.2.1 l.2.2 (hb l (by simp))
    rw [ih _ (by intro x hx; rw [hl]; exact hb x (by simp [hx])) (by intro x hx; exact hd x (by simp [hx]))]
    exact peek_poke_disjoint _ _ _ _ _ _ (hb l (by simp)) (hd l (by simp)).symm

/-- **every leaf of an image reads back as its value** (modulo its width), provided the leaves lie inside
the buffer and do not overlap -/
theorem peek_imageOf (size : Nat) (ls : List Leaf)
    (hb : ∀ l ∈ ls, l.1 + l.2.1 ≤ size) (hd : ls.Pairwise LeafDisjoint) :
    ∀ l ∈ ls, peek (imageOf size ls) l.1 l.2.1 = l.2.2 % 256 ^ l.2.1 := by
  unfold imageOf
  have hz : (zeros size).length = size := by simp [zeros]
  generalize zeros size = bs at hz
  induction ls generalizing bs with
  | nil => intro l hl; cases hl
  | cons x xs ih =>
    intro l hl
    simp only [List.foldl_cons]
    have hx : x.1 + x.2.1 ≤ bs.length := by rw [hz]; exact hb x (by simp)
    have hlen := poke_length bs x.1 x.2.1 x.2.2 hx
    rw [List.pairwise_cons] at hd
    rcases List.mem_cons.1 hl with rfl | hl'
    · rw [foldl_poke_untouched xs _ l.1 l.2.1 (by intro y hy; rw [hlen, hz]; exact hb y (by simp [hy]))
        (fun y hy => (hd.1 y hy).symm)]
      exact peek_poke_same _ _ _ _ hx
    · exact ih (fun y hy => hb y (by simp [hy])) hd.2 _ (by rw [hlen, hz]) l hl'

theorem imageOf_length (size : Nat) (ls : List Leaf) (hb : ∀ l ∈ ls, l.1 + l.2.1 ≤ size) :
    (imageOf size ls).length = size := by
  unfold imageOf
  rw [foldl_poke_length _ _ (by simpa [zeros] using hb)]
  simp [zeros]

/-- bytes outside every leaf are zero -/
theorem peek_imageOf_untouched (size : Nat) (ls : List Leaf) (o w : Nat)
    (hb : ∀ l ∈ ls, l.1 + l.2.1 ≤ size) (hd : ∀ l ∈ ls, l.1 + l.2.1 ≤ o ∨ o + w ≤ l.1) :
    peek (imageOf size ls) o w = 0 := by
  unfold imageOf
  rw [foldl_poke_untouched _ _ _ _ (by simpa [zeros] using hb) hd, peek_zeros]

end Base
