import VhostModel.Base
import VhostModel.Base.Ioctl
import VhostModel.Spec.Uapi
import VhostModel.Model.Kern
import VhostModel.Lemmas.Bits
import VhostModel.Lemmas.Image
/-!
# Helper lemmas for the C19 modules (`Props/C19*.lean`)

* bit-level facts (`n &&& (n-1) = 0 ↔ n` is a power of two; `x &&& 2^i ≠ 0 ↔` bit `i` of `x`)
* list/bytes facts (`peek` through appends, the cyclic write-back pattern)
* the closed form of one ioctl-issuing method (`ioCall_eq`; `issued` is the request value together with the argument size)
* how the verdict function `Spec.Uapi.problem` decomposes (one lemma per `Expect` shape), so that a
  per-operation proof consists of: the closed form of the model's run, the closed form of the demand, and
  one `peek` fact per field
-/
namespace Lemmas.Kern
open Base Base.K

/-! ## bits -/

theorem testBit_top (x k : Nat) (h1 : 2 ^ k ≤ x) (h2 : x < 2 ^ (k + 1)) : x.testBit k = true := by
  rw [Nat.testBit_eq_decide_div_mod_eq]
  have : x / 2 ^ k = 1 := by
    apply Nat.div_eq_of_lt_le
    · simpa using h1
    · rw [Nat.pow_succ] at h2; omega
  simp [this]

/-- Rust's `(n & (n - 1)) == 0` test characterises the powers of two among the positive numbers -/
theorem and_pred_eq_zero_iff (n : Nat) (hn : 0 < n) : n &&& (n - 1) = 0 ↔ ∃ k, n = 2 ^ k := by
  constructor
  · intro h
    refine ⟨n.log2, ?_⟩
    have h1 := Nat.log2_self_le (Nat.pos_iff_ne_zero.1 hn)
    have h2 := @Nat.lt_log2_self n
    by_cases he : n = 2 ^ n.log2
    · exact he
    · exfalso
      have a := testBit_top n n.log2 h1 h2
      have b := testBit_top (n - 1) n.log2 (by omega) (by omega)
      have c : (n &&& (n - 1)).testBit n.log2 = true := by rw [Nat.testBit_and, a, b]; rfl
      rw [h] at c
      simp at c
  · rintro ⟨k, rfl⟩
    rw [Nat.and_two_pow_sub_one_eq_mod]; simp

theorem and_two_pow_ne_zero_iff (x i : Nat) : (x &&& 2 ^ i ≠ 0) ↔ x.testBit i = true := by
  rw [Base.and_two_pow]
  cases x.testBit i <;> simp

/-! ## bytes -/

theorem cyc_length (wb : Bytes) (n : Nat) : (cyc wb n).length = n := by
  unfold cyc; split <;> simp [zeros]

theorem peek_append_left (a b : Bytes) (off w : Nat) (h : off + w ≤ a.length) :
    peek (a ++ b) off w = peek a off w := by
  unfold peek
  rw [List.drop_append_of_le_length (by omega), List.take_append_of_le_length (by simp; omega)]

theorem leBytes_zero_eq (n : Nat) : leBytes n 0 = zeros n := by
  induction n with
  | zero => rfl
  | succ n ih => simp [leBytes, zeros, List.replicate_succ] at *; exact ih

theorem flatten_chunk (chunks : List Bytes) (h : ∀ c ∈ chunks, c.length = 32) (k : Nat) (hk : k < chunks.length) :
    (chunks.flatten.drop (32 * k)).take 32 = chunks[k] := by
  induction chunks generalizing k with
  | nil => simp at hk
  | cons c rest ih =>
    have hc : c.length = 32 := h c (by simp)
    cases k with
    | zero =>
      simp only [List.flatten_cons, Nat.mul_zero, List.drop_zero, List.getElem_cons_zero]
      rw [List.take_append_of_le_length (by omega), List.take_of_length_le (by omega)]
    | succ k =>
      simp only [List.flatten_cons, List.getElem_cons_succ]
      rw [List.drop_append, hc, List.drop_eq_nil_of_le (by omega), List.nil_append]
      have : 32 * (k + 1) - 32 = 32 * k := by omega
      rw [this]
      exact ih (fun c hc => h c (by simp [hc])) k (by simpa using hk)

/-- dropping a prefix by its length: for every rest, so no string is walked when a name is cut off its tag -/
theorem drop_prefix (p n : String) : ((p ++ n).drop p.length).toString = n := by
  apply String.toList_inj.1
  show ((p ++ n).drop p.length).copy.toList = _
  rw [String.toList_copy_drop, String.toList_append, ← String.length_toList, List.drop_left]

/-! ## decomposition of the verdict -/
open Spec.Uapi

theorem peekField_of (bs : Bytes) (s : String) (p : List String) (off w v : Nat) (hf : fieldAt s p = some (off, w))
    (hl : off + w ≤ bs.length) (hp : peek bs off w = v) : peekField bs s p = some v := by
  unfold peekField
  simp [hf, hl, hp]

theorem problem_ioctl (i : Inp) (o : Obs) (op : String) (arg : Arg) (rs : RetSpec) (mr : Bool) (u : Ioctl)
    (want size : Nat) (bs : Bytes)
    (h1 : expect i = .ioctl op arg rs mr) (h2 : (requestFor op).bind ioctlByName = some u)
    (h3 : u.request = some want) (h4 : u.size = some size)
    (ho : o.calls = [.io want bs]) (ha : argProblem size arg bs = none)
    (hr : retProblem i size rs o.ret = none)
    (hk : (i.op == "set_backend_features") = false ∨
      o.acked = some (if i.rc = 0 then i.a.headD 0 % 2 ^ 64 else i.feat)) :
    problem i o = none := by
  unfold problem
  rw [h1]
  simp only [ho, h2, h3, h4, ha, hr]
  rcases hk with hk | hk
  · simp [hk, Option.orElse]
  · simp [hk, Option.orElse]

open Model.Kern Gen.Ioctl in
/-- request value and argument size of the ioctl a method issues: `opRequest` together with the `size_of` that went into it -/
def issued (scope method : String) : Option (Nat × Nat) :=
  (opRow scope method).bind fun o => (rowByName o.request).bind fun r =>
    (argSize r).map fun s => (ioctlExpr (dirOf r.kind) r.ty r.nr s, s)

open Model.Kern in
theorem ioCall_eq (i : Inp) (scope method : String) (obj : Option Bytes) (value : Bytes → Ret) (req : Nat)
    (h : opRequest scope method = some req) :
    ioCall i scope method obj value =
      some ⟨[.io req (captured req obj)], if i.rc ≠ 0 then .err "ioctl" else value (afterCall i req (obj.getD [])), none⟩ := by
  unfold ioCall
  rw [h]
  rfl

open Model.Kern in
theorem captured_some (req : Nat) (o : Bytes) (h : o.length ≤ Model.Kern.iocSize req) : captured req (some o) = o := by
  show (if Model.Kern.iocDir req = 0 then o else if _ then o else o.take (Model.Kern.iocSize req)) = o
  rw [List.take_of_length_le h, ite_self, ite_self]

theorem orElse_none {α : Type} {a : Option α} {f : Unit → Option α} (ha : a = none) (hf : f () = none) :
    a.orElse f = none := by
  subst ha
  exact hf

theorem problem_refuse (i : Inp) (o : Obs) (c : String) (h1 : expect i = .refuse) (ho : o.calls = [])
    (hr : o.ret = .err c) : problem i o = none := by
  unfold problem; rw [h1]; simp [ho, hr]

theorem problem_iotlb (i : Inp) (o : Obs) (iova size ua perm : Option Nat) (ty : Nat) (bs : Bytes)
    (h1 : expect i = .iotlb iova size ua perm ty) (ho : o.calls = [.wr bs])
    (hp : iotlbProblem (i.feat.testBit VHOST_BACKEND_F_IOTLB_MSG_V2) iova size ua perm ty bs = none)
    (hr : o.ret = if i.rc ≠ 0 then .err "io" else .ok) : problem i o = none := by
  unfold problem
  rw [h1]
  simp only [ho, hp, hr]
  by_cases h : i.rc = 0 <;> simp [h, Option.orElse]

theorem problem_mayRefuse (i : Inp) (o : Obs) (op : String) (arg : Arg) (rs : RetSpec) (c : String)
    (h1 : expect i = .ioctl op arg rs true) (ho : o.calls = []) (hr : o.ret = .err c) : problem i o = none := by
  unfold problem; rw [h1]; simp [ho, hr]

theorem problem_free (i : Inp) (o : Obs) (h1 : expect i = .free) : problem i o = none := by
  unfold problem; rw [h1]

theorem argProblem_fields (size : Nat) (s : String) (fs : List (List String × Nat)) (bs : Bytes)
    (hl : bs.length = size)
    (hf : ∀ pv ∈ fs, ∃ off w, fieldAt s pv.1 = some (off, w) ∧ off + w ≤ bs.length ∧ peek bs off w = pv.2 % 256 ^ w) :
    argProblem size (.fields s fs) bs = none := by
  unfold argProblem
  simp only [hl, ne_eq, not_true_eq_false, if_false]
  rw [List.findSome?_eq_none_iff]
  intro pv hpv
  obtain ⟨off, w, h1, h2, h3⟩ := hf pv hpv
  obtain ⟨p, v⟩ := pv
  simp only at h1 h3 ⊢
  simp [h1, h3, hl ▸ h2]

/-- the leaf of an image that a UAPI member path designates -/
def leafFor (s : String) (ls : List Leaf) (p : List String) : Option Leaf :=
  (fieldAt s p).bind fun ow => ls.find? fun l => l.1 == ow.1 && l.2.1 == ow.2

/-- every demanded member is one of the image's leaves and carries the demanded value -/
def FieldsOk (s : String) (ls : List Leaf) : List (List String × Nat) → Prop
  | [] => True
  | pv :: rest => (∃ l, leafFor s ls pv.1 = some l ∧ l.2.2 % 256 ^ l.2.1 = pv.2 % 256 ^ l.2.1) ∧ FieldsOk s ls rest

theorem leafFor_spec {s : String} {ls : List Leaf} {p : List String} {l : Leaf} (h : leafFor s ls p = some l) :
    l ∈ ls ∧ fieldAt s p = some (l.1, l.2.1) := by
  unfold leafFor at h
  cases hf : fieldAt s p with
  | none => simp [hf] at h
  | some ow =>
    simp only [hf, Option.bind_some] at h
    have hm := List.mem_of_find?_eq_some h
    have hp := List.find?_some h
    simp only [Bool.and_eq_true, beq_iff_eq] at hp
    refine ⟨hm, ?_⟩
    obtain ⟨o, w⟩ := ow
    simp only at hp
    rw [hp.1, hp.2]

/-- **an image of non-overlapping leaves satisfies every demand on its members** -/
theorem argProblem_image (size : Nat) (s : String) (fs : List (List String × Nat)) (ls : List Leaf)
    (hb : ∀ l ∈ ls, l.1 + l.2.1 ≤ size) (hd : ls.Pairwise LeafDisjoint) (hf : FieldsOk s ls fs) :
    argProblem size (.fields s fs) (imageOf size ls) = none := by
  apply argProblem_fields _ _ _ _ (imageOf_length size ls hb)
  induction fs with
  | nil => intro pv h; cases h
  | cons f rest ih =>
    intro pv hpv
    obtain ⟨⟨l, hl, hv⟩, hrest⟩ := hf
    rcases List.mem_cons.1 hpv with rfl | hpv
    · obtain ⟨hm, hfa⟩ := leafFor_spec hl
      refine ⟨l.1, l.2.1, hfa, ?_, ?_⟩
      · rw [imageOf_length size ls hb]; exact hb l hm
      · rw [peek_imageOf size ls hb hd l hm, hv]
    · exact ih hrest pv hpv

theorem argProblem_scalar_le (size v : Nat) : argProblem size (.scalar v) (leBytes size v) = none := by
  unfold argProblem peek
  simp [List.take_of_length_le, leVal_leBytes_mod]

theorem retProblem_unit (i : Inp) (size : Nat) (c : String) :
    retProblem i size .unit (if i.rc ≠ 0 then .err c else .ok) = none := by
  unfold retProblem
  by_cases h : i.rc = 0 <;> simp [h]

open Model.Kern in
/-- what the stand-in kernel leaves in the object of a read request -/
theorem afterCall_read (i : Inp) (req : Nat) (obj : Bytes) (hd : Model.Kern.iocDir req / 2 ≠ 0) (hne : req ≠ VDPA_GET_CONFIG)
    (hs : obj.length = Model.Kern.iocSize req) (hrc : i.rc = 0) (hwb : i.wb.isEmpty = false) :
    afterCall i req obj = cyc i.wb (Model.Kern.iocSize req) := by
  unfold afterCall
  simp only [hrc, hwb, hd, hne, ne_eq, not_true_eq_false, false_or, if_false, Bool.false_eq_true]
  rw [List.take_of_length_le (by rw [cyc_length]; omega), List.drop_eq_nil_of_le (by omega), List.append_nil]

open Model.Kern in
theorem retProblem_scalar (i : Inp) (req : Nat) (obj : Bytes) (hd : Model.Kern.iocDir req / 2 ≠ 0) (hne : req ≠ VDPA_GET_CONFIG)
    (hs : obj.length = Model.Kern.iocSize req) :
    retProblem i (Model.Kern.iocSize req) .scalar (if i.rc ≠ 0 then .err "ioctl" else .okv (leVal (afterCall i req obj))) = none := by
  unfold retProblem
  by_cases h : i.rc = 0
  · simp only [h, ne_eq, not_true_eq_false, if_false]
    cases hw : i.wb.isEmpty
    · rw [afterCall_read i req obj hd hne hs h hw]; simp
    · simp
  · simp [h]

open Model.Kern in
theorem retProblem_field (i : Inp) (req : Nat) (obj : Bytes) (s f : String) (off w : Nat)
    (hd : Model.Kern.iocDir req / 2 ≠ 0) (hne : req ≠ VDPA_GET_CONFIG) (hs : obj.length = Model.Kern.iocSize req)
    (hf : fieldAt s [f] = some (off, w)) (hw : off + w ≤ Model.Kern.iocSize req) :
    retProblem i (Model.Kern.iocSize req) (.field s f) (if i.rc ≠ 0 then .err "ioctl" else .okv (peek (afterCall i req obj) off w)) = none := by
  unfold retProblem
  by_cases h : i.rc = 0
  · simp only [h, ne_eq, not_true_eq_false, if_false]
    cases hwb : i.wb.isEmpty
    · rw [afterCall_read i req obj hd hne hs h hwb]
      simp [peekField, hf, cyc_length, hw]
    · simp
  · simp [h]

end Lemmas.Kern
