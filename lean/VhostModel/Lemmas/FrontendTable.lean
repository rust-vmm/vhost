import VhostModel.Model.Frontend
import VhostModel.Model.FrontendTable
import VhostModel.Lemmas.RequestInv
import VhostModel.Lemmas.Encode
/-!
# `Model.FrontendTable.modelOps` is true of `Model.Frontend.request` / `finish`

Meaning of the table's vocabulary on the model's state and calls (`fires`, `selOne`, `rowFor`, `firstErr`, `bodyFits`,
`applyPre`, `applyPost`), and the one case analysis of `request`:

* `request_row` — a call either has an argument list of the wrong shape (`.other`: an artefact of the untyped `Op`) or
  selects a row, and then `request` is that row: the error of the first check that fires (`verdict`), else a request
  with the row's code / reply reader / descriptors / body size and the row's state update.  `request_ok_row`,
  `request_error_row` and `refused_of_check` read the accepted and the refused calls off it.
* `finish_err`, `finishErrs_rows`, `post_rows` — the errors `finish` raises and the fields it assigns, against the rows.

`Props.FrontendOps` derives the statements about the table from these; `Props.C02` / `Props.C07` the refusals they list.
-/
namespace Lemmas.FrontendTable
open Base Model.Stream Model.Msgs Model.Frontend Model.FrontendTable Lemmas.RequestInv
open Model.BackendSrv (Err bitSet Hdr)

/-! ## meaning of the vocabulary -/

/-- the `i`-th numeric argument of the call (0 if absent) -/
def arg (op : Op) (i : Nat) : Nat := op.a.getD i 0

/-- the model's error for a `VhostUserError` variant -/
def errOf (e : String) : Err :=
  if e = "InvalidParam" then .invalidParam
  else if e = "InactiveFeature" then .inactiveFeature
  else if e = "InactiveOperation" then .inactiveOperation
  else if e = "InvalidMessage" then .invalidMsg
  else if e = "BackendInternalError" then .backendInternal
  else if e = "IncorrectFds" then .incorrectFds
  else if e = "PartialMessage" then .partialMsg
  else if e = "SocketBroken" then .sockBroken
  else .other

/-- position, in the harness' argument list, of the Rust value tested for zero (`set_inflight_fd`: mmap_size,
mmap_offset, num_queues, queue_size; `add_mem_region` / `remove_mem_region`: guest address, memory_size, …) -/
def zeroIdx (p : String) : Nat :=
  if p = "inflight.mmap_size" then 0
  else if p = "inflight.num_queues" then 2
  else if p = "inflight.queue_size" then 3
  else 1

/-- the refusal condition `c` holds of call `op` in state `s`.  The queue index is always the first argument; the ring
flags the second; `buf` is `op.payload`; a negative descriptor is `op.bad`; a region is (gpa, size, uaddr, offset, fd
valid); `12` is the size of `VhostUserConfig`, the body type of the two rows that carry `msgSizeAbove`. -/
def fires (c : FeCond) (s : FSt) (op : Op) : Bool :=
  match c with
  | .queueIdxOob => !decide (arg op 0 < s.maxQ)
  | .idxAbove m => decide (arg op 0 > m)
  | .protoMissing b => !hasProto s b
  | .virtioMissing b true => !bitSet s.acked b
  | .virtioMissing b false => !bitSet s.virtio b
  | .flagsOutside _ _ all => (arg op 1 &&& (2^32 - 1 - all)) != 0
  | .empty _ => op.regions.isEmpty
  | .lenAbove a m => if a = "regions" then decide (op.regions.length > m) else decide (op.payload.length > m)
  | .anyZero _ _ => op.regions.any (fun r => r.2.1 == 0)
  | .anyNegative _ _ => op.regions.any (fun r => !r.2.2.2.2)
  | .zero p => arg op (zeroIdx p) == 0
  | .negative _ => op.bad
  | .invalid ty =>
    if ty = "VhostUserConfig" then
      (if op.name = "get_config" then !configValid (arg op 0) (arg op 1) (arg op 2)
       else !configValid (arg op 0) op.payload.length (arg op 1))
    else if ty = "VhostUserSharedMsg" then !uuidValid (arg op 0)
    else false
  | .msgSizeAbove m => decide (12 + op.payload.length > m)
  | _ => false

/-- a selector holds; `region: Option<_>` is `Some` iff the harness passes its two numbers after `base` -/
def selOne (s : FSt) (op : Op) : FeSel → Bool
  | .proto b => hasProto s b
  | .isSome _ => op.a.length == 3
  | .otherwise => true

/-- the row describing call `op` in state `s`: the first row of that name whose selectors hold (so that `otherwise`
is the `else` of the row before it) -/
def rowFor (s : FSt) (op : Op) : Option FeRow :=
  modelOps.find? (fun r => r.name == op.name && r.sel.all (selOne s op))

/-- the error of the first check that fires, in table order -/
def firstErr (cs : List FeCheck) (s : FSt) (op : Op) : Option Err :=
  match cs with
  | [] => none
  | c :: cs => if fires c.1 s op then some (errOf c.2) else firstErr cs s op

def awaitOf : ReplyKind → FeAwait
  | .noWait => .none | .ack => .ack | .body ty => .reply ty | .bodyOptFiles ty => .replyOptFiles ty
  | .bodyFiles ty => .replyFiles ty | .payload ty => .replyPayload ty

/-- the request body has the size of the row's body type (at least that size when a payload follows) -/
def bodyFits (b : FeBody) (bs : Bytes) : Bool :=
  match b with
  | .none => bs.isEmpty
  | .fixed ty => sizeOfTy ty == some bs.length
  | .withPayload ty => match sizeOfTy ty with
    | some n => decide (n ≤ bs.length)
    | none => false

def getField (f : String) (s : FSt) : Nat :=
  if f = "virtio_features" then s.virtio
  else if f = "acked_virtio_features" then s.acked
  else if f = "protocol_features" then s.proto
  else if f = "acked_protocol_features" then s.ackedProto
  else if f = "max_queue_num" then s.maxQ
  else 0

def setField (f : String) (v : Nat) (s : FSt) : FSt :=
  if f = "virtio_features" then { s with virtio := v }
  else if f = "acked_virtio_features" then { s with acked := v }
  else if f = "protocol_features" then { s with proto := v }
  else if f = "acked_protocol_features" then { s with ackedProto := v }
  else if f = "max_queue_num" then { s with maxQ := v }
  else s

/-- value of an update's right-hand side; the value argument of the two setters is the first argument; `reply` is the
value field of the reply -/
def srcVal (src : FeSrc) (s : FSt) (op : Op) (reply : Nat) : Nat :=
  match src with
  | .arg _ => arg op 0
  | .argAndField _ f => arg op 0 &&& getField f s
  | .replyField _ => reply
  | .const b => if b then 1 else 0

/-- the updates made between the send and the reply reader -/
def applyPre (us : List FeUpd) (s : FSt) (op : Op) : FSt :=
  us.foldl (fun s u => match u with
    | .assign f src false => setField f (srcVal src s op 0) s
    | _ => s) s

/-- the updates made after the reply reader returned a body whose value field is `v` -/
def applyPost (us : List FeUpd) (s : FSt) (op : Op) (v : Nat) : FSt :=
  us.foldl (fun s u => match u with
    | .assign f src true => setField f (srcVal src s op v) s
    | _ => s) s

/-- the errors the post-processing of a reply can raise -/
def postErrs (ps : List FePost) : List Err :=
  ps.filterMap (fun p => match p with
    | .err e | .takeSingle e | .errIf _ e | .takeSingleIf _ e => some (errOf e)
    | _ => none)

def Ret.isErr : Ret → Bool
  | .err _ => true
  | _ => false

/-! ## the selected row is a row of the table, of that name -/

theorem rowFor_mem {s : FSt} {op : Op} {row : FeRow} (h : rowFor s op = some row) :
    row ∈ modelOps ∧ row.name = op.name ∧ row.sel.all (selOne s op) = true := by
  unfold rowFor at h
  have hm := List.mem_of_find?_eq_some h
  have hp := List.find?_some h
  simp only [Bool.and_eq_true, beq_iff_eq] at hp
  exact ⟨hm, hp.1, hp.2⟩

/-! ## the first check that fires -/

theorem firstErr_none_iff (cs : List FeCheck) (s : FSt) (op : Op) :
    firstErr cs s op = none ↔ ∀ c ∈ cs, fires c.1 s op = false := by
  induction cs with
  | nil => simp [firstErr]
  | cons c cs ih =>
    simp only [firstErr, List.mem_cons, forall_eq_or_imp]
    cases h : fires c.1 s op with
    | true => simp
    | false => simpa using ih

theorem firstErr_some_fires {cs : List FeCheck} {s : FSt} {op : Op} {e : Err} (h : firstErr cs s op = some e) :
    ∃ c ∈ cs, fires c.1 s op = true ∧ errOf c.2 = e := by
  induction cs with
  | nil => cases h
  | cons c cs ih =>
    rw [firstErr] at h
    split at h
    · next hf => exact ⟨c, .head _, hf, Option.some.inj h⟩
    · obtain ⟨c', hm, hc⟩ := ih h
      exact ⟨c', .tail _ hm, hc⟩

/-! ## sizes of the body types (`Lemmas.Layouts.lay_*`; none of them is `VhostUserEmpty`) -/

theorem so_U64 : sizeOfTy "VhostUserU64" = some 8 := Lemmas.Layouts.lay_u64.1
theorem so_VringState : sizeOfTy "VhostUserVringState" = some 8 := Lemmas.Layouts.lay_vstate.1
theorem so_VringAddr : sizeOfTy "VhostUserVringAddr" = some 40 := Lemmas.Layouts.lay_vaddr.1
theorem so_Config : sizeOfTy "VhostUserConfig" = some 12 := Lemmas.Layouts.lay_config.1
theorem so_Memory : sizeOfTy "VhostUserMemory" = some 8 := Lemmas.Layouts.lay_memory.1
theorem so_Single : sizeOfTy "VhostUserSingleMemoryRegion" = some 40 := Lemmas.Layouts.lay_single.1
theorem so_Inflight : sizeOfTy "VhostUserInflight" = some 24 := Lemmas.Layouts.lay_inflight.1
theorem so_Shared : sizeOfTy "VhostUserSharedMsg" = some 16 := Lemmas.Layouts.lay_shared.1
theorem so_Transfer : sizeOfTy "VhostUserTransferDeviceState" = some 8 := Lemmas.Layouts.lay_transfer.1

/-! ## `request` is the selected row: its checks in order, then its request -/

def verdict {α : Type} (cs : List FeCheck) (s : FSt) (op : Op) (x : α) : Except Err α :=
  match firstErr cs s op with
  | some e => .error e
  | none => .ok x

theorem verdict_nil {α : Type} (s : FSt) (op : Op) (x : α) : verdict [] s op x = .ok x := rfl

theorem verdict_cons {α : Type} (c : FeCond) (e : String) (cs : List FeCheck) (s : FSt) (op : Op) (x : α) :
    verdict ((c, e) :: cs) s op x = if fires c s op then .error (errOf e) else verdict cs s op x := by
  unfold verdict
  rw [firstErr]
  cases fires c s op <;> rfl

theorem verdict_ok {α : Type} {cs : List FeCheck} {s : FSt} {op : Op} {x y : α} (h : verdict cs s op x = .ok y) :
    firstErr cs s op = none ∧ x = y := by
  unfold verdict at h
  split at h
  · cases h
  · next hn => cases h; exact ⟨hn, rfl⟩

theorem verdict_error {α : Type} {cs : List FeCheck} {s : FSt} {op : Op} {x : α} {e : Err}
    (h : verdict cs s op x = .error e) : firstErr cs s op = some e := by
  unfold verdict at h
  split at h
  · next he => cases h; exact he
  · cases h

theorem verdict_refuses {α : Type} {cs : List FeCheck} {s : FSt} {op : Op} {c : FeCheck} (x : α) (hc : c ∈ cs)
    (hf : fires c.1 s op = true) : ∃ e, verdict cs s op x = .error e := by
  unfold verdict
  split
  · exact ⟨_, rfl⟩
  · next hn => rw [(firstErr_none_iff cs s op).1 hn c hc] at hf; cases hf

def Sends (row : FeRow) (op : Op) (req : Req) : Prop :=
  req.code = row.code ∧ awaitOf req.kind = row.await ∧ req.fds = (if row.fds then op.fds else []) ∧
  bodyFits row.body req.body = true

theorem errOf_invalidParam : errOf "InvalidParam" = .invalidParam := by decide
theorem errOf_inactiveOperation : errOf "InactiveOperation" = .inactiveOperation := by decide
theorem errOf_inactiveFeature : errOf "InactiveFeature" = .inactiveFeature := by decide

/-- the two size tests that `request` states as propositions -/
theorem fires_msgSizeAbove (m : Nat) (s : FSt) (op : Op) :
    (fires (.msgSizeAbove m) s op = true) = (12 + op.payload.length > m) := decide_eq_true_eq
theorem fires_bufAbove (m : Nat) (s : FSt) (op : Op) :
    (fires (.lenAbove "buf" m) s op = true) = (op.payload.length > m) := decide_eq_true_eq

theorem ite_or {α : Type} (a b : Bool) (x y : α) :
    (if (a || b) = true then x else y) = if a = true then x else if b = true then x else y := by
  cases a <;> rfl

theorem any_or {α : Type} (l : List α) (p q : α → Bool) :
    (l.any fun x => p x || q x) = (l.any p || l.any q) := by
  induction l with
  | nil => rfl
  | cons x xs ih =>
    simp only [List.any_cons, ih]
    cases p x <;> cases q x <;> cases xs.any p <;> cases xs.any q <;> rfl

/-- `set_log_base` has two rows: a region is sent only when it is given and LOG_SHMFD is acknowledged -/
theorem rowFor_log_base (s : FSt) (a : List Nat) (pl : Bytes) (fds : List Fd) (bad : Bool) (regs : Regions) :
    rowFor s ⟨"set_log_base", a, pl, fds, bad, regs⟩ =
      some (if a.length == 3 && hasProto s 1 then modelOps[5] else modelOps[6]) := by
  cases hp : hasProto s 1 <;> cases ha : a.length == 3 <;> simp [rowFor, modelOps, selOne, hp, ha]

theorem request_row (s : FSt) (op : Op) :
    request s op = .error .other ∨ ∃ row x, rowFor s op = some row ∧ request s op = verdict row.checks s op x ∧
      Sends row op x.1 ∧ x.2 = applyPre row.updates s op := by
  obtain ⟨name, a, pl, fds, bad, regs⟩ := op
  unfold request
  split
  all_goals subst_vars
  -- `split` numbers the arms of `request` in source order: 36 is the catch-all, 6 and 7 are the two of `set_log_base`
  case h_36 => exact Or.inl rfl
  case h_6 => exact Or.inr ⟨_, _, rowFor_log_base .., rfl, ⟨rfl, rfl, rfl, rfl⟩, rfl⟩
  case h_7 =>
    cases hp : hasProto s 1
    all_goals exact Or.inr ⟨_, _, (rowFor_log_base ..).trans (by rw [hp]), rfl, ⟨rfl, rfl, rfl, rfl⟩, rfl⟩
  -- every other arm: the row is found by evaluation; the arm's tests are the row's checks one by one (`||` in `request`
  -- is two checks with the same error), which `rfl` confirms once both sides are chains of `if`
  all_goals
    refine Or.inr ⟨_, ?_, rfl, ?_, ?_⟩
    rotate_left
    · simp only [verdict_cons, verdict_nil, ite_or, any_or, errOf_invalidParam, errOf_inactiveOperation,
        errOf_inactiveFeature, fires_msgSizeAbove, fires_bufAbove]
      rfl
    · refine ⟨⟨rfl, rfl, rfl, ?_⟩, rfl⟩
      simp only [bodyFits, so_U64, so_VringState, so_VringAddr, so_Config, so_Memory, so_Single, so_Inflight, so_Shared,
        so_Transfer]
      rfl

theorem request_ok_row (s : FSt) (op : Op) (req : Req) (s' : FSt) (hreq : request s op = .ok (req, s')) :
    ∃ row, rowFor s op = some row ∧ firstErr row.checks s op = none ∧ Sends row op req ∧
      s' = applyPre row.updates s op := by
  rcases request_row s op with h | ⟨row, x, hrow, heq, hs, hx⟩
  · rw [h] at hreq; cases hreq
  · rw [heq] at hreq
    obtain ⟨hfe, rfl⟩ := verdict_ok hreq
    exact ⟨row, hrow, hfe, hs, hx⟩

theorem request_error_row (s : FSt) (op : Op) (e : Err) (h : request s op = .error e) :
    e = .other ∨ ∃ row, rowFor s op = some row ∧ firstErr row.checks s op = some e := by
  rcases request_row s op with h' | ⟨row, x, hrow, heq, _⟩
  · rw [h'] at h; cases h; exact Or.inl rfl
  · rw [heq] at h
    exact Or.inr ⟨row, hrow, verdict_error h⟩

theorem refused_of_check (s : FSt) (op : Op) (c : FeCheck) (hc : ∀ row, rowFor s op = some row → c ∈ row.checks)
    (hf : fires c.1 s op = true) : ∃ e, request s op = .error e := by
  rcases request_row s op with h | ⟨row, x, hrow, heq, _⟩
  · exact ⟨_, h⟩
  · rw [heq]; exact verdict_refuses x (hc row hrow) hf

def rowsCheck (names : List String) (c : FeCheck) : Bool :=
  modelOps.all fun row => !names.contains row.name || row.checks.contains c

theorem mem_checks_of_rowsCheck {names : List String} {c : FeCheck} (h : rowsCheck names c = true) {s : FSt} {op : Op}
    (hn : op.name ∈ names) (row : FeRow) (hrow : rowFor s op = some row) : c ∈ row.checks := by
  obtain ⟨hmem, hname, _⟩ := rowFor_mem hrow
  have := List.all_eq_true.1 h row hmem
  rw [hname, List.contains_iff_mem.2 hn] at this
  exact List.contains_iff_mem.1 this

/-! ## after the reply: `finish` -/

/-- the errors `finish` raises itself, per operation (read off `Model.Frontend.finish`) -/
def finishErrs : List (String × Err) :=
  [("get_queue_num", .invalidMsg), ("check_device_state", .backendInternal), ("get_config", .backendInternal),
   ("get_config", .invalidMsg), ("get_shared_object", .incorrectFds), ("postcopy_advise", .incorrectFds),
   ("get_inflight_fd", .incorrectFds), ("set_device_state_fd", .incorrectFds), ("set_device_state_fd", .backendInternal)]

theorem finish_err (s : FSt) (op : Op) (r : Reply) (e : Err) (h : (finish s op r).1 = .err e) :
    e = .other ∨ (op.name, e) ∈ finishErrs := by
  revert h
  fun_cases finish s op r <;> intro h <;> (repeat' split at h) <;> cases h <;> simp [finishErrs, *]

theorem finishErrs_rows : finishErrs.all (fun ne => modelOps.all fun row =>
    row.name != ne.1 || (postErrs row.post).contains ne.2) = true := by
  decide +kernel

def FeUpd.isAfter : FeUpd → Bool
  | .assign _ _ a => a

theorem applyPost_none (us : List FeUpd) (s : FSt) (op : Op) (v : Nat) (h : us.any FeUpd.isAfter = false) :
    applyPost us s op v = s := by
  unfold applyPost
  induction us generalizing s with
  | nil => rfl
  | cons u us ih =>
    simp only [List.any_cons, Bool.or_eq_false_iff] at h
    cases u with
    | assign f src a =>
      simp only [FeUpd.isAfter] at h
      simp only [List.foldl_cons, h.1]
      exact ih s h.2

theorem post_rows : ∀ row ∈ modelOps,
    (row.name = "get_features" → row.updates = [.assign "virtio_features" (.replyField "value") true]) ∧
    (row.name = "get_protocol_features" → row.updates = [.assign "protocol_features" (.replyField "value") true]) ∧
    (row.name = "get_queue_num" → row.updates = [.assign "max_queue_num" (.replyField "value") true]) ∧
    (row.name ≠ "get_features" → row.name ≠ "get_protocol_features" → row.name ≠ "get_queue_num" →
      row.updates.any FeUpd.isAfter = false) := by
  decide +kernel

/-! ## the reply readers -/

section recv
variable {σ : Type} (ch : Chooser σ) (cl : Bool) (s : FSt) (req : Req) (cst : σ) (str : List Cell)

/-- nothing of the stream is consumed and no descriptor is closed -/
def Untouched (o : RecvOut σ) (cst : σ) (str : List Cell) : Prop := o.rest = str ∧ o.cst = cst ∧ o.closed = []

theorem recv_noWait (hk : req.kind = .noWait) :
    (recv ch cl s req cst str).res = .ok ⟨reqHdr s req, [], [], none⟩ ∧ Untouched (recv ch cl s req cst str) cst str := by
  simp [recv, hk, Untouched]

end recv

end Lemmas.FrontendTable
