import VhostModel.Model.Frontend
import VhostModel.Spec.Proto
import VhostModel.Lemmas.Layouts
/-!
# decode ∘ encode = id, through the generated struct layouts

Toolkit for `Props.C02Reach`: a little-endian field written by the frontend (`leBytes w v` at the offset the
*generated* layout assigns to the field) is read back by `Model.Msgs.getField` as `v`, whenever `v` fits the
field (`getField_written`).  Per message struct, the offsets are the evaluated ones of `Lemmas.Layouts` (`lay_*`)
and every field is an instance of that lemma (`dec_*`).
-/
namespace Lemmas.Encode
open Base Model.Msgs Lemmas.Layouts

/-! ## lists -/

theorem slice_mid {α : Type} (pre mid post : List α) :
    ((pre ++ mid ++ post).drop pre.length).take mid.length = mid := by
  simp [List.append_assoc]

theorem slice_mid' {α : Type} (pre mid post : List α) (off w : Nat) (ho : pre.length = off) (hw : mid.length = w) :
    ((pre ++ mid ++ post).drop off).take w = mid := by
  subst ho; subst hw; exact slice_mid pre mid post

theorem take_append_len {α : Type} (a b : List α) (n : Nat) (h : a.length = n) : (a ++ b).take n = a := by
  subst h; simp

theorem drop_append_len {α : Type} (a b : List α) (n : Nat) (h : a.length = n) : (a ++ b).drop n = b := by
  subst h; simp

/-! ## one field -/

/-- any slice of the right length is read as its little-endian value -/
theorem getField_raw {s : String} {p : List String} {off w : Nat} (hf : fieldAt s p = some (off, w))
    (pre mid post : Bytes) (hpre : pre.length = off) (hm : mid.length = w) :
    getField (pre ++ mid ++ post) s p = some (leVal mid) := by
  rw [getField_of_fieldAt hf (by simp only [List.length_append]; omega), slice_mid' pre mid post off w hpre hm]

/-- a field written as `leBytes w v` at its layout offset is read back as `v` -/
theorem getField_enc {s : String} {p : List String} {off w : Nat} (hf : fieldAt s p = some (off, w))
    (pre post : Bytes) (v : Nat) (hpre : pre.length = off) (hv : v < 256 ^ w) :
    getField (pre ++ leBytes w v ++ post) s p = some v := by
  rw [getField_raw hf pre _ post hpre (leBytes_length w v), leVal_leBytes w v hv]

theorem getField_append {bs : Bytes} {s : String} {p : List String} {v : Nat} (more : Bytes)
    (h : getField bs s p = some v) : getField (bs ++ more) s p = some v := by
  unfold getField at h ⊢
  cases hf : fieldAt s p with
  | none => rw [hf] at h; cases h
  | some ow =>
    obtain ⟨off, w⟩ := ow
    rw [hf] at h
    simp only at h ⊢
    split at h
    · next hl =>
      rw [if_pos (by rw [List.length_append]; omega), List.drop_append_of_le_length (by omega),
        List.take_append_of_le_length (by rw [List.length_drop]; omega)]
      exact h
    · cases h

/-- `later.foldl (· ++ ·) x` unfolds to `x ++ c₁ ++ c₂ ++ …`, the way the bodies are written in `Model.Frontend.request` -/
theorem getField_written {s : String} {p : List String} {off w : Nat} (hf : fieldAt s p = some (off, w))
    (pre : Bytes) (v : Nat) (later : List Bytes) (hpre : pre.length = off) (hv : v < 256 ^ w) :
    getField (later.foldl (· ++ ·) (pre ++ leBytes w v)) s p = some v := by
  have h := getField_enc hf pre [] v hpre hv
  rw [List.append_nil] at h
  generalize pre ++ leBytes w v = bs at h
  induction later generalizing bs with
  | nil => exact h
  | cons c cs ih => exact ih _ (getField_append c h)

/-- the three accessors of the models are the same function -/
theorem srv_g (bs : Bytes) (s : String) (p : List String) (v : Nat) (h : getField bs s p = some v) :
    Model.BackendSrv.g bs s p = v := by simp [Model.BackendSrv.g, h]
theorem fe_g (bs : Bytes) (s : String) (p : List String) (v : Nat) (h : getField bs s p = some v) :
    Model.Frontend.g bs s p = v := by simp [Model.Frontend.g, h]
/-- the Spec's hand-transcribed layout and the generated one agree on a field ⇒ same accessor -/
theorem spec_fld (bs : Bytes) (s : String) (p : List String) (v : Nat)
    (hl : Spec.fieldAt Spec.layoutOf Spec.nestedOf s p = fieldAt s p) (h : getField bs s p = some v) :
    Spec.Proto.fld bs s p = v := by
  have e : Spec.getField bs s p = getField bs s p := by
    unfold Spec.getField getField
    rw [hl]
    cases fieldAt s p <;> rfl
  simp [Spec.Proto.fld, e, h]

open Model.Frontend (u64 u32 u16)

/-! ## per struct: the generated layout, and decode (encode fields) = fields -/

section structs
variable (rest : Bytes)

theorem dec_U64 (v : Nat) (hv : v < 2^64) : getField (u64 v ++ rest) "VhostUserU64" ["value"] = some v :=
  getField_written lay_u64.2 [] v [rest] rfl hv

theorem dec_VringState (i n : Nat) (hi : i < 2^32) (hn : n < 2^32) :
    getField (u32 i ++ u32 n ++ rest) "VhostUserVringState" ["index"] = some i ∧
    getField (u32 i ++ u32 n ++ rest) "VhostUserVringState" ["num"] = some n :=
  ⟨getField_written lay_vstate.2.1 [] i [u32 n, rest] rfl hi, getField_written lay_vstate.2.2 (u32 i) n [rest] rfl hn⟩

theorem dec_Transfer (d p : Nat) (hd : d < 2^32) (hp : p < 2^32) :
    getField (u32 d ++ u32 p ++ rest) "VhostUserTransferDeviceState" ["direction"] = some d ∧
    getField (u32 d ++ u32 p ++ rest) "VhostUserTransferDeviceState" ["phase"] = some p :=
  ⟨getField_written lay_transfer.2.1 [] d [u32 p, rest] rfl hd, getField_written lay_transfer.2.2 (u32 d) p [rest] rfl hp⟩

/-- `VhostUserMemory` (header of SET_MEM_TABLE) -/
theorem dec_Memory (n pad : Nat) (hn : n < 2^32) (hp : pad < 2^32) :
    getField (u32 n ++ u32 pad ++ rest) "VhostUserMemory" ["num_regions"] = some n ∧
    getField (u32 n ++ u32 pad ++ rest) "VhostUserMemory" ["padding1"] = some pad :=
  ⟨getField_written lay_memory.2.1 [] n [u32 pad, rest] rfl hn, getField_written lay_memory.2.2 (u32 n) pad [rest] rfl hp⟩

theorem dec_Log (sz off : Nat) (hs : sz < 2^64) (ho : off < 2^64) :
    getField (u64 sz ++ u64 off ++ rest) "VhostUserLog" ["mmap_size"] = some sz ∧
    getField (u64 sz ++ u64 off ++ rest) "VhostUserLog" ["mmap_offset"] = some off :=
  ⟨getField_written lay_log.2.1 [] sz [u64 off, rest] rfl hs, getField_written lay_log.2.2 (u64 sz) off [rest] rfl ho⟩

/-- `VhostUserConfig` (fixed part; `rest` = payload) -/
theorem dec_Config (off sz fl : Nat) (ho : off < 2^32) (hs : sz < 2^32) (hf : fl < 2^32) :
    getField (u32 off ++ u32 sz ++ u32 fl ++ rest) "VhostUserConfig" ["offset"] = some off ∧
    getField (u32 off ++ u32 sz ++ u32 fl ++ rest) "VhostUserConfig" ["size"] = some sz ∧
    getField (u32 off ++ u32 sz ++ u32 fl ++ rest) "VhostUserConfig" ["flags"] = some fl :=
  ⟨getField_written lay_config.2.1 [] off [u32 sz, u32 fl, rest] rfl ho,
   getField_written lay_config.2.2.1 (u32 off) sz [u32 fl, rest] rfl hs,
   getField_written lay_config.2.2.2 (u32 off ++ u32 sz) fl [rest] rfl hf⟩

theorem dec_VringAddr (i fl d u a lg : Nat) (hi : i < 2^32) (hfl : fl < 2^32) (hd : d < 2^64) (hu : u < 2^64)
    (ha : a < 2^64) (hl : lg < 2^64) :
    let b := u32 i ++ u32 fl ++ u64 d ++ u64 u ++ u64 a ++ u64 lg ++ rest
    getField b "VhostUserVringAddr" ["index"] = some i ∧ getField b "VhostUserVringAddr" ["flags"] = some fl ∧
    getField b "VhostUserVringAddr" ["descriptor"] = some d ∧ getField b "VhostUserVringAddr" ["used"] = some u ∧
    getField b "VhostUserVringAddr" ["available"] = some a ∧ getField b "VhostUserVringAddr" ["log"] = some lg :=
  have l := lay_vaddr.2
  ⟨getField_written l.1 [] i [u32 fl, u64 d, u64 u, u64 a, u64 lg, rest] rfl hi,
   getField_written l.2.1 (u32 i) fl [u64 d, u64 u, u64 a, u64 lg, rest] rfl hfl,
   getField_written l.2.2.1 (u32 i ++ u32 fl) d [u64 u, u64 a, u64 lg, rest] rfl hd,
   getField_written l.2.2.2.1 (u32 i ++ u32 fl ++ u64 d) u [u64 a, u64 lg, rest] rfl hu,
   getField_written l.2.2.2.2.1 (u32 i ++ u32 fl ++ u64 d ++ u64 u) a [u64 lg, rest] rfl ha,
   getField_written l.2.2.2.2.2 (u32 i ++ u32 fl ++ u64 d ++ u64 u ++ u64 a) lg [rest] rfl hl⟩

theorem dec_Region (gpa sz ua mo : Nat) (hg : gpa < 2^64) (hs : sz < 2^64) (hu : ua < 2^64) (hm : mo < 2^64) :
    let b := u64 gpa ++ u64 sz ++ u64 ua ++ u64 mo ++ rest
    getField b "VhostUserMemoryRegion" ["guest_phys_addr"] = some gpa ∧
    getField b "VhostUserMemoryRegion" ["memory_size"] = some sz ∧
    getField b "VhostUserMemoryRegion" ["user_addr"] = some ua ∧
    getField b "VhostUserMemoryRegion" ["mmap_offset"] = some mo :=
  have l := lay_region.2
  ⟨getField_written l.1 [] gpa [u64 sz, u64 ua, u64 mo, rest] rfl hg,
   getField_written l.2.1 (u64 gpa) sz [u64 ua, u64 mo, rest] rfl hs,
   getField_written l.2.2.1 (u64 gpa ++ u64 sz) ua [u64 mo, rest] rfl hu,
   getField_written l.2.2.2 (u64 gpa ++ u64 sz ++ u64 ua) mo [rest] rfl hm⟩

/-- `VhostUserSingleMemoryRegion` (nested `region`) -/
theorem dec_Single (pad gpa sz ua mo : Nat) (_hp : pad < 2^64) (hg : gpa < 2^64) (hs : sz < 2^64) (hu : ua < 2^64)
    (hm : mo < 2^64) :
    let b := u64 pad ++ u64 gpa ++ u64 sz ++ u64 ua ++ u64 mo ++ rest
    getField b "VhostUserSingleMemoryRegion" ["region", "guest_phys_addr"] = some gpa ∧
    getField b "VhostUserSingleMemoryRegion" ["region", "memory_size"] = some sz ∧
    getField b "VhostUserSingleMemoryRegion" ["region", "user_addr"] = some ua ∧
    getField b "VhostUserSingleMemoryRegion" ["region", "mmap_offset"] = some mo :=
  have l := lay_single.2.2
  ⟨getField_written l.1 (u64 pad) gpa [u64 sz, u64 ua, u64 mo, rest] rfl hg,
   getField_written l.2.1 (u64 pad ++ u64 gpa) sz [u64 ua, u64 mo, rest] rfl hs,
   getField_written l.2.2.1 (u64 pad ++ u64 gpa ++ u64 sz) ua [u64 mo, rest] rfl hu,
   getField_written l.2.2.2 (u64 pad ++ u64 gpa ++ u64 sz ++ u64 ua) mo [rest] rfl hm⟩

/-- `VhostUserInflight` (`repr(C)`: two u64, two u16, four bytes of tail padding) -/
theorem dec_Inflight (ms mo nq qs : Nat) (h1 : ms < 2^64) (h2 : mo < 2^64) (h3 : nq < 2^16) (h4 : qs < 2^16) :
    let b := u64 ms ++ u64 mo ++ u16 nq ++ u16 qs ++ rest
    getField b "VhostUserInflight" ["mmap_size"] = some ms ∧ getField b "VhostUserInflight" ["mmap_offset"] = some mo ∧
    getField b "VhostUserInflight" ["num_queues"] = some nq ∧ getField b "VhostUserInflight" ["queue_size"] = some qs :=
  have l := lay_inflight.2
  ⟨getField_written l.1 [] ms [u64 mo, u16 nq, u16 qs, rest] rfl h1,
   getField_written l.2.1 (u64 ms) mo [u16 nq, u16 qs, rest] rfl h2,
   getField_written l.2.2.1 (u64 ms ++ u64 mo) nq [u16 qs, rest] rfl h3,
   getField_written l.2.2.2 (u64 ms ++ u64 mo ++ u16 nq) qs [rest] rfl h4⟩

/-- `VhostUserSharedMsg` (16 bytes read as one little-endian number) -/
theorem dec_Shared (u : Nat) (hu : u < 2^128) : getField (leBytes 16 u ++ rest) "VhostUserSharedMsg" ["uuid"] = some u :=
  getField_written lay_shared.2 [] u [rest] rfl hu

end structs

/-! ## the message header -/

theorem dec_Header (code flags size : Nat) (hc : code < 2^32) (hf : flags < 2^32) (hs : size < 2^32) (rest : Bytes) :
    let b := Model.BackendSrv.encHdr code flags size ++ rest
    leVal (b.take 4) = code ∧ leVal ((b.drop 4).take 4) = flags ∧ leVal ((b.drop 8).take 4) = size := by
  intro b
  have e1 : b.take 4 = leBytes 4 code := by
    simp only [b, Model.BackendSrv.encHdr, List.append_assoc]
    exact take_append_len _ _ 4 (by simp)
  have e2 : (b.drop 4).take 4 = leBytes 4 flags := by
    simp [b, Model.BackendSrv.encHdr, List.append_assoc]
  have e3 : (b.drop 8).take 4 = leBytes 4 size := by
    have := slice_mid' (leBytes 4 code ++ leBytes 4 flags) (leBytes 4 size) rest 8 4 (by simp) (by simp)
    simpa [b, Model.BackendSrv.encHdr, List.append_assoc] using this
  rw [e1, e2, e3]
  exact ⟨leVal_leBytes 4 _ (by omega), leVal_leBytes 4 _ (by omega), leVal_leBytes 4 _ (by omega)⟩

end Lemmas.Encode
