import VhostModel.Model.Vring
import VhostModel.Lemmas.HandlerTable
/-!
# Reading the handler's rows in `Model.Vring` (C14)

`evsV` interprets a list of events of `Base.HandlerSig` on the state of `Model.Vring` (`Daemon`), event by event, in
order: a guard that fires ends the method with its error (the state is what the preceding events left behind), an effect
changes the ring at hand (`self.vrings[index]`), a helper call runs the helper's own events, a branch evaluates its
condition — the function `Model.HandlerTable.cond` of the condition's identifier — on the *current* state.

What this model does not read (table at the head of `Model/HandlerTable.lean`): the epoll registration
(`update_vring_registration`, `unregister_vring_kick` are skipped), the memory-table events (they are `Model.MemTable`'s,
see `Lemmas/HandlerMem.lean`), loops other than the one over the vrings.

`row_*`, `cond_*`, `val_*` of this namespace are in `Lemmas/HandlerTable.lean`.
-/
namespace Lemmas.HandlerVring
open Base Model.Vring Model.HandlerTable

/-- how far the method has got -/
inductive Flow where
  | run
  | brk
  | ret (r : Except Err Reply)
  deriving DecidableEq

structure VS where
  d : Daemon
  /-- arguments and locals (the handler's fields are read from `d`, see `sync`) -/
  x : HIn
  /-- the `file` argument of SET_VRING_KICK / CALL / ERR -/
  file : Option Nat
  /-- the flags set on the `Backend` channel by SET_BACKEND_REQ_FD so far -/
  chan : Bool × Bool × Bool
  flow : Flow

/-- the model's error for a `VhostUserError` variant -/
def errOf (e : String) : Err :=
  if e = "InvalidParam" then .invalidParam
  else if e = "BackendInternalError" then .backendInternal
  else if e = "InactiveFeature" then .inactiveFeature
  else .reqHandler

/-- bit `k` of a feature word -/
def bitOf (a : BitVec 64) (k : Nat) : Bool := a.getLsbD k

/-- the ring at hand -/
def VS.ring (s : VS) : Option Vring := s.d.vrings[s.x.index]?

/-- the environment of a condition: arguments and locals from `x`, the handler's fields and the ring from the daemon -/
def sync (s : VS) : HIn :=
  { s.x with
    max_queue_size := s.d.maxQueueSize
    mappings_empty := s.d.mem.mappings.isEmpty
    acked_features := s.d.ackedFeatures.toNat
    acked_protocol_features := s.d.ackedProto.toNat
    features_acked := s.d.featuresAcked
    backend_features := s.d.offered.toNat
    num_queues := s.d.vrings.length
    ring_ready := (s.ring.map (·.queue.ready)).getD false
    ring_enabled := (s.ring.map (·.enabled)).getD false
    ring_kick_some := (s.ring.map (·.kick.isSome)).getD false }

def setLocal (n : String) (v : Nat) (x : HIn) : HIn :=
  if n = "desc_table" then { x with desc_table := v }
  else if n = "avail_ring" then { x with avail_ring := v }
  else if n = "used_ring" then { x with used_ring := v }
  else if n = "idx" then { x with idx := v }
  else if n = "next_avail" then { x with next_avail := v }
  else x

def fail (s : VS) (e : String) : VS := { s with flow := .ret (.error (errOf e)) }

def modRing (s : VS) (f : Vring → Vring) : VS := { s with d := s.d.setRing s.x.index f }

/-- a descriptor argument: `file` is the message's descriptor, anything else (`None`) is none -/
def fdArg (s : VS) (a : String) : Option Nat := if a = "file" then s.file else none

def vringCallV (s : VS) (m : String) (a : String) : VS :=
  if m = "set_queue_size" then modRing s fun v => { v with queue := v.queue.setSize (val a (sync s)) }
  else if m = "set_queue_next_avail" then modRing s fun v => { v with queue := { v.queue with nextAvail := val a (sync s) } }
  else if m = "set_queue_next_used" then modRing s fun v => { v with queue := { v.queue with nextUsed := val a (sync s) } }
  else if m = "set_queue_ready" then modRing s fun v => { v with queue := { v.queue with ready := cond a (sync s) } }
  else if m = "set_queue_event_idx" then modRing s fun v => { v with queue := { v.queue with eventIdx := cond a (sync s) } }
  else if m = "set_enabled" then modRing s fun v => { v with enabled := cond a (sync s) }
  else if m = "set_kick" then modRing s fun v => { v with kick := fdArg s a }
  else if m = "set_call" then modRing s fun v => { v with call := fdArg s a }
  else if m = "set_err" then modRing s fun v => { v with err := fdArg s a }
  else s

def actV (a : HAct) (s : VS) : VS :=
  match a with
  | .indexBound e => if s.ring.isNone then fail s e else s
  | .featureAcked bit e => if !bitOf s.d.ackedFeatures bit then fail s e else s
  | .valueCheck c e => if cond c (sync s) then fail s e else s
  | .addrTranslate arg e b =>
    match Model.MemTable.translate s.d.mem.mappings (val arg (sync s)) with
    | none => fail s e
    | some g => { s with x := setLocal b g s.x }
  | .vringTry m args e b =>
    match s.ring with
    | none => s
    | some v =>
      if m = "set_queue_info" then
        match args with
        | [a1, a2, a3] =>
          match v.queue.setQueueInfo (val a1 (sync s)) (val a2 (sync s)) (val a3 (sync s)) with
          | (q1, okk) =>
            let s1 := modRing s fun v => { v with queue := q1 }
            if okk then s1 else fail s1 e
        | _ => s
      else if m = "queue_used_idx" then
        match v.queue.usedIdx s.d.guestMem with
        | none => fail s e
        | some i => { s with x := setLocal b i s.x }
      else s
  | .vringCall m [a] => vringCallV s m a
  | .vringGet m b =>
    if m = "queue_next_avail" then
      match s.ring with
      | none => s
      | some v => { s with x := setLocal b v.queue.nextAvail s.x }
    else s
  | .setField n v =>
    if n = "acked_features" then { s with d := { s.d with ackedFeatures := BitVec.ofNat 64 (val v (sync s)) } }
    else if n = "features_acked" then { s with d := { s.d with featuresAcked := cond v (sync s) } }
    else if n = "acked_protocol_features" then { s with d := { s.d with ackedProto := BitVec.ofNat 64 (val v (sync s)) } }
    else s
  | .backendCall m args =>
    if m = "set_event_idx" then
      match args with
      | [a] => { s with d := { s.d with log := s.d.log ++ [.setEventIdx (cond a (sync s))] } }
      | _ => s
    else if m = "acked_features" then
      match args with
      | [a] => { s with d := { s.d with log := s.d.log ++ [.ackedFeatures (BitVec.ofNat 64 (val a (sync s)))] } }
      | _ => s
    else if m = "set_backend_req_fd" then
      { s with d := { s.d with log := s.d.log ++ [.setBackendReqFd s.chan.1 s.chan.2.1 s.chan.2.2] } }
    else s
  | .channelCall m _ =>
    if m = "set_reply_ack_flag" then { s with chan := (true, s.chan.2) }
    else if m = "set_shared_object_flag" then { s with chan := (s.chan.1, true, s.chan.2.2) }
    else if m = "set_shmem_flag" then { s with chan := (s.chan.1, s.chan.2.1, true) }
    else s
  | .brk => { s with flow := .brk }
  | .ok | .done => { s with flow := .ret (.ok .unit) }
  | .okValue _ => { s with flow := .ret (.ok (.vringState s.x.index s.x.next_avail)) }
  | .err e => fail s e
  | _ => s

/-- helpers this model does not look into -/
def skipped (n : String) : Bool := n = "update_vring_registration" || n = "unregister_vring_kick" || n = "log_region"

/-- back in the caller: the helper's `Ok` is consumed, its error travels on if the call propagates it -/
def afterCall (p : Bool) (s : VS) : VS :=
  match s.flow with
  | .ret (.error e) => if p then s else { s with flow := .run }
  | _ => { s with flow := .run }

mutual
def evV : HEvent → VS → VS
  | .act a, s => actV a s
  | .helperCall n _ p body, s => if skipped n then s else afterCall p (evsV body s)
  | .forEachVring body, s =>
    let s' := (List.range s.d.vrings.length).foldl
      (fun s i => match s.flow with
        | .run => evsV body { s with x := { s.x with index := i } }
        | _ => s) s
    { s' with x := { s'.x with index := s.x.index } }
  | .forEach _ _, s => s
  | .ifCond c t f, s => if cond c (sync s) then evsV t s else evsV f s
  | .ifSome _ _ _, s => s
def evsV : List HEvent → VS → VS
  | [], s => s
  | e :: es, s =>
    match (evV e s).flow with
    | .run => evsV es (evV e s)
    | _ => evV e s
end

def startV (d : Daemon) (x : HIn) (file : Option Nat) : VS := ⟨d, x, file, (false, false, false), .run⟩

def resultV (s : VS) : Daemon × Except Err Reply :=
  (s.d, match s.flow with
        | .ret r => r
        | _ => .ok .unit)

/-- method `name` of the table, run on daemon `d` with arguments `x` (and descriptor `file`) -/
def runRow (name : String) (d : Daemon) (x : HIn) (file : Option Nat) : Daemon × Except Err Reply :=
  resultV (evsV (row name) (startV d x file))

/-! ## the order of the guards

Whatever the row: the method is refused with `e` exactly when some event of the row — the *first*, in the row's order, that
does not let the method go on — ends it with `e`, evaluated on the state the events before it left behind. -/

theorem evsV_append (pre post : List HEvent) (s : VS) (h : (evsV pre s).flow = .run) :
    evsV (pre ++ post) s = evsV post (evsV pre s) := by
  induction pre generalizing s with
  | nil => rfl
  | cons e es ih =>
    simp only [List.cons_append, evsV] at h ⊢
    cases hf : (evV e s).flow with
    | run => rw [hf] at h; simp only at h ⊢; exact ih _ h
    | brk => rw [hf] at h; simp only at h; rw [hf] at h; cases h
    | ret r => rw [hf] at h; simp only at h; rw [hf] at h; cases h

theorem first_refusing_event (evs : List HEvent) (s : VS) (hs : s.flow = .run) (e : Err) :
    (evsV evs s).flow = .ret (.error e) ↔
    ∃ pre g post, evs = pre ++ g :: post ∧ (evsV pre s).flow = .run ∧ (evV g (evsV pre s)).flow = .ret (.error e) := by
  constructor
  · intro h
    induction evs generalizing s with
    | nil => simp only [evsV, hs] at h; cases h
    | cons ev es ih =>
      simp only [evsV] at h
      cases hf : (evV ev s).flow with
      | run =>
        simp only [hf] at h
        obtain ⟨pre, g, post, h1, h2, h3⟩ := ih _ hf h
        exact ⟨ev :: pre, g, post, by rw [h1]; rfl, by simpa only [evsV, hf] using h2, by simpa only [evsV, hf] using h3⟩
      | brk => simp only [hf] at h; cases h
      | ret r => simp only [hf] at h; exact ⟨[], ev, es, rfl, hs, hf.trans h⟩
  · rintro ⟨pre, g, post, rfl, h2, h3⟩
    rw [evsV_append pre _ s h2]
    simp only [evsV, h3]

theorem evsV_step {e : HEvent} {es : List HEvent} {s s1 : VS} (h : evV e s = s1) (hrun : s1.flow = .run) :
    evsV (e :: es) s = evsV es s1 := by
  simp only [evsV, h, hrun]

theorem evsV_append_run (pre post : List HEvent) (s : VS) (hs : s.flow = .run) :
    evsV (pre ++ post) s =
      match (evsV pre s).flow with
      | .run => evsV post (evsV pre s)
      | _ => evsV pre s := by
  induction pre generalizing s with
  | nil => simp only [List.nil_append, evsV, hs]
  | cons e es ih =>
    simp only [List.cons_append, evsV]
    cases hf : (evV e s).flow with
    | run => exact ih _ hf
    | brk => simp only [hf]
    | ret r => simp only [hf]

/-! ## running a row

One equation per kind of event: a guard splits the result of the row into the refusal and the result of the rest; an
effect hands the rest the changed state. -/
section run
variable (d : Daemon) (x : HIn) (f : Option Nat) (c : Bool × Bool × Bool) (es : List HEvent)

theorem run_indexBound (e : String) :
    resultV (evsV (.indexBound e :: es) ⟨d, x, f, c, .run⟩) =
      match d.vrings[x.index]? with
      | none => (d, .error (errOf e))
      | some _ => resultV (evsV es ⟨d, x, f, c, .run⟩) := by
  cases h : d.vrings[x.index]? <;> simp [evsV, evV, actV, VS.ring, h, fail, resultV]

theorem run_valueCheck (cnd e : String) :
    resultV (evsV (.valueCheck cnd e :: es) ⟨d, x, f, c, .run⟩) =
      if cond cnd (sync ⟨d, x, f, c, .run⟩) then (d, .error (errOf e)) else resultV (evsV es ⟨d, x, f, c, .run⟩) := by
  cases h : cond cnd (sync ⟨d, x, f, c, .run⟩) <;> simp [evsV, evV, actV, h, fail, resultV]

theorem run_checkFeature (a : List String) (bit : Nat) (e : String) :
    resultV (evsV (.helperCall "check_feature" a true [.featureAcked bit e] :: es) ⟨d, x, f, c, .run⟩) =
      if !bitOf d.ackedFeatures bit then (d, .error (errOf e)) else resultV (evsV es ⟨d, x, f, c, .run⟩) := by
  cases h : bitOf d.ackedFeatures bit <;> simp [evsV, evV, actV, skipped, afterCall, h, fail, resultV]

theorem run_addrTranslate (arg e b : String) :
    resultV (evsV (.addrTranslate arg e b :: es) ⟨d, x, f, c, .run⟩) =
      match Model.MemTable.translate d.mem.mappings (val arg (sync ⟨d, x, f, c, .run⟩)) with
      | none => (d, .error (errOf e))
      | some g => resultV (evsV es ⟨d, setLocal b g x, f, c, .run⟩) := by
  cases h : Model.MemTable.translate d.mem.mappings (val arg (sync ⟨d, x, f, c, .run⟩)) <;>
    simp [evsV, evV, actV, h, fail, resultV]

theorem run_setQueueInfo (a1 a2 a3 e b : String) {v : Vring} {i : Nat} (h : d.vrings[i]? = some v) (hi : x.index = i) :
    resultV (evsV (.vringTry "set_queue_info" [a1, a2, a3] e b :: es) ⟨d, x, f, c, .run⟩) =
      match v.queue.setQueueInfo (val a1 (sync ⟨d, x, f, c, .run⟩)) (val a2 (sync ⟨d, x, f, c, .run⟩))
          (val a3 (sync ⟨d, x, f, c, .run⟩)) with
      | (q1, false) => (d.setRing x.index fun v => { v with queue := q1 }, .error (errOf e))
      | (q1, true) => resultV (evsV es ⟨d.setRing x.index fun v => { v with queue := q1 }, x, f, c, .run⟩) := by
  subst hi
  cases hq : v.queue.setQueueInfo (val a1 (sync ⟨d, x, f, c, .run⟩)) (val a2 (sync ⟨d, x, f, c, .run⟩))
      (val a3 (sync ⟨d, x, f, c, .run⟩)) with
  | mk q1 okk => cases okk <;> simp [evsV, evV, actV, VS.ring, h, hq, modRing, fail, resultV]

theorem run_usedIdx (e b : String) {v : Vring} {i : Nat} (h : d.vrings[i]? = some v) (hi : x.index = i) :
    resultV (evsV (.vringTry "queue_used_idx" [] e b :: es) ⟨d, x, f, c, .run⟩) =
      match v.queue.usedIdx d.guestMem with
      | none => (d, .error (errOf e))
      | some i => resultV (evsV es ⟨d, setLocal b i x, f, c, .run⟩) := by
  subst hi
  cases hq : v.queue.usedIdx d.guestMem <;> simp [evsV, evV, actV, VS.ring, h, hq, fail, resultV]

theorem run_ifCond (cnd : String) (t e : List HEvent) :
    resultV (evsV (.ifCond cnd t e :: es) ⟨d, x, f, c, .run⟩) =
      if cond cnd (sync ⟨d, x, f, c, .run⟩) then resultV (evsV (t ++ es) ⟨d, x, f, c, .run⟩)
      else resultV (evsV (e ++ es) ⟨d, x, f, c, .run⟩) := by
  rw [evsV_append_run t es ⟨d, x, f, c, .run⟩ rfl, evsV_append_run e es ⟨d, x, f, c, .run⟩ rfl]
  cases h : cond cnd (sync ⟨d, x, f, c, .run⟩) <;> simp only [evsV, evV, h, if_true, if_false, Bool.false_eq_true]

theorem run_ok : resultV (evsV (.ok :: es) ⟨d, x, f, c, .run⟩) = (d, .ok .unit) := rfl
theorem run_err (e : String) : resultV (evsV (.err e :: es) ⟨d, x, f, c, .run⟩) = (d, .error (errOf e)) := rfl

theorem vringCallV_flow (s : VS) (m a : String) : (vringCallV s m a).flow = s.flow := by
  simp only [vringCallV, apply_ite VS.flow, modRing, ite_self]

theorem evsV_vringCall (m a : String) :
    evsV (.vringCall m [a] :: es) ⟨d, x, f, c, .run⟩ = evsV es (vringCallV ⟨d, x, f, c, .run⟩ m a) := by
  simp only [evsV, evV, actV, vringCallV_flow]

theorem evsV_bind (n e : String) : evsV (.bind n e :: es) ⟨d, x, f, c, .run⟩ = evsV es ⟨d, x, f, c, .run⟩ := rfl

/-- `if cnd { backend.set_.._flag(true) }` of `set_backend_req_fd` -/
theorem evsV_flagIf (cnd m : String) (a : List String) :
    evsV (.ifCond cnd [.channelCall m a] [] :: es) ⟨d, x, f, c, .run⟩ =
      evsV es ⟨d, x, f,
        if cond cnd (sync ⟨d, x, f, c, .run⟩) then (actV (.channelCall m a) ⟨d, x, f, c, .run⟩).chan else c, .run⟩ := by
  have ha : actV (.channelCall m a) ⟨d, x, f, c, .run⟩ =
      ⟨d, x, f, (actV (.channelCall m a) ⟨d, x, f, c, .run⟩).chan, .run⟩ := by
    simp only [actV]
    split
    · rfl
    · split
      · rfl
      · split <;> rfl
  cases h : cond cnd (sync ⟨d, x, f, c, .run⟩)
  · simp only [evsV, evV, h, Bool.false_eq_true, if_false]
  · rw [evsV_step (s1 := ⟨d, x, f, (actV (.channelCall m a) ⟨d, x, f, c, .run⟩).chan, .run⟩) _ rfl]
    · simp only [if_true]
    · simp only [evV, h, if_true, evsV]
      rw [ha]

theorem evsV_skipped (n : String) (a : List String) (p : Bool) (b : List HEvent) (h : skipped n = true) :
    evsV (.helperCall n a p b :: es) ⟨d, x, f, c, .run⟩ = evsV es ⟨d, x, f, c, .run⟩ := by
  simp only [evsV, evV, h, if_true]

theorem evsV_updateReg (idx : String) : evsV (updateReg idx :: es) ⟨d, x, f, c, .run⟩ = evsV es ⟨d, x, f, c, .run⟩ :=
  evsV_skipped d x f c es _ _ _ _ (by simp [skipped])

theorem evsV_initializeVring :
    evsV (initializeVring :: es) ⟨d, x, f, c, .run⟩ =
      evsV es ⟨d.setRing x.index fun v => { v with queue := { v.queue with ready := true } }, x, f, c, .run⟩ := by
  simp [initializeVring, initializeVringBody, updateReg, evsV, evV, actV, vringCallV, modRing, skipped, afterCall, cond_true]

end run

theorem errOf_invalidParam : errOf "InvalidParam" = .invalidParam := by simp [errOf]

/-! ## the loop over the vrings -/

section loop
variable (d : Daemon) (x : HIn) (f : Option Nat) (c : Bool × Bool × Bool) (es body : List HEvent) (g : Vring → Vring)
  (hbody : ∀ d' x', d'.ackedFeatures = d.ackedFeatures →
    evsV body ⟨d', x', f, c, .run⟩ = ⟨d'.setRing x'.index g, x', f, c, .run⟩)
include hbody

theorem loop_modify (k : Nat) :
    ∃ L j, (List.range k).foldl
      (fun (s : VS) i => match s.flow with
        | .run => evsV body { s with x := { s.x with index := i } }
        | _ => s) ⟨d, x, f, c, .run⟩ = ⟨{ d with vrings := L }, { x with index := j }, f, c, .run⟩ ∧
      ∀ i, L[i]? = if i < k then (d.vrings[i]?).map g else d.vrings[i]? := by
  induction k with
  | zero => exact ⟨d.vrings, x.index, rfl, fun i => by simp⟩
  | succ k ih =>
    obtain ⟨L, j, hj, hL⟩ := ih
    refine ⟨L.modify k g, k, ?_, ?_⟩
    · rw [List.range_succ, List.foldl_append, hj]
      simp only [List.foldl_cons, List.foldl_nil]
      rw [hbody { d with vrings := L } _ rfl]
      rfl
    · intro i
      rw [List.getElem?_modify, hL]
      by_cases e : k = i
      · subst e; simp
      · have : (i < k + 1) = (i < k) := by
          apply propext; constructor <;> intro h <;> omega
        simp [e, this]

/-- a loop whose body changes the ring at hand by `g` (the same `g` as long as the feature word stays) changes every ring
by `g` -/
theorem evsV_forEachVring :
    evsV (.forEachVring body :: es) ⟨d, x, f, c, .run⟩ = evsV es ⟨{ d with vrings := d.vrings.map g }, x, f, c, .run⟩ := by
  obtain ⟨L, j, hj, hL⟩ := loop_modify d x f c body g hbody d.vrings.length
  have : L = d.vrings.map g := by
    apply List.ext_getElem?
    intro i
    rw [hL, List.getElem?_map]
    by_cases h : i < d.vrings.length
    · simp [h]
    · have : d.vrings[i]? = none := List.getElem?_eq_none_iff.2 (by omega)
      simp [h]
  simp only [evsV, evV, hj, this]

end loop

end Lemmas.HandlerVring
