import VhostModel.Model.Msgs
/-!
# The generated layout of each message struct, evaluated once

`Model.Msgs.layoutOf` computes a struct's layout from the generated struct table (`Gen.Layout.structs`).  Each fact
below is that computation done by the kernel, so it is re-checked whenever the table is regenerated:

* `layout_*` — the whole layout, for the structs whose users read it as a whole (`simp [structSize, fieldAt, layout_x]`);
* `lay_*` — the size, then the place `(offset, width)` of every field path in order, for the structs whose users take
  the fields one by one (`lay_x.1`, `lay_x.2.1`, …).
-/
namespace Lemmas.Layouts
open Base Model.Msgs

/-- a field that lies inside the buffer is read as the little-endian value of its bytes -/
theorem getField_of_fieldAt {bs : Bytes} {s : String} {p : List String} {off w : Nat}
    (hf : fieldAt s p = some (off, w)) (hl : off + w ≤ bs.length) :
    getField bs s p = some (leVal ((bs.drop off).take w)) := by
  rw [getField, hf]; exact if_pos hl

theorem layout_hdr : layoutOf "VhostUserMsgHeader" =
    some ⟨12, 1, [("request", 0, 4), ("flags", 4, 4), ("size", 8, 4), ("_r", 12, 0)]⟩ := by decide +kernel
theorem layout_gpuhdr : layoutOf "VhostUserGpuMsgHeader" =
    some ⟨12, 1, [("request", 0, 4), ("flags", 4, 4), ("size", 8, 4), ("_r", 12, 0)]⟩ := by decide +kernel
theorem layout_u64 : layoutOf "VhostUserU64" = some ⟨8, 8, [("value", 0, 8)]⟩ := by decide +kernel
theorem layout_shared : layoutOf "VhostUserSharedMsg" = some ⟨16, 1, [("uuid", 0, 16)]⟩ := by decide +kernel
theorem layout_mmap : layoutOf "VhostUserMMap" = some ⟨40, 1, [("shmid", 0, 1), ("padding", 1, 7), ("fd_offset", 8, 8),
    ("shm_offset", 16, 8), ("len", 24, 8), ("flags", 32, 8)]⟩ := by decide +kernel
theorem lay_hdr : structSize "VhostUserMsgHeader" = some 12 ∧ fieldAt "VhostUserMsgHeader" ["request"] = some (0, 4) ∧
    fieldAt "VhostUserMsgHeader" ["flags"] = some (4, 4) ∧ fieldAt "VhostUserMsgHeader" ["size"] = some (8, 4) := by
  decide +kernel

theorem lay_u64 : structSize "VhostUserU64" = some 8 ∧ fieldAt "VhostUserU64" ["value"] = some (0, 8) := by decide +kernel

theorem lay_vstate : structSize "VhostUserVringState" = some 8 ∧
    fieldAt "VhostUserVringState" ["index"] = some (0, 4) ∧ fieldAt "VhostUserVringState" ["num"] = some (4, 4) := by
  decide +kernel

theorem lay_vaddr : structSize "VhostUserVringAddr" = some 40 ∧
    fieldAt "VhostUserVringAddr" ["index"] = some (0, 4) ∧ fieldAt "VhostUserVringAddr" ["flags"] = some (4, 4) ∧
    fieldAt "VhostUserVringAddr" ["descriptor"] = some (8, 8) ∧ fieldAt "VhostUserVringAddr" ["used"] = some (16, 8) ∧
    fieldAt "VhostUserVringAddr" ["available"] = some (24, 8) ∧ fieldAt "VhostUserVringAddr" ["log"] = some (32, 8) := by
  decide +kernel

theorem lay_shared : structSize "VhostUserSharedMsg" = some 16 ∧
    fieldAt "VhostUserSharedMsg" ["uuid"] = some (0, 16) := by decide +kernel

theorem lay_inflight : structSize "VhostUserInflight" = some 24 ∧
    fieldAt "VhostUserInflight" ["mmap_size"] = some (0, 8) ∧ fieldAt "VhostUserInflight" ["mmap_offset"] = some (8, 8) ∧
    fieldAt "VhostUserInflight" ["num_queues"] = some (16, 2) ∧
    fieldAt "VhostUserInflight" ["queue_size"] = some (18, 2) := by decide +kernel

theorem lay_single : structSize "VhostUserSingleMemoryRegion" = some 40 ∧
    fieldAt "VhostUserSingleMemoryRegion" ["padding"] = some (0, 8) ∧
    fieldAt "VhostUserSingleMemoryRegion" ["region", "guest_phys_addr"] = some (8, 8) ∧
    fieldAt "VhostUserSingleMemoryRegion" ["region", "memory_size"] = some (16, 8) ∧
    fieldAt "VhostUserSingleMemoryRegion" ["region", "user_addr"] = some (24, 8) ∧
    fieldAt "VhostUserSingleMemoryRegion" ["region", "mmap_offset"] = some (32, 8) := by decide +kernel

theorem lay_transfer : structSize "VhostUserTransferDeviceState" = some 8 ∧
    fieldAt "VhostUserTransferDeviceState" ["direction"] = some (0, 4) ∧
    fieldAt "VhostUserTransferDeviceState" ["phase"] = some (4, 4) := by decide +kernel

theorem lay_log : structSize "VhostUserLog" = some 16 ∧
    fieldAt "VhostUserLog" ["mmap_size"] = some (0, 8) ∧ fieldAt "VhostUserLog" ["mmap_offset"] = some (8, 8) := by
  decide +kernel

theorem lay_config : structSize "VhostUserConfig" = some 12 ∧
    fieldAt "VhostUserConfig" ["offset"] = some (0, 4) ∧ fieldAt "VhostUserConfig" ["size"] = some (4, 4) ∧
    fieldAt "VhostUserConfig" ["flags"] = some (8, 4) := by decide +kernel

theorem lay_memory : structSize "VhostUserMemory" = some 8 ∧
    fieldAt "VhostUserMemory" ["num_regions"] = some (0, 4) ∧ fieldAt "VhostUserMemory" ["padding1"] = some (4, 4) := by
  decide +kernel

theorem lay_region : structSize "VhostUserMemoryRegion" = some 32 ∧
    fieldAt "VhostUserMemoryRegion" ["guest_phys_addr"] = some (0, 8) ∧
    fieldAt "VhostUserMemoryRegion" ["memory_size"] = some (8, 8) ∧
    fieldAt "VhostUserMemoryRegion" ["user_addr"] = some (16, 8) ∧
    fieldAt "VhostUserMemoryRegion" ["mmap_offset"] = some (24, 8) := by decide +kernel

end Lemmas.Layouts
