import VhostModel.Lemmas.HandlerLog
/-!
# `Model.Bitmap`'s handler operations are the interpretation of the handler's rows (C15)

`setLogBase_is_row`, `setMemTable_is_row`, `addMemReg_is_row`, `remMemReg_is_row`: for every handler state and every
request the model's operation is the method's row run by `evsL` — in particular `log_region` is called, and the log
remembered (`logAssign`), exactly where the rows have these events.  `setMemTableOld_is_row`, `addMemRegOld_is_row`: the
operations of the unrepaired tree (F-C15-retain) are the same rows with the calls of `log_region` removed.
-/
namespace Lemmas.HandlerLog
open Base Model.Bitmap Model.HandlerTable
open HandlerTable (tableBody buildBody row_set_log_base row_set_mem_table row_add_mem_region row_remove_mem_region)

local notation "tLogRegion" => Model.HandlerTable.logRegion

/-- (after the mapping of `logLen` bytes succeeded): all bitmaps first, then replace, then `logAssign` -/
theorem setLogBase_is_row (s : HState) (logLen : Nat) (regs : List (Nat × Nat)) (arg : Nat × Nat) :
    setLogBase s logLen = runRow "set_log_base" s logLen regs arg := by
  unfold runRow runEvs startL setLogBase
  rw [row_set_log_base]
  rw [evsL_step (s1 := ⟨s, logLen, regs, arg, s.regions, false, 0, none, none, none, [], [], none, .run⟩) (by simp [evL, actL]) rfl]
  rw [evsL_step (s1 := ⟨s, logLen, regs, arg, s.regions, false, 0, none, none, some (s.nextLog, logLen), [], [], none, .run⟩)
    (by simp [evL, actL, libTryL]) rfl]
  rw [evsL_step (s1 := ⟨s, logLen, regs, arg, s.regions, false, 0, none, none, some (s.nextLog, logLen), [], [], none, .run⟩)
    (by simp [evL, actL]) rfl]
  have h1 := evL_buildLoop ⟨s, logLen, regs, arg, s.regions, false, 0, none, none, some (s.nextLog, logLen), [], [], none, .run⟩
    rfl s.nextLog logLen rfl
  simp only at h1
  cases hb : buildAll logLen s.regions with
  | none =>
    rw [hb] at h1
    rw [evsL_stop false rfl h1]
    simp [resultL, h1]
  | some bms =>
    rw [hb] at h1
    obtain ⟨c, b, t, h1⟩ := h1
    rw [evsL_step h1 rfl]
    simp only [List.nil_append]
    have h2 := evL_replaceLoop ⟨s, logLen, regs, arg, s.regions, t, 0, c, b, some (s.nextLog, logLen), [], bms, none, .run⟩
      rfl s.nextLog logLen rfl (buildAll_length hb)
    obtain ⟨b', t', i, h2⟩ := h2
    rw [evsL_step h2 rfl]
    simp [evsL, evL, actL, resultL, setBitmap]

/-- repaired tree: every entering region goes through `log_region` before the table is replaced -/
theorem setMemTable_is_row (s : HState) (regs : List (Nat × Nat)) (logLen : Nat) (arg : Nat × Nat) :
    setMemTable s regs = runRow "set_mem_table" s logLen regs arg := by
  rw [runRow, runEvs, row_set_mem_table, startL, setMemTable]
  rw [evsL_step (s1 := ⟨s, logLen, regs, arg, [], false, 0, none, none, none, [], [], none, .run⟩) rfl rfl,
    evsL_step (s1 := ⟨s, logLen, regs, arg, [], false, 0, none, none, none, [], [], none, .run⟩) rfl rfl]
  have h1 := evL_tableLoop ⟨s, logLen, regs, arg, [], false, 0, none, none, none, [], [], none, .run⟩ rfl rfl
  cases hm : mapOpt (fun (a, l) => Model.Bitmap.logRegion s a l) regs with
  | none =>
    simp only [hm] at h1
    rw [evsL_stop false rfl h1]
    simp [resultL, h1]
  | some rs =>
    simp only [hm] at h1
    obtain ⟨c, b, l, a, h1⟩ := h1
    rw [evsL_step h1 rfl]
    by_cases ht : tableOk regs = true <;>
      simp [evsL, evL, actL, libTryL, mapOpt_geom regs rs hm, ht, resultL, fail]

theorem addMemReg_is_row (s : HState) (start len : Nat) (logLen : Nat) (regs : List (Nat × Nat)) :
    addMemReg s start len = runRow "add_mem_region" s logLen regs (start, len) := by
  rw [runRow, runEvs, row_add_mem_region, startL, addMemReg]
  rw [evsL_step (s1 := ⟨s, logLen, regs, (start, len), [], false, 0, none, none, none, [], [], none, .run⟩)
      (by simp [evL, actL, libTryL]) rfl,
    evsL_step (s1 := ⟨s, logLen, regs, (start, len), [], false, 0, some ⟨start, len, none⟩, none, none, [], [], none, .run⟩)
      (by simp [evL, actL, libTryL]) rfl]
  have h := evL_logRegion ⟨s, logLen, regs, (start, len), [], false, 0, some ⟨start, len, none⟩, none, none, [], [], none, .run⟩
    rfl ⟨start, len, none⟩ rfl rfl rfl
  cases hl : Model.Bitmap.logRegion s start len with
  | none =>
    simp only [hl] at h
    rw [evsL_stop false rfl h.1]
    simp [resultL, h.1]
  | some r =>
    simp only [hl] at h
    obtain ⟨b, l, h⟩ := h
    rw [evsL_step h rfl]
    by_cases ht : tableOk ((insertSorted r s.regions).map fun x => (x.start, x.len)) = true <;>
      simp [evsL, evL, actL, libTryL, geom, ht, resultL, fail]

theorem remMemReg_is_row (s : HState) (start len : Nat) (logLen : Nat) (regs : List (Nat × Nat)) :
    remMemReg s start len = runRow "remove_mem_region" s logLen regs (start, len) := by
  rw [runRow, runEvs, row_remove_mem_region, startL, remMemReg]
  by_cases ha : (s.regions.any fun r => r.start == start && r.len == len) = true <;>
    simp [evsL, evL, actL, libTryL, ha, resultL, fail]

/-! ## the unrepaired tree: the rows without `log_region` -/

theorem old_set_mem_table : dropLogRegions (row "set_mem_table") = [
    .localNew "regions", .localNew "mappings",
    .forEach "ctx.iter().zip(files)" tableBodyOld,
    .libTry "GuestMemoryMmap::from_regions" "ReqHandlerError",
    .memReplace,
    .backendTry "update_memory" ["self.atomic_mem.clone()"] "ReqHandlerError",
    .mappingsAssign, .ok] := by
  rw [row_set_mem_table]; rfl

theorem old_add_mem_region : dropLogRegions (row "add_mem_region") = [
    .libTry "mmap_region" "*", .libTry "GuestRegionMmap::new" "ReqHandlerError",
    .bind "addr_mapping" addrMappingLit,
    .libTry "insert_region" "ReqHandlerError",
    .memReplace,
    .backendTry "update_memory" ["self.atomic_mem.clone()"] "ReqHandlerError",
    .mappingsPush "addr_mapping", .ok] := by
  rw [row_add_mem_region]; rfl

theorem geom_plain (regs : List (Nat × Nat)) : geom (regs.map plain) = regs := by
  induction regs with
  | nil => rfl
  | cons p regs ih => simp [geom, plain] at ih ⊢; exact ih

/-- `setMemTableOld` (F-C15-retain): the row of `set_mem_table` with the call of `log_region` removed -/
theorem setMemTableOld_is_row (s : HState) (regs : List (Nat × Nat)) (logLen : Nat) (arg : Nat × Nat) :
    setMemTableOld s regs = runEvs (dropLogRegions (row "set_mem_table")) s logLen regs arg := by
  rw [runEvs, old_set_mem_table, startL, setMemTableOld]
  rw [evsL_step (s1 := ⟨s, logLen, regs, arg, [], false, 0, none, none, none, [], [], none, .run⟩) rfl rfl,
    evsL_step (s1 := ⟨s, logLen, regs, arg, [], false, 0, none, none, none, [], [], none, .run⟩) rfl rfl]
  obtain ⟨c, a, h1⟩ := evL_tableLoopOld ⟨s, logLen, regs, arg, [], false, 0, none, none, none, [], [], none, .run⟩ rfl
  rw [evsL_step h1 rfl]
  by_cases ht : tableOk regs = true <;>
    simp [evsL, evL, actL, libTryL, geom_plain, ht, resultL, fail, plain]

/-- `addMemRegOld` (F-C15-retain): the row of `add_mem_region` with the call of `log_region` removed -/
theorem addMemRegOld_is_row (s : HState) (start len : Nat) (logLen : Nat) (regs : List (Nat × Nat)) :
    addMemRegOld s start len = runEvs (dropLogRegions (row "add_mem_region")) s logLen regs (start, len) := by
  rw [runEvs, old_add_mem_region, startL, addMemRegOld]
  by_cases ht : tableOk ((insertSorted ⟨start, len, none⟩ s.regions).map fun x => (x.start, x.len)) = true <;>
    simp [evsL, evL, actL, libTryL, geom, ht, resultL, fail]

/-- the event is a call of helper `n`, or a loop or branch with such a call directly in its body (no deeper) -/
def callsHelper (n : String) : HEvent → Bool
  | .act _ => false
  | .helperCall m _ _ _ => m == n
  | .forEachVring b | .forEach _ b => b.any fun e => match e with | .helperCall m _ _ _ => m == n | _ => false
  | .ifCond _ t f | .ifSome _ t f => (t ++ f).any fun e => match e with | .helperCall m _ _ _ => m == n | _ => false

end Lemmas.HandlerLog
