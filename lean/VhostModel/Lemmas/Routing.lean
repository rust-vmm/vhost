import VhostModel.Model.Routing
import VhostModel.Spec.Routing
/-! helper lemmas for `Props.C17` (population count as a count over bit positions, the bit test, list lemmas) -/
namespace Lemmas.Routing
open Model.Routing

theorem popcountGo_eq_countP (k x : Nat) :
    popcountGo k x = (List.range k).countP (fun i => x.testBit i) := by
  induction k generalizing x with
  | zero => simp [popcountGo]
  | succ k ih =>
    rw [popcountGo, ih, List.range_succ_eq_map, List.countP_cons, List.countP_map]
    have h0 : x.testBit 0 = decide (x % 2 = 1) := Nat.testBit_zero x
    have : ((fun i => x.testBit i) ∘ Nat.succ) = (fun i => (x / 2).testBit i) := by
      funext i; simp [Nat.testBit_succ]
    rw [this, h0]
    have : x % 2 = 0 ∨ x % 2 = 1 := by omega
    rcases this with h | h <;> simp [h] <;> omega

/-- splitting the population count of a `w`-bit number at bit `q` -/
theorem popcount_split (w x q : Nat) (hx : x < 2 ^ w) (hq : q ≤ w) :
    popcountGo w x = (List.range q).countP (fun i => x.testBit i) + popcountGo w (x >>> q) := by
  rw [popcountGo_eq_countP, popcountGo_eq_countP]
  have e1 : w = q + (w - q) := by omega
  have e2 : w = (w - q) + q := by omega
  conv => lhs; rw [e1, List.range_add, List.countP_append, List.countP_map]
  conv => rhs; rhs; rw [e2, List.range_add, List.countP_append, List.countP_map]
  have hz : List.countP ((fun i => (x >>> q).testBit i) ∘ fun y => w - q + y) (List.range q) = 0 := by
    rw [List.countP_eq_zero]
    intro a _
    simp only [Function.comp, Nat.testBit_shiftRight]
    have : x < 2 ^ (q + (w - q + a)) := Nat.lt_of_lt_of_le hx (Nat.pow_le_pow_right (by omega) (by omega))
    simp [Nat.testBit_lt_two_pow this]
  rw [hz]
  have : ((fun i => x.testBit i) ∘ fun y => q + y) = (fun i => (x >>> q).testBit i) := by
    funext i; simp [Nat.testBit_shiftRight]
  rw [this]; omega

theorem and_one_beq_one (x : Nat) : ((x &&& 1) == 1) = x.testBit 0 := by
  rw [Nat.and_one_is_mod, Nat.testBit_zero]; rfl

/-- `(mask >> index) & 1 == 1` on naturals is the bit test -/
theorem shift_and_one (m q : Nat) : (((m >>> q) &&& 1) == 1) = m.testBit q := by
  rw [and_one_beq_one, Nat.testBit_shiftRight, Nat.add_zero]

theorem hasQueue_iff (m : U64) (q : Nat) : hasQueue m q = Spec.Routing.inMask m.toNat q := by
  rw [Spec.Routing.inMask, ← shift_and_one, hasQueue, Bool.eq_iff_iff, beq_iff_eq, beq_iff_eq, BitVec.toNat_eq,
    BitVec.toNat_and, BitVec.toNat_ushiftRight]
  rfl

theorem hasQueue_fun (m : U64) : hasQueue m = Spec.Routing.inMask m.toNat := by
  funext q; exact hasQueue_iff m q

/-- in the increasing enumeration of `{i < n | p i}` the element at position `#{i < q | p i}` is `q` -/
theorem filter_range_at_rank (p : Nat → Bool) (n q : Nat) (hq : q < n) (hp : p q = true) :
    ((List.range n).filter p)[((List.range q).filter p).length]? = some q := by
  have e : n = q + ((n - q - 1) + 1) := by omega
  rw [e, List.range_add, List.range_succ_eq_map, List.map_cons, List.filter_append, List.filter_cons]
  simp [hp]

theorem rank_lt_slice_length (p : Nat → Bool) (n q : Nat) (hq : q < n) (hp : p q = true) :
    ((List.range q).filter p).length < ((List.range n).filter p).length :=
  (List.getElem?_eq_some_iff.1 (filter_range_at_rank p n q hq hp)).1

theorem registrationFrom_eq (q t : Nat) (masks : List U64) :
    registrationFrom q t masks =
      ((masks.map (·.toNat)).findIdx? (fun m => Spec.Routing.inMask m q)).bind
        (fun i => masks[i]?.map (fun m => (t + i, evtIdx m q))) := by
  induction masks generalizing t with
  | nil => simp [registrationFrom]
  | cons m ms ih =>
    simp only [registrationFrom, List.map_cons, List.findIdx?_cons, hasQueue_iff]
    cases hb : Spec.Routing.inMask m.toNat q
    · simp only [Bool.false_eq_true, if_false]
      rw [ih]
      cases List.findIdx? (fun m => Spec.Routing.inMask m q) (ms.map (·.toNat)) with
      | none => rfl
      | some i =>
        simp only [Option.map_some, Option.bind_some, List.getElem?_cons_succ]
        cases ms[i]? <;> simp <;> omega
    · simp

end Lemmas.Routing
