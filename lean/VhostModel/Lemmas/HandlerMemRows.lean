import VhostModel.Lemmas.HandlerMem
/-!
# `Model.MemTable`'s three operations are the interpretation of the handler's rows (C13)

`setMemTable_is_row`, `addMemRegion_is_row`, `removeMemRegion_is_row`: for every state and every request, the model's
operation is `runRow` of the method's row — the same guards (a request is refused exactly when one of the row's fallible
library steps fails, in the row's order) and the same state changes.  `effectsLast` states the shape that makes a failed
update change nothing; `Props.HandlerOps.mem_effects_after_fallible` reads it off the rows themselves.
-/
namespace Lemmas.HandlerMem
open Base Model.MemTable Model.HandlerTable
open Spec.MemTable (Req Op)
open HandlerTable (tableBody row_set_mem_table row_add_mem_region row_remove_mem_region)

theorem cond_retain : cond "mapping.gpa_base != region.guest_phys_addr" =
    (fun x => (x.mapping_gpa_base != x.region_guest_phys_addr)) := by table_lookup

theorem setMemTable_is_row (s : St) (rs : List Req) (q : Req) :
    setMemTable s rs = runRow "set_mem_table" s rs q := by
  rw [runRow, row_set_mem_table, startM, setMemTable]
  rw [evsM_step (s1 := ⟨s, rs, q, [], [], none, none, .run⟩) rfl rfl,
    evsM_step (s1 := ⟨s, rs, q, [], [], none, none, .run⟩) rfl rfl]
  have hl := evM_loop ⟨s, rs, q, [], [], none, none, .run⟩ rfl
  cases hb : buildAll rs with
  | none =>
    simp only [hb] at hl
    rw [evsM_stop false rfl hl.1]
    simp [resultM, hl]
  | some p =>
    simp only [hb] at hl
    obtain ⟨c, q', h⟩ := hl
    rw [evsM_step h rfl]
    cases hf : fromRegions p.1 <;> simp [evsM, evM, actM, libTryM, hf, resultM, fail]

theorem addMemRegion_is_row (s : St) (r : Req) (rs : List Req) :
    addMemRegion s r = runRow "add_mem_region" s rs r := by
  rw [runRow, row_add_mem_region, startM]
  unfold addMemRegion mmapRegion
  by_cases h1 : (r.mapOk && decide (0 < r.size)) = true
  · by_cases h2 : r.gpa + r.size < 2 ^ 64
    · cases hi : insertRegion s.regions ⟨r.gpa, r.size, r.fid, r.off⟩ <;>
        simp [evsM, evM, actM, libTryM, logRegion, h1, h2, hi, resultM, fail]
    · simp [evsM, evM, actM, libTryM, h1, h2, resultM, fail]
  · simp [evsM, evM, actM, libTryM, h1, resultM, fail]

/-- `region.guest_phys_addr`, `region.memory_size` are the request's two numbers -/
theorem removeMemRegion_is_row (s : St) (gpa size : Nat) (rs : List Req) (u o f : Nat) (b : Bool) :
    removeMemRegion s gpa size = runRow "remove_mem_region" s rs ⟨gpa, size, u, o, f, b⟩ := by
  rw [runRow, row_remove_mem_region, startM, removeMemRegion]
  cases hr : removeRegion gpa size s.regions <;> simp [evsM, evM, actM, libTryM, hr, resultM, fail, cond_retain]

/-! ## the shape of the rows: state changes come last -/

mutual
/-- some event of `e` (at any depth) satisfies `p` -/
def anyEv (p : HAct → Bool) : HEvent → Bool
  | .act a => p a
  | .helperCall _ _ _ b => anyEvs p b
  | .forEachVring b => anyEvs p b
  | .forEach _ b => anyEvs p b
  | .ifCond _ t f => anyEvs p t || anyEvs p f
  | .ifSome _ t f => anyEvs p t || anyEvs p f
def anyEvs (p : HAct → Bool) : List HEvent → Bool
  | [] => false
  | e :: es => anyEv p e || anyEvs p es
end

/-- no event satisfying `fallible` occurs (at any depth) after the first top-level event that contains an `effect`, nor
inside that event itself unless it is a plain `act` (the effect of a loop or branch would then sit next to a fallible step) -/
def effectsLast (fallible effect : HAct → Bool) : List HEvent → Bool
  | [] => true
  | e :: es => if anyEv effect e then !anyEvs fallible es && !(anyEv fallible e && !(match e with | .act _ => true | _ => false))
               else effectsLast fallible effect es

/-- the steps of a row that can fail: guards, `?` on library and vring calls, the backend's `update_memory` -/
def HAct.fallible : HAct → Bool
  | .indexBound _ | .featureAcked _ _ | .valueCheck _ _ | .requireSome _ _ | .addrTranslate _ _ _ | .vringTry _ _ _ _
  | .backendTry _ _ _ | .libTry _ _ | .epollRegister _ _ | .err _ => true
  | _ => false

/-- … the same without the backend callback (which `Model.MemTable` takes to be infallible) -/
def HAct.fallibleLib (a : HAct) : Bool :=
  HAct.fallible a && !(match a with | .backendTry _ _ _ => true | _ => false)

def HAct.assignsMappings : HAct → Bool
  | .mappingsAssign | .mappingsPush _ | .mappingsRetain _ => true
  | _ => false

def HAct.replacesMemory : HAct → Bool
  | .memReplace => true
  | _ => false

def memRows : List String := ["set_mem_table", "add_mem_region", "remove_mem_region"]

end Lemmas.HandlerMem
