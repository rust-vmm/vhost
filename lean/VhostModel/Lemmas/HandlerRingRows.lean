import VhostModel.Lemmas.HandlerRing
import VhostModel.Lemmas.RingReg
/-!
# `Model.RingReg.control` is the interpretation of the handler's rows (C11)

Per control message: what `Model.RingReg` does is (a) what lies outside the handler — a closed connection, the fresh
descriptor carried by the message (`alloc`), the crate's own feature check in front of SET_VRING_ENABLE (`ackedC`), the
reply owed for the handler's result — and (b) the handler's method, which is the row of the table run by `evsR`:
the helper calls `update_vring_registration` / `unregister_vring_kick` / `initialize_vring` happen exactly where the row
has them, relative to the state changes on the vring object.

For `set_vring_kick` the model keeps the rule of the pinned tree (`St.old = true`, F-C11-rekick): that variant is the row
*without* the call of `unregister_vring_kick` and with an empty `else` branch (`pinned`).
-/
namespace Lemmas.HandlerRing
open Base Model.RingReg
open Model.HandlerTable (cond val row threadLoop updateRegBody unregisterKickBody initializeVringBody)
open Spec.RingAutomaton (Evt Msg upd)
open HandlerVring (row_set_vring_kick row_set_vring_call row_set_vring_enable row_get_vring_base)
open HandlerTable (row_set_features row_reset_device)
open Lemmas.RingReg (closeFd_same updateReg_same replaceKick_same upd_same)

local notation "tUpdateReg" => Model.HandlerTable.updateReg
local notation "tInitializeVring" => Model.HandlerTable.initializeVring
local notation "tNeedsInit" => Model.HandlerTable.needsInit

/-- the pinned rule of `set_vring_kick` as an edit of the row -/
theorem pinned_row : pinned (row "set_vring_kick") = [
    .indexBound "InvalidParam",
    .vringCall "set_kick" ["file"],
    .ifCond tNeedsInit [tInitializeVring] [],
    .ok] := by
  rw [row_set_vring_kick]; simp [pinned]

/-- the reply owed for the handler's result of a request that is acknowledged -/
def ackReply (p : St × HRes) : St × Reply :=
  match p.2 with
  | .err => ({ p.1 with conn := false }, .fail)
  | _ => (p.1, .ok)

/-- … and of GET_VRING_BASE, which is answered with the handler's value (an error ends the connection without one) -/
def baseReply (p : St × HRes) : St × Reply :=
  match p.2 with
  | .base r v => (p.1, .base r v)
  | _ => ({ p.1 with conn := false }, .closed)

/-- the descriptor a message carries -/
def carried (s : St) (fd : Bool) : Option Evt := if fd then some s.next else none
def received (s : St) (fd : Bool) : St := if fd then alloc s else s

theorem received_n (s : St) (fd : Bool) : (received s fd).n = s.n := by cases fd <;> rfl
theorem received_old (s : St) (fd : Bool) : (received s fd).old = s.old := by cases fd <;> rfl

/-- the two definitions, used from right to left to fold what `setVringKick` / `setVringCall` spell out -/
theorem received_carried (s : St) (fd : Bool) :
    received s fd = (if fd then alloc s else s) ∧ carried s fd = (if fd then some s.next else none) := ⟨rfl, rfl⟩

/-- the part the two rules of `set_vring_kick` share: `vring.set_kick(file)` (the previous descriptor is dropped), then
`initialize_vring` if the ring needs it and `els` if not, then `Ok(())` -/
theorem run_setKick (st : St) (r : Nat) (x : HIn) (file fd : Option Evt) (els : List HEvent) (f : St → St)
    (hels : ∀ st, evsR els ⟨st, r, x, file, fd, .run⟩ = ⟨f st, r, x, file, fd, .run⟩) :
    resultR (evsR [.vringCall "set_kick" ["file"], .ifCond tNeedsInit [tInitializeVring] els, .ok]
      ⟨st, r, x, file, fd, .run⟩) =
      let s2 := setRing st r { st.ring r with kick := file }
      let s3 := match (st.ring r).kick with
                | some k => closeFd s2 k
                | none => s2
      (if needsInit s3 r then initializeVring s3 r else f s3, .ok) := by
  rw [evsR_vringCall]
  simp only [vringCallR, String.reduceEq, if_true, if_false, fdArg]
  rw [evsR_needsInit _ _ _ _ _ _ _ _ (hels _), run_ok]
  rfl

/-- the handler's method under either rule: the index check, then `installKick`.  The repaired rule (`old = false`) runs
`unregister_vring_kick` first and `update_vring_registration` in the `else` branch; the pinned rule has neither. -/
theorem handle_setVringKick (s0 : St) (r : Nat) (new : Option Evt) :
    handleEvs (if s0.old then pinned (row "set_vring_kick") else row "set_vring_kick") s0 r {} new =
      if r < s0.n then (installKick s0 r new, .ok) else (s0, .err) := by
  have h3 : (replaceKick s0 r new).old = s0.old := (replaceKick_same s0 r new).old
  simp only [installKick, h3]
  cases hold : s0.old
  · rw [if_neg Bool.false_ne_true, handleEvs, row_set_vring_kick, startR, run_indexBound, evsR_unregister,
      run_setKick _ _ _ _ _ _ (updateReg · r) (fun _ => evsR_updateReg ..)]
    -- `epollDel` leaves the rings alone: the descriptor dropped is the one unregistered
    cases hk : (s0.ring r).kick <;> simp [replaceKick, hold, hk, epollDel]
  · rw [if_pos rfl, handleEvs, pinned_row, startR, run_indexBound, run_setKick _ _ _ _ _ _ id (fun _ => rfl)]
    simp only [replaceKick, hold, if_true]
    rfl

/-- under either rule (`St.old`); `pinned` is the rule of the pinned tree -/
theorem setVringKick_is_row (s : St) (r : Nat) (fd : Bool) :
    setVringKick s r fd =
      ackReply (handleEvs (if s.old then pinned (row "set_vring_kick") else row "set_vring_kick")
        (received s fd) r {} (carried s fd)) := by
  rw [← received_old s fd, handle_setVringKick]
  simp only [setVringKick, ← (received_carried s fd).1, ← (received_carried s fd).2, ackReply]
  split <;> rfl

theorem setVringCall_is_row (s : St) (r : Nat) (fd : Bool) :
    setVringCall s r fd = ackReply (handle "set_vring_call" (received s fd) r {} (carried s fd)) := by
  rw [handle, handleEvs, row_set_vring_call, startR, run_indexBound, evsR_vringCall]
  simp only [setVringCall, ← (received_carried s fd).1, ← (received_carried s fd).2]
  generalize received s fd = s0
  generalize carried s fd = new
  by_cases hr : r < s0.n
  · simp only [hr, if_true, vringCallR, String.reduceEq, if_false, fdArg]
    rw [evsR_needsInit _ _ _ _ _ _ _ _ rfl, run_ok]
    split <;> simp_all [ackReply]
  · simp only [hr, if_false, ackReply]

/-- the crate's own check of its copy of the feature word first (outside the handler), then the
row: handler's feature check, index, `set_enabled`, `update_vring_registration` — in this order -/
theorem setVringEnable_is_row (s : St) (r : Nat) (on : Bool) :
    setVringEnable s r on =
      if !s.ackedC then ({ s with conn := false }, .closed)
      else ackReply (handle "set_vring_enable" s r { enable := on } none) := by
  rw [handle, handleEvs, row_set_vring_enable, startR, run_checkFeature, run_indexBound, evsR_vringCall]
  simp only [vringCallR, String.reduceEq, if_true, evsR_updateReg, run_ok, cond_enable, sync, setVringEnable, setEnabled]
  cases hC : s.ackedC <;> cases hH : s.ackedH <;> by_cases hr : r < s.n <;> simp [ackReply, hr, hC, hH]

theorem closeFd_setRing (s : St) (r : Nat) (v : VRing) (k : Evt) :
    setRing (closeFd s k) r v = closeFd (setRing s r v) k := by
  unfold closeFd
  have : (setRing s r v).peerOpen = s.peerOpen := rfl
  rw [this]
  split <;> rfl

theorem closeFd_ring (s : St) (k : Evt) : (closeFd s k).ring = s.ring := (closeFd_same s k).ring

theorem setRing_ring_self (s : St) (r : Nat) (a : VRing) : (setRing s r a).ring r = a := upd_same ..

/-- not ready, registration updated, *then* both descriptors dropped -/
theorem getVringBase_is_row (s : St) (r : Nat) :
    getVringBase s r = baseReply (handle "get_vring_base" s r {} none) := by
  rw [handle, handleEvs, row_get_vring_base, startR, run_indexBound, evsR_vringCall]
  by_cases hr : r < s.n
  · simp only [hr, if_true, vringCallR, String.reduceEq, if_false, HandlerVring.cond_false, evsR_updateReg, getVringBase,
      stopRing]
    have hb : (updateReg (setRing s r { s.ring r with ready := false }) r).base r = s.base r := by
      rw [(updateReg_same _ r).base]; rfl
    generalize updateReg (setRing s r { s.ring r with ready := false }) r = s1 at hb ⊢
    rw [evsR_step (s1 := ⟨s1, r, { next_avail := s1.base r }, none, none, .run⟩) (by simp [evR, actR]) rfl,
      evsR_vringCall]
    simp only [vringCallR, String.reduceEq, if_true, if_false, fdArg, evsR_vringCall, run_okValue, baseReply, hb]
    cases hk : (s1.ring r).kick with
    | none =>
      simp only [setRing_ring_self, Lemmas.RingReg.setRing_setRing]
    | some k =>
      simp only [closeFd_ring, setRing_ring_self, closeFd_setRing, Lemmas.RingReg.setRing_setRing]
  · simp only [hr, if_false, getVringBase, baseReply]

/-- the crate's copy of the word is updated outside the handler; the row sets the handler's, and enables
and re-registers every ring when bit 30 is absent -/
theorem setFeatures_is_row (s : St) (proto : Bool) :
    setFeatures s proto =
      ackReply (handle "set_features" { s with ackedC := proto } 0 { features := if proto then 0x40000000 else 0 } none) := by
  rw [handle, handleEvs, row_set_features, startR]
  have hc : "self.acked_features & VhostUserVirtioFeatures::PROTOCOL_FEATURES.bits() == 0" ≠ ownsRing := by simp [ownsRing]
  have hl := fun s => evsR_forEachVring_noop [.vringCall "set_queue_event_idx" ["event_idx"]]
    (by intro t ht; simp [evsR, evR, actR, vringCallR, ht]) s
  cases proto <;>
    simp [evsR_act, actR, evsR_ifCond1 _ _ _ _ _ _ _ _ hc, cond_subset, cond_noProto, sync, val_features,
      evsR_setAll _ _ _ HandlerVring.cond_true, hl, evsR_bind, evsR_backendCall, run_ok, ackReply, setFeatures,
      (by decide : Nat.testBit 1073741824 30 = true)]

/-- every ring disabled and re-registered, then the handler's feature word cleared -/
theorem resetDevice_is_row (s : St) : resetDevice s = ackReply (handle "reset_device" s 0 {} none) := by
  rw [handle, handleEvs, row_reset_device, startR, evsR_setAll _ _ _ HandlerVring.cond_false _ rfl]
  simp [evsR_act, actR, val_zero, evsR_backendCall, run_ok, ackReply, resetDevice]

/-! ## `control` -/

/-- with the connection open, every control message is its row of the table, wrapped in what lies outside the handler.
Only SET_VRING_KICK depends on the rule in force (`St.old`): on the pinned tree it is its row without the two calls the
repair added. -/
theorem control_rows (s : St) (hc : s.conn = true) :
    (∀ r fd, control s (.setKick r fd) =
      ackReply (handleEvs (if s.old then pinned (row "set_vring_kick") else row "set_vring_kick")
        (received s fd) r {} (carried s fd))) ∧
    (∀ r fd, control s (.setCall r fd) = ackReply (handle "set_vring_call" (received s fd) r {} (carried s fd))) ∧
    (∀ r on, control s (.setEnable r on) =
      if !s.ackedC then ({ s with conn := false }, .closed)
      else ackReply (handle "set_vring_enable" s r { enable := on } none)) ∧
    (∀ r, control s (.getBase r) = baseReply (handle "get_vring_base" s r {} none)) ∧
    (∀ proto, control s (.setFeatures proto) =
      ackReply (handle "set_features" { s with ackedC := proto } 0 { features := if proto then 0x40000000 else 0 } none)) ∧
    control s .reset = ackReply (handle "reset_device" s 0 {} none) := by
  refine ⟨?_, ?_, ?_, ?_, ?_, ?_⟩
  · intro r fd; rw [← setVringKick_is_row s r fd]; simp [Model.RingReg.control, isControl, hc]
  · intro r fd; rw [← setVringCall_is_row s r fd]; simp [Model.RingReg.control, isControl, hc]
  · intro r on; rw [← setVringEnable_is_row s r on]; simp [Model.RingReg.control, isControl, hc]
  · intro r; rw [← getVringBase_is_row s r]; simp [Model.RingReg.control, isControl, hc]
  · intro proto; rw [← setFeatures_is_row s proto]; simp [Model.RingReg.control, isControl, hc]
  · rw [← resetDevice_is_row s]; simp [Model.RingReg.control, isControl, hc]

end Lemmas.HandlerRing
