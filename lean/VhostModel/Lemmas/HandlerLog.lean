import VhostModel.Model.Bitmap
import VhostModel.Lemmas.HandlerTable
/-!
# Reading the handler's rows in `Model.Bitmap` (C15)

`evsL` interprets the rows of `set_log_base`, `set_mem_table`, `add_mem_region`, `remove_mem_region` on the handler state of
`Model.Bitmap` (`HState`: the regions of the table with their bitmaps, `self.logmem`), event by event:

* `libTry "InnerBitmap::new"` is `AtomicBitmapMmap.new` for the region at hand on the log at hand, `bitmapReplace` installs
  the bitmap built last in that region (a region of the table inside the two loops of `set_log_base`, the region being
  created inside `log_region`), `logAssign` remembers the log;
* the helper `log_region` is run through its own events: `if let Some(logmem) = self.logmem.as_ref()` reads `HState.logmem`;
* `libTry "GuestMemoryMmap::from_regions" / "insert_region" / "remove_region"` are the table-shape rules of the model
  (`tableOk`, `insertSorted`, exact `(base, size)` match), `memReplace` installs the new table;
* not this model's: `mmap_region`, `GuestRegionMmap::new`, `MmapLogReg::from_file` never fail here (the model starts
  "after the mapping succeeded"); `mappings*`, `update_memory` are `Model.MemTable`'s.

`dropLogRegion` removes the calls of `log_region` from a row: what is left is the handler of the unrepaired tree
(`setMemTableOld`, `addMemRegOld`).
-/
namespace Lemmas.HandlerLog
open Base Model.Bitmap Model.HandlerTable
open HandlerTable (tableBody buildBody)

inductive Flow where
  | run
  | ret (ok : Bool)
  deriving DecidableEq

structure LS where
  st : HState
  /-- SET_LOG_BASE: length of the mapping made by `MmapLogReg::from_file` -/
  logLen : Nat
  /-- SET_MEM_TABLE: `ctx.iter().zip(files)` as (guest address, size) -/
  regs : List (Nat × Nat)
  /-- `region`: the argument of ADD_MEM_REG / REM_MEM_REG, the loop variable of SET_MEM_TABLE -/
  arg : Nat × Nat
  /-- `mem` of `set_log_base`: the snapshot of the table -/
  snapshot : List Reg
  /-- the region at hand is a region of the table, at this position (the loops of `set_log_base`) -/
  inTable : Bool
  idx : Nat
  /-- `guest_region` / `region` -/
  cur : Option Reg
  /-- `bitmap` -/
  bm : Option AtomicBitmapMmap
  /-- `logmem`: identity and length of the log at hand -/
  log : Option (Nat × Nat)
  /-- the locals `regions`, `bitmaps`, `mem` -/
  built : List Reg
  bitmaps : List AtomicBitmapMmap
  mem : Option (List Reg)
  flow : Flow

def fail (s : LS) : LS := { s with flow := .ret false }

def geom (rs : List Reg) : List (Nat × Nat) := rs.map fun x => (x.start, x.len)

def libTryL (s : LS) (w : String) : LS :=
  if w = "MmapLogReg::from_file" then { s with log := some (s.st.nextLog, s.logLen) }
  else if w = "GuestRegionMmap::new" then { s with cur := some { start := s.arg.1, len := s.arg.2, bitmap := none } }
  else if w = "InnerBitmap::new" then
    (match s.cur, s.log with
     | some r, some (_, len) =>
       (match AtomicBitmapMmap.new r.start r.len len with
        | none => fail s
        | some bm => { s with bm := some bm })
     | _, _ => s)
  else if w = "GuestMemoryMmap::from_regions" then
    (if tableOk (geom s.built) then { s with mem := some s.built } else fail s)
  else if w = "insert_region" then
    (match s.cur with
     | none => s
     | some r =>
       if tableOk (geom (insertSorted r s.st.regions)) then { s with mem := some (insertSorted r s.st.regions) } else fail s)
  else if w = "remove_region" then
    (if s.st.regions.any (fun r => r.start == s.arg.1 && r.len == s.arg.2) then
       { s with mem := some (s.st.regions.filter (fun r => !(r.start == s.arg.1 && r.len == s.arg.2))) }
     else fail s)
  else s

def setBitmap (id : Nat) (bm : AtomicBitmapMmap) (r : Reg) : Reg := { r with bitmap := some (id, bm) }

def actL (a : HAct) (s : LS) : LS :=
  match a with
  | .bind n _ => if n = "mem" then { s with snapshot := s.st.regions } else s
  | .libTry w _ => libTryL s w
  | .localNew n =>
    if n = "bitmaps" then { s with bitmaps := [] } else if n = "regions" then { s with built := [] } else s
  | .localPush n _ =>
    if n = "bitmaps" then
      (match s.bm with
       | some bm => { s with bitmaps := s.bitmaps ++ [bm] }
       | none => s)
    else if n = "regions" then
      (match s.cur with
       | some r => { s with built := s.built ++ [r] }
       | none => s)
    else s
  | .bitmapReplace =>
    (match s.bm, s.log with
     | some bm, some (id, _) =>
       if s.inTable then { s with st := { s.st with regions := s.st.regions.modify s.idx (setBitmap id bm) } }
       else { s with cur := s.cur.map (setBitmap id bm) }
     | _, _ => s)
  | .logAssign =>
    (match s.log with
     | some l => { s with st := { s.st with logmem := some l, nextLog := s.st.nextLog + 1 } }
     | none => s)
  | .memReplace =>
    (match s.mem with
     | some m => { s with st := { s.st with regions := m } }
     | none => s)
  | .ok => { s with flow := .ret true }
  | .err _ => fail s
  | _ => s

/-- back in the caller -/
def afterCall (p : Bool) (s : LS) : LS :=
  match s.flow with
  | .ret false => if p then s else { s with flow := .run }
  | _ => { s with flow := .run }

def memLoop : String := "ctx.iter().zip(files)"

mutual
def evL : HEvent → LS → LS
  | .act a, s => actL a s
  | .helperCall _ _ p body, s => afterCall p (evsL body s)
  | .forEach c body, s =>
    if c = memLoop then
      s.regs.foldl (fun s a => match s.flow with
        | .run => evsL body { s with arg := a }
        | _ => s) s
    else if c = "mem.iter()" then
      s.snapshot.foldl (fun s r => match s.flow with
        | .run => evsL body { s with cur := some r, inTable := true }
        | _ => s) s
    else if c = "bitmaps" then
      s.bitmaps.foldl (fun s bm => match s.flow with
        | .run => let s' := evsL body { s with bm := some bm, inTable := true }
                  { s' with idx := s'.idx + 1 }
        | _ => s) { s with idx := 0 }
    else s
  | .forEachVring _, s => s
  | .ifCond _ _ _, s => s
  | .ifSome w t f, s =>
    if w = "self.logmem.as_ref()" then
      (match s.st.logmem with
       | some l => evsL t { s with log := some l }
       | none => evsL f s)
    else s
def evsL : List HEvent → LS → LS
  | [], s => s
  | e :: es, s =>
    match (evL e s).flow with
    | .run => evsL es (evL e s)
    | _ => evL e s
end

def startL (st : HState) (logLen : Nat) (regs : List (Nat × Nat)) (arg : Nat × Nat) : LS :=
  ⟨st, logLen, regs, arg, [], false, 0, none, none, none, [], [], none, .run⟩

def resultL (s : LS) : Option HState :=
  match s.flow with
  | .ret false => none
  | _ => some s.st

def runEvs (evs : List HEvent) (st : HState) (logLen : Nat) (regs : List (Nat × Nat)) (arg : Nat × Nat) : Option HState :=
  resultL (evsL evs (startL st logLen regs arg))

def runRow (name : String) (st : HState) (logLen : Nat) (regs : List (Nat × Nat)) (arg : Nat × Nat) : Option HState :=
  runEvs (row name) st logLen regs arg

mutual
/-- the row without the calls of `log_region` (at any depth) -/
def dropLogRegion : HEvent → List HEvent
  | .act a => [.act a]
  | .helperCall n a p b => if n = "log_region" then [] else [.helperCall n a p (dropLogRegions b)]
  | .forEachVring b => [.forEachVring (dropLogRegions b)]
  | .forEach c b => [.forEach c (dropLogRegions b)]
  | .ifCond c t f => [.ifCond c (dropLogRegions t) (dropLogRegions f)]
  | .ifSome c t f => [.ifSome c (dropLogRegions t) (dropLogRegions f)]
def dropLogRegions : List HEvent → List HEvent
  | [] => []
  | e :: es => dropLogRegion e ++ dropLogRegions es
end

theorem evsL_step {e : HEvent} {es : List HEvent} {s s1 : LS} (h : evL e s = s1) (hrun : s1.flow = .run) :
    evsL (e :: es) s = evsL es s1 := by
  simp only [evsL, h, hrun]

theorem evsL_stop {e : HEvent} {es : List HEvent} {s s1 : LS} (b : Bool) (h : evL e s = s1) (hret : s1.flow = .ret b) :
    evsL (e :: es) s = s1 := by
  simp only [evsL, h, hret]

/-! ## `log_region` -/

/-- `log_region`, event by event, is `Model.Bitmap.logRegion` applied to the region being created -/
theorem evL_logRegion (s : LS) (hs : s.flow = .run) (r : Reg) (hc : s.cur = some r) (hb : r.bitmap = none)
    (ht : s.inTable = false) :
    match Model.Bitmap.logRegion s.st r.start r.len with
    | none => (evL Model.HandlerTable.logRegion s).flow = .ret false ∧ (evL Model.HandlerTable.logRegion s).st = s.st
    | some r' => ∃ b l, evL Model.HandlerTable.logRegion s = { s with cur := some r', bm := b, log := l } := by
  obtain ⟨st, logLen, regs, arg, snapshot, inTable, idx, cur, bm, log, built, bitmaps, mem, flow⟩ := s
  simp only at hs hc ht; subst hs hc ht
  obtain ⟨start, len, bitmap⟩ := r
  simp only at hb; subst hb
  unfold Model.Bitmap.logRegion
  cases hl : st.logmem with
  | none =>
    simp only
    exact ⟨bm, log, by simp [Model.HandlerTable.logRegion, logRegionBody, evL, evsL, actL, hl, afterCall]⟩
  | some l =>
    obtain ⟨id, ll⟩ := l
    simp only
    cases hn : AtomicBitmapMmap.new start len ll with
    | none =>
      simp [Model.HandlerTable.logRegion, logRegionBody, evL, evsL, actL, libTryL, hl, hn, afterCall, fail]
    | some b =>
      simp only
      exact ⟨some b, some (id, ll), by
        simp [Model.HandlerTable.logRegion, logRegionBody, evL, evsL, actL, libTryL, hl, hn, afterCall, setBitmap]⟩

theorem logRegion_geom {s : HState} {a l : Nat} {r : Reg} (h : Model.Bitmap.logRegion s a l = some r) :
    r.start = a ∧ r.len = l := by
  unfold Model.Bitmap.logRegion at h
  cases hl : s.logmem with
  | none => rw [hl] at h; simp at h; subst h; exact ⟨rfl, rfl⟩
  | some p =>
    obtain ⟨id, ll⟩ := p
    rw [hl] at h; simp only at h
    cases hn : AtomicBitmapMmap.new a l ll with
    | none => rw [hn] at h; cases h
    | some b => rw [hn] at h; simp at h; subst h; exact ⟨rfl, rfl⟩

theorem mapOpt_geom {s : HState} (regs : List (Nat × Nat)) (rs : List Reg)
    (h : mapOpt (fun (a, l) => Model.Bitmap.logRegion s a l) regs = some rs) : geom rs = regs := by
  induction regs generalizing rs with
  | nil => simp [mapOpt] at h; subst h; rfl
  | cons p regs ih =>
    obtain ⟨a, l⟩ := p
    unfold mapOpt at h
    cases hf : Model.Bitmap.logRegion s a l with
    | none => simp [hf] at h
    | some r =>
      simp only [hf] at h
      cases hm : mapOpt (fun (a, l) => Model.Bitmap.logRegion s a l) regs with
      | none => simp [hm] at h
      | some bs =>
        simp [hm] at h; subst h
        obtain ⟨h1, h2⟩ := logRegion_geom hf
        simp [geom, h1, h2]
        exact ih bs hm

abbrev loopL {α : Type} (f : LS → α → LS) (xs : List α) (s : LS) : LS :=
  xs.foldl (fun s a => match s.flow with
    | .run => f s a
    | _ => s) s

theorem loopL_cons {α : Type} (f : LS → α → LS) (x : α) (xs : List α) (s : LS) (hs : s.flow = .run) :
    loopL f (x :: xs) s = loopL f xs (f s x) := by
  simp only [loopL, List.foldl_cons, hs]

theorem loopL_stuck {α : Type} (f : LS → α → LS) (xs : List α) (s : LS) (b : Bool) (h : s.flow = .ret b) :
    loopL f xs s = s := by
  induction xs with
  | nil => rfl
  | cons r rs ih => simp only [loopL, List.foldl_cons, h] at ih ⊢; exact ih

/-! ## the loop of `set_mem_table` -/

theorem tableBody_step (t : LS) (ht : t.flow = .run) (hin : t.inTable = false) :
    match Model.Bitmap.logRegion t.st t.arg.1 t.arg.2 with
    | none => (evsL tableBody t).flow = .ret false
    | some r' => ∃ c b l, evsL tableBody t = { t with built := t.built ++ [r'], cur := c, bm := b, log := l } := by
  unfold tableBody
  rw [evsL_step (s1 := t) (by simp [evL, actL, libTryL]) ht]
  rw [evsL_step (s1 := { t with cur := some { start := t.arg.1, len := t.arg.2, bitmap := none } })
    (by simp [evL, actL, libTryL]) ht]
  have h := evL_logRegion { t with cur := some { start := t.arg.1, len := t.arg.2, bitmap := none } } ht _ rfl rfl hin
  cases hl : Model.Bitmap.logRegion t.st t.arg.1 t.arg.2 with
  | none =>
    simp only [hl] at h ⊢
    rw [evsL_stop false rfl h.1]
    exact h.1
  | some r' =>
    simp only [hl] at h ⊢
    obtain ⟨b, l, h⟩ := h
    rw [evsL_step h ht]
    exact ⟨some r', b, l, by simp [evsL, evL, actL, ht]⟩

theorem loop_mapOpt (regs : List (Nat × Nat)) (s : LS) (hs : s.flow = .run) (hin : s.inTable = false) :
    match mapOpt (fun (a, l) => Model.Bitmap.logRegion s.st a l) regs with
    | none => (loopL (fun s a => evsL tableBody { s with arg := a }) regs s).flow = .ret false
    | some rs => ∃ c b l a, loopL (fun s a => evsL tableBody { s with arg := a }) regs s =
        { s with built := s.built ++ rs, cur := c, bm := b, log := l, arg := a } := by
  induction regs generalizing s with
  | nil => exact ⟨s.cur, s.bm, s.log, s.arg, by simp [loopL]⟩
  | cons p regs ih =>
    have hb := tableBody_step { s with arg := p } hs hin
    rw [loopL_cons _ _ _ _ hs]
    simp only [mapOpt]
    cases hl : Model.Bitmap.logRegion s.st p.1 p.2 with
    | none =>
      simp only [hl] at hb ⊢
      rw [loopL_stuck _ _ _ false hb]
      exact hb
    | some r' =>
      simp only [hl] at hb ⊢
      obtain ⟨c, b, l', hb⟩ := hb
      rw [hb]
      have := ih { s with arg := p, built := s.built ++ [r'], cur := c, bm := b, log := l' } hs hin
      cases hm : mapOpt (fun (a, l) => Model.Bitmap.logRegion s.st a l) regs with
      | none => simp only [hm] at this ⊢; exact this
      | some rs =>
        simp only [hm] at this ⊢
        obtain ⟨c', b', l'', a', h⟩ := this
        exact ⟨c', b', l'', a', by rw [h]; simp [List.append_assoc]⟩

theorem evL_tableLoop (s : LS) (hs : s.flow = .run) (hin : s.inTable = false) :
    match mapOpt (fun (a, l) => Model.Bitmap.logRegion s.st a l) s.regs with
    | none => (evL (.forEach "ctx.iter().zip(files)" tableBody) s).flow = .ret false
    | some rs => ∃ c b l a, evL (.forEach "ctx.iter().zip(files)" tableBody) s =
        { s with built := s.built ++ rs, cur := c, bm := b, log := l, arg := a } := by
  simp only [evL, memLoop, if_true]
  exact loop_mapOpt s.regs s hs hin

/-! ## the same loop without `log_region` (the unrepaired tree) -/

def tableBodyOld : List HEvent := [
  .libTry "mmap_region" "*", .libTry "GuestRegionMmap::new" "ReqHandlerError",
  .localPush "mappings" addrMappingLit, .localPush "regions" "guest_region"]

def plain (p : Nat × Nat) : Reg := { start := p.1, len := p.2, bitmap := none }

theorem loop_old (regs : List (Nat × Nat)) (s : LS) (hs : s.flow = .run) :
    ∃ c a, loopL (fun s a => evsL tableBodyOld { s with arg := a }) regs s =
      { s with built := s.built ++ regs.map plain, cur := c, arg := a } := by
  induction regs generalizing s with
  | nil => exact ⟨s.cur, s.arg, by simp [loopL]⟩
  | cons p regs ih =>
    have e : evsL tableBodyOld { s with arg := p } =
        { s with arg := p, cur := some (plain p), built := s.built ++ [plain p] } := by
      simp [tableBodyOld, evsL, evL, actL, libTryL, plain, hs]
    rw [loopL_cons _ _ _ _ hs, e]
    obtain ⟨c, a, h⟩ := ih { s with arg := p, cur := some (plain p), built := s.built ++ [plain p] } hs
    exact ⟨c, a, by rw [h]; simp [List.append_assoc]⟩

theorem evL_tableLoopOld (s : LS) (hs : s.flow = .run) :
    ∃ c a, evL (.forEach "ctx.iter().zip(files)" tableBodyOld) s =
      { s with built := s.built ++ s.regs.map plain, cur := c, arg := a } := by
  simp only [evL, memLoop, if_true]
  exact loop_old s.regs s hs

/-! ## the two loops of `set_log_base` -/

theorem buildAll_length {len : Nat} {rs : List Reg} {bms : List AtomicBitmapMmap} (h : buildAll len rs = some bms) :
    bms.length = rs.length := by
  induction rs generalizing bms with
  | nil => simp [buildAll] at h; subst h; rfl
  | cons r rs ih =>
    unfold buildAll at h
    cases hn : AtomicBitmapMmap.new r.start r.len len with
    | none => simp [hn] at h
    | some bm =>
      simp only [hn] at h
      cases hb : buildAll len rs with
      | none => simp [hb] at h
      | some bms' => simp [hb] at h; subst h; simp [ih hb]

/-- first loop: all bitmaps are built (nothing is replaced yet), or the request fails -/
theorem loop_buildAll (rs : List Reg) (s : LS) (hs : s.flow = .run) (id len : Nat) (hl : s.log = some (id, len)) :
    match buildAll len rs with
    | none => (loopL (fun s r => evsL buildBody { s with cur := some r, inTable := true }) rs s).flow = .ret false
    | some bms => ∃ c b t, loopL (fun s r => evsL buildBody { s with cur := some r, inTable := true }) rs s =
        { s with bitmaps := s.bitmaps ++ bms, cur := c, bm := b, inTable := t } := by
  induction rs generalizing s with
  | nil => exact ⟨s.cur, s.bm, s.inTable, by simp [loopL]⟩
  | cons r rs ih =>
    rw [loopL_cons _ _ _ _ hs]
    simp only [buildAll]
    cases hn : AtomicBitmapMmap.new r.start r.len len with
    | none =>
      have e : (evsL buildBody { s with cur := some r, inTable := true }).flow = .ret false := by
        simp [buildBody, evsL, evL, actL, libTryL, hl, hn, fail]
      simp only
      rw [loopL_stuck _ _ _ false e]
      exact e
    | some b =>
      have e : evsL buildBody { s with cur := some r, inTable := true } =
          { s with cur := some r, inTable := true, bm := some b, bitmaps := s.bitmaps ++ [b] } := by
        simp [buildBody, evsL, evL, actL, libTryL, hl, hn, hs]
      rw [e]
      have := ih { s with cur := some r, inTable := true, bm := some b, bitmaps := s.bitmaps ++ [b] } hs hl
      cases hb : buildAll len rs with
      | none => simp only [hb] at this ⊢; exact this
      | some bms =>
        simp only [hb] at this ⊢
        obtain ⟨c, b', t, h⟩ := this
        exact ⟨c, b', t, by rw [h]; simp [List.append_assoc]⟩

theorem evL_buildLoop (s : LS) (hs : s.flow = .run) (id len : Nat) (hl : s.log = some (id, len)) :
    match buildAll len s.snapshot with
    | none => (evL (.forEach "mem.iter()" buildBody) s).flow = .ret false
    | some bms =>
      ∃ c b t, evL (.forEach "mem.iter()" buildBody) s = { s with bitmaps := s.bitmaps ++ bms, cur := c, bm := b, inTable := t } := by
  simp only [evL, memLoop, String.reduceEq, if_true, if_false]
  exact loop_buildAll s.snapshot s hs id len hl

theorem modify_append_length {α : Type} (pre : List α) (x : α) (rest : List α) (f : α → α) :
    (pre ++ x :: rest).modify pre.length f = pre ++ f x :: rest := by
  induction pre with
  | nil => rfl
  | cons p pre ih => simp [ih]

/-- second loop: the `k`-th bitmap replaces the bitmap of the `k`-th region of the table -/
theorem loop_replace (bms : List AtomicBitmapMmap) (s : LS) (hs : s.flow = .run) (id len : Nat) (hl : s.log = some (id, len))
    (pre rest : List Reg) (hr : s.st.regions = pre ++ rest) (hi : s.idx = pre.length) (hlen : bms.length ≤ rest.length) :
    ∃ b t, loopL (fun s bm => (fun s' : LS => { s' with idx := s'.idx + 1 })
        (evsL [.bitmapReplace] { s with bm := some bm, inTable := true })) bms s =
      { s with st := { s.st with regions := pre ++ (rest.zip bms).map (fun (r, bm) => setBitmap id bm r) ++ rest.drop bms.length },
               idx := pre.length + bms.length, bm := b, inTable := t } := by
  induction bms generalizing s pre rest with
  | nil => exact ⟨s.bm, s.inTable, by simp [loopL, ← hr, ← hi]⟩
  | cons bm bms ih =>
    cases rest with
    | nil => simp at hlen
    | cons x rest =>
      have e : evsL [.bitmapReplace] { s with bm := some bm, inTable := true } =
          { s with bm := some bm, inTable := true, st := { s.st with regions := pre ++ setBitmap id bm x :: rest } } := by
        simp [evsL, evL, actL, hl, hr, hi, hs, modify_append_length]
      rw [loopL_cons _ _ _ _ hs, e]
      obtain ⟨b, t, h⟩ := ih
        { s with st := { s.st with regions := pre ++ setBitmap id bm x :: rest }, bm := some bm, inTable := true, idx := s.idx + 1 }
        hs hl (pre ++ [setBitmap id bm x]) rest (by simp) (by simp [hi]) (by simp at hlen; omega)
      exact ⟨b, t, by rw [h]; simp [List.append_assoc, Nat.add_assoc, Nat.add_comm 1]⟩

theorem evL_replaceLoop (s : LS) (hs : s.flow = .run) (id len : Nat) (hl : s.log = some (id, len))
    (hlen : s.bitmaps.length = s.st.regions.length) :
    ∃ b t i, evL (.forEach "bitmaps" [.bitmapReplace]) s =
      { s with st := { s.st with regions := (s.st.regions.zip s.bitmaps).map (fun (r, bm) => setBitmap id bm r) },
               idx := i, bm := b, inTable := t } := by
  have h := loop_replace s.bitmaps { s with idx := 0 } hs id len hl [] s.st.regions rfl rfl (by rw [hlen]; exact Nat.le_refl _)
  obtain ⟨b, t, h⟩ := h
  refine ⟨b, t, 0 + s.bitmaps.length, ?_⟩
  simp only [evL, memLoop, String.reduceEq, if_true, if_false]
  refine h.trans ?_
  simp [hlen]

end Lemmas.HandlerLog
