import VhostModel.Lemmas.Owed
/-!
# Decoding lemmas: a body on which the generated validator gives a verdict has the size of its type (`bodyValid_len`)
-/
namespace Lemmas.Decode
open Base Model.Msgs Model.BackendSrv Lemmas.BackendSrv Lemmas.Owed Lemmas.Layouts
export Lemmas.Owed (g_take)

theorem leVal_take_lt (bs : Bytes) (w : Nat) : leVal (bs.take w) < 256 ^ w := by
  have h := leVal_lt (bs.take w)
  have : (bs.take w).length ≤ w := by simp [List.length_take]; omega
  exact Nat.lt_of_lt_of_le h (Nat.pow_le_pow_right (by omega) this)

/-- a decoder `do if bs.length ≠ (← structSize s) then none; k` that succeeds saw exactly `structSize s` bytes -/
theorem structSize_of_decoded {α : Type} {bs : Bytes} {s : String} {k : Unit → Option α} {m : α}
    (h : ((structSize s).bind fun n => if bs.length ≠ n then (none : Option Unit).bind k else k ()) = some m) :
    structSize s = some bs.length := by
  cases hs : structSize s with
  | none => rw [hs] at h; cases h
  | some n =>
    rw [hs, Option.bind_some] at h
    by_cases hn : bs.length = n
    · rw [hn]
    · rw [if_pos hn] at h; cases h

theorem bodyValid_len {ty : String} {bs : Bytes} {b : Bool} (h : bodyValid ty bs = some b) :
    structSize ty = some bs.length := by
  unfold bodyValid at h
  split at h
  all_goals first | cases h | skip
  all_goals
    obtain ⟨m, hm, -⟩ := Option.map_eq_some_iff.1 h
    simp only [decU64, decVringState, decVringAddr, decShared, decInflight, decSingle, decTransfer, decLog, decConfig,
      decMemory, decRegion] at hm
    exact structSize_of_decoded hm

variable {bs : Bytes}

theorem body_u64 (h : bodyValid "VhostUserU64" bs = some true) : bs.length = 8 :=
  len_eq lay_u64.1 (bodyValid_len h)

theorem body_vringState (h : bodyValid "VhostUserVringState" bs = some true) : bs.length = 8 :=
  len_eq lay_vstate.1 (bodyValid_len h)

end Lemmas.Decode
