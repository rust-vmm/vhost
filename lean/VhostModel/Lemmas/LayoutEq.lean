import VhostModel.Props.C01
import VhostModel.Model.Msgs
import VhostModel.Spec.Layout
/-!
# Bridge: field access through the specification's layout = field access through the generated layout

`Props.C01.layout_matches_spec` proves that the layout rustc gives each message struct equals the
specification's table.  From it: `Spec.getField bs s p = Model.Msgs.getField bs s p` for every struct of
the specification and *every* path (nested paths included).
-/
namespace Lemmas.LayoutEq
open Base

/-- layouts agree (restated with `Model.Msgs.layoutOf`) -/
theorem layoutOf_eq {s : String} (hs : s ∈ Props.C01.specStructs) : Model.Msgs.layoutOf s = Spec.layoutOf s :=
  Props.C01.layout_matches_spec s hs

/-- on every field that exists in a struct of the specification, both sides agree on which struct it nests,
and the nested struct is again one of the specification -/
theorem nested_agree : ∀ s ∈ Props.C01.specStructs, ∀ l, Spec.layoutOf s = some l → ∀ f ∈ l.fields.map (·.1),
    Spec.nestedOf s f = Model.Msgs.nestedOf s f ∧ (∀ n, Spec.nestedOf s f = some n → n ∈ Props.C01.specStructs) := by
  decide +kernel

theorem fieldAt_eq : ∀ (p : List String) (s : String), s ∈ Props.C01.specStructs →
    Spec.fieldAt Spec.layoutOf Spec.nestedOf s p = Model.Msgs.fieldAt s p := by
  intro p
  induction p with
  | nil => intro s _; simp [Spec.fieldAt, Model.Msgs.fieldAt]
  | cons f rest ih =>
    intro s hs
    cases rest with
    | nil => simp only [Spec.fieldAt, Model.Msgs.fieldAt, layoutOf_eq hs]
    | cons f2 rest2 =>
      simp only [Spec.fieldAt, Model.Msgs.fieldAt, layoutOf_eq hs]
      cases hl : Spec.layoutOf s with
      | none => simp
      | some l =>
        simp only [Option.bind_some]
        cases hf : l.fields.find? (·.1 == f) with
        | none => simp
        | some e =>
          have hmem : f ∈ l.fields.map (·.1) := by
            have h1 := List.mem_of_find?_eq_some hf
            have h2 := List.find?_some hf
            simp only [beq_iff_eq] at h2
            exact List.mem_map.2 ⟨e, h1, h2⟩
          obtain ⟨hn, hin⟩ := nested_agree s hs l hl f hmem
          simp only [Option.map_some]
          rw [← hn]
          cases hnn : Spec.nestedOf s f with
          | none => rfl
          | some inner =>
            simp only
            rw [ih inner (hin inner hnn)]

/-- **the bridge**: for every struct of the specification and every path -/
theorem getField_eq (bs : Bytes) {s : String} (hs : s ∈ Props.C01.specStructs) (p : List String) :
    Spec.getField bs s p = Model.Msgs.getField bs s p := by
  simp only [Spec.getField, Model.Msgs.getField, fieldAt_eq p s hs]
  cases Model.Msgs.fieldAt s p <;> rfl

end Lemmas.LayoutEq
