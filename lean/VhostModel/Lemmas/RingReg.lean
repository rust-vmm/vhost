import VhostModel.Model.RingReg
/-! Invariant of `Model.RingReg` (repaired rule) and what the worker's drain does under it (used by Props/C11).

Every request handler is a composition of `setRing` (which changes `ring` only) and the registration helpers (which
change `reg` only).  So each handler is described by one statement `SameBut (handler s ‥) (setRing s r v)` — "ring `r`
becomes `v`, up to registrations" — and the registrations are put right by `updateReg_regOk`. -/
namespace Lemmas.RingReg
open Model.RingReg
open Spec.RingAutomaton (Evt Msg upd)

@[simp] theorem upd_same {α : Type} (f : Nat → α) (i : Nat) (v : α) : upd f i v i = v := by simp [upd]
theorem upd_other {α : Type} (f : Nat → α) {i j : Nat} (v : α) (h : j ≠ i) : upd f i v j = f j := by simp [upd, h]
theorem upd_upd {α : Type} (f : Nat → α) (i : Nat) (v w : α) : upd (upd f i v) i w = upd f i w := by
  funext j; unfold upd; split <;> rfl
theorem upd_none {α : Type} (f : Nat → Option α) (i : Nat) (h : f i = none) : upd f i none = f := by
  funext j; unfold upd; split
  · subst j; exact h.symm
  · rfl

/-! ## frame: the registration helpers touch only `reg` -/

/-- everything except `reg` is the same -/
def SameBut (t s : St) : Prop :=
  t.n = s.n ∧ t.base = s.base ∧ t.old = s.old ∧ t.ackedH = s.ackedH ∧ t.ackedC = s.ackedC ∧ t.conn = s.conn ∧
  t.ring = s.ring ∧ t.cnt = s.cnt ∧ t.peerOpen = s.peerOpen ∧ t.next = s.next ∧ t.alive = s.alive

theorem sameBut_reg (s : St) (g : Evt → Option Nat) : SameBut { s with reg := g } s :=
  ⟨rfl, rfl, rfl, rfl, rfl, rfl, rfl, rfl, rfl, rfl, rfl⟩

theorem SameBut.refl (s : St) : SameBut s s := sameBut_reg s s.reg

section
variable {t s : St} (h : SameBut t s)
include h
theorem SameBut.n : t.n = s.n := h.1
theorem SameBut.base : t.base = s.base := h.2.1
theorem SameBut.old : t.old = s.old := h.2.2.1
theorem SameBut.ackedH : t.ackedH = s.ackedH := h.2.2.2.1
theorem SameBut.ackedC : t.ackedC = s.ackedC := h.2.2.2.2.1
theorem SameBut.conn : t.conn = s.conn := h.2.2.2.2.2.1
theorem SameBut.ring : t.ring = s.ring := h.2.2.2.2.2.2.1
theorem SameBut.cnt : t.cnt = s.cnt := h.2.2.2.2.2.2.2.1
theorem SameBut.peerOpen : t.peerOpen = s.peerOpen := h.2.2.2.2.2.2.2.2.1
theorem SameBut.next : t.next = s.next := h.2.2.2.2.2.2.2.2.2.1
theorem SameBut.alive : t.alive = s.alive := h.2.2.2.2.2.2.2.2.2.2

theorem SameBut.set (r : Nat) (v : VRing) : SameBut (setRing t r v) (setRing s r v) :=
  ⟨h.n, h.base, h.old, h.ackedH, h.ackedC, h.conn, congrArg (upd · r v) h.ring, h.cnt, h.peerOpen, h.next, h.alive⟩
end

theorem SameBut.trans {a b c : St} (h1 : SameBut a b) (h2 : SameBut b c) : SameBut a c :=
  ⟨h1.n.trans h2.n, h1.base.trans h2.base, h1.old.trans h2.old, h1.ackedH.trans h2.ackedH, h1.ackedC.trans h2.ackedC,
    h1.conn.trans h2.conn, h1.ring.trans h2.ring, h1.cnt.trans h2.cnt, h1.peerOpen.trans h2.peerOpen,
    h1.next.trans h2.next, h1.alive.trans h2.alive⟩

theorem setRing_setRing (s : St) (r : Nat) (v w : VRing) : setRing (setRing s r v) r w = setRing s r w := by
  simp only [setRing, upd_upd]

theorem epollAdd_same (s : St) (e : Evt) (r : Nat) : SameBut (epollAdd s e r) s := by
  unfold epollAdd; split
  · exact SameBut.refl _
  · exact sameBut_reg _ _

theorem epollDel_same (s : St) (e : Evt) : SameBut (epollDel s e) s := sameBut_reg _ _

theorem closeFd_same (s : St) (e : Evt) : SameBut (closeFd s e) s := by
  unfold closeFd; split
  · exact SameBut.refl _
  · exact epollDel_same s e

theorem updateReg_same (s : St) (r : Nat) : SameBut (updateReg s r) s := by
  unfold updateReg
  split
  · exact SameBut.refl _
  · split
    · exact epollAdd_same _ _ _
    · exact epollDel_same _ _

theorem closeFd_of_none {s : St} {e : Evt} (h : s.reg e = none) : closeFd s e = s := by
  unfold closeFd epollDel
  split
  · rfl
  · rw [upd_none _ _ h]

/-- the registration the code wants for ring `r` with descriptor `e` -/
def Cond (s : St) (r : Nat) (e : Evt) : Prop :=
  r < s.n ∧ (s.ring r).kick = some e ∧ (s.ring r).ready = true ∧ (s.ring r).enabled = true

theorem SameBut.cond {t s : St} (h : SameBut t s) (r : Nat) (e : Evt) : Cond t r e ↔ Cond s r e := by
  unfold Cond; rw [h.n, h.ring]

theorem cond_setRing_other (s : St) (r r' : Nat) (v : VRing) (e : Evt) (h : r' ≠ r) :
    Cond (setRing s r v) r' e ↔ Cond s r' e := by
  unfold Cond setRing
  simp [upd, h]

/-- the last two clauses of `RegOk`, as one notion that `PreReg` shares with it -/
structure KickOk (s : St) : Prop where
  lt : ∀ r e, (s.ring r).kick = some e → e < s.next ∧ r < s.n
  inj : ∀ r1 r2 e, (s.ring r1).kick = some e → (s.ring r2).kick = some e → r1 = r2

def FreeFor (s : St) (r : Nat) (k : Option Evt) : Prop :=
  ∀ e, k = some e → e < s.next ∧ r < s.n ∧ ∀ r', r' ≠ r → (s.ring r').kick ≠ some e

theorem freeFor_none (s : St) (r : Nat) : FreeFor s r none := fun _ he => nomatch he

theorem KickOk.freeFor_cur {s : St} (h : KickOk s) (r : Nat) : FreeFor s r (s.ring r).kick :=
  fun e he => ⟨(h.lt r e he).1, (h.lt r e he).2, fun r' hr' hk => hr' (h.inj r' r e hk he)⟩

theorem KickOk.set {s : St} (h : KickOk s) {r : Nat} {v : VRing} (hv : FreeFor s r v.kick) :
    KickOk (setRing s r v) := by
  have hr : (setRing s r v).ring r = v := upd_same ..
  have ho : ∀ r', r' ≠ r → (setRing s r v).ring r' = s.ring r' := fun r' h' => upd_other _ _ h'
  constructor
  · intro r' e he
    by_cases h' : r' = r
    · subst h'; rw [hr] at he; exact ⟨(hv e he).1, (hv e he).2.1⟩
    · rw [ho r' h'] at he; exact h.lt r' e he
  · intro r1 r2 e h1 h2
    by_cases e1 : r1 = r <;> by_cases e2 : r2 = r
    · rw [e1, e2]
    · subst e1; rw [hr] at h1; rw [ho r2 e2] at h2; exact absurd h2 ((hv e h1).2.2 r2 e2)
    · subst e2; rw [hr] at h2; rw [ho r1 e1] at h1; exact absurd h1 ((hv e h2).2.2 r1 e1)
    · rw [ho r1 e1] at h1; rw [ho r2 e2] at h2; exact h.inj r1 r2 e h1 h2

structure RegOk (s : St) : Prop where
  reg_iff : ∀ e r, s.reg e = some r ↔ Cond s r e
  kick_lt : ∀ r e, (s.ring r).kick = some e → e < s.next ∧ r < s.n
  kick_inj : ∀ r1 r2 e, (s.ring r1).kick = some e → (s.ring r2).kick = some e → r1 = r2

theorem RegOk.kicks {s : St} (h : RegOk s) : KickOk s := ⟨h.kick_lt, h.kick_inj⟩

theorem RegOk.reg_kick {s : St} (h : RegOk s) {r r' : Nat} {e : Evt} (hk : (s.ring r).kick = some e)
    (hr : s.reg e = some r') : r' = r :=
  h.kick_inj r' r e ((h.reg_iff e r').1 hr).2.1 hk

/-- registrations are right for every ring except possibly `r`, whose entries can only be at its current descriptor -/
structure PreReg (s : St) (r : Nat) : Prop where
  others : ∀ e r', r' ≠ r → (s.reg e = some r' ↔ Cond s r' e)
  mine : ∀ e, s.reg e = some r → (s.ring r).kick = some e
  kicks : KickOk s

theorem RegOk.pre {s : St} (h : RegOk s) (r : Nat) : PreReg s r :=
  ⟨fun e r' _ => h.reg_iff e r', fun e he => ((h.reg_iff e r).1 he).2.1, h.kicks⟩

theorem PreReg.set {s : St} {r : Nat} (h : PreReg s r) {v : VRing} (hf : FreeFor s r v.kick)
    (hm : ∀ e, s.reg e = some r → v.kick = some e) : PreReg (setRing s r v) r :=
  ⟨fun e r' hr => (h.others e r' hr).trans (cond_setRing_other s r r' v e hr).symm,
   fun e he => (congrArg VRing.kick (upd_same ..)).trans (hm e he), h.kicks.set hf⟩

theorem PreReg.setRing_sameKick {s : St} {r : Nat} (h : PreReg s r) (v : VRing) (hv : v.kick = (s.ring r).kick) :
    PreReg (setRing s r v) r :=
  h.set (hv ▸ h.kicks.freeFor_cur r) (fun e he => hv ▸ h.mine e he)

/-- `update_vring_registration` puts ring `r` right -/
theorem updateReg_regOk (s : St) (r : Nat) (h : PreReg s r) : RegOk (updateReg s r) := by
  obtain ⟨ho, hm, hk⟩ := h
  have hs := updateReg_same s r
  refine ⟨fun e r' => ?_, by rw [hs.ring, hs.next, hs.n]; exact hk.lt, by rw [hs.ring]; exact hk.inj⟩
  rw [hs.cond]
  -- entries at descriptors other than the kick descriptor of `r` are right already
  have hoff : (s.ring r).kick ≠ some e → (s.reg e = some r' ↔ Cond s r' e) := by
    intro hne
    by_cases hr : r' = r
    · subst hr
      exact ⟨fun he => absurd (hm e he) hne, fun hc => absurd hc.2.1 hne⟩
    · exact ho e r' hr
  unfold updateReg
  cases hkick : (s.ring r).kick with
  | none => exact hoff (by rw [hkick]; exact fun h => nomatch h)
  | some fd =>
    dsimp only
    by_cases he : e = fd
    · subst he
      -- the kick descriptor of `r` is wanted by `r` alone, and only `r` can have it
      have hcond : Cond s r' e ↔ r' = r ∧ ((s.ring r).ready && (s.ring r).enabled) = true := by
        rw [Bool.and_eq_true]
        constructor
        · intro hc
          have := hk.inj r' r e hc.2.1 hkick
          subst this
          exact ⟨rfl, hc.2.2⟩
        · rintro ⟨rfl, hc⟩
          exact ⟨(hk.lt r' e hkick).2, hkick, hc⟩
      have hown : ∀ r0, s.reg e = some r0 → r0 = r := by
        intro r0 h0
        by_cases hr : r0 = r
        · exact hr
        · exact hk.inj r0 r e ((ho e r0 hr).1 h0).2.1 hkick
      rw [hcond]
      by_cases hact : ((s.ring r).ready && (s.ring r).enabled) = true
      · have : (epollAdd s e r).reg e = some r := by
          unfold epollAdd
          cases h0 : s.reg e with
          | some r0 => rw [← hown r0 h0]; exact h0
          | none => exact upd_same ..
        rw [if_pos hact, this]
        exact ⟨fun h1 => ⟨(Option.some.inj h1).symm, hact⟩, fun hc => by rw [hc.1]⟩
      · rw [if_neg hact]
        exact ⟨fun h1 => (nomatch (upd_same s.reg e none ▸ h1 : none = some r')), fun hc => absurd hc.2 hact⟩
    · have hreg : (if ((s.ring r).ready && (s.ring r).enabled) = true then epollAdd s fd r else epollDel s fd).reg e
          = s.reg e := by
        unfold epollAdd epollDel
        split
        · split
          · rfl
          · exact upd_other _ _ he
        · exact upd_other _ _ he
      rw [hreg]
      exact hoff (by rw [hkick]; exact fun h => he (Option.some.inj h).symm)

/-! ## the invariant of the repaired model -/

structure Inv (s : St) : Prop where
  reg : RegOk s
  kick_ready : ∀ r e, (s.ring r).kick = some e → (s.ring r).ready = true
  alive : s.alive = true
  repaired : s.old = false
  acked : s.ackedH = true → s.ackedC = true

/-- of a ring the invariant reads only `kick`, `ready` and `enabled` -/
theorem Inv.congr_ring {s t : St} (h : Inv s) (h1 : t.n = s.n)
    (h2 : ∀ r, (t.ring r).kick = (s.ring r).kick ∧ (t.ring r).ready = (s.ring r).ready ∧
      (t.ring r).enabled = (s.ring r).enabled)
    (h3 : t.reg = s.reg) (h4 : t.next = s.next) (h5 : t.alive = s.alive) (h6 : t.old = s.old)
    (h7 : t.ackedH = true → t.ackedC = true) : Inv t := by
  refine ⟨⟨?_, ?_, ?_⟩, ?_, ?_, ?_, h7⟩
  · intro e r; unfold Cond; rw [h3, (h2 r).1, (h2 r).2.1, (h2 r).2.2, h1]; exact h.reg.reg_iff e r
  · intro r e; rw [(h2 r).1, h4, h1]; exact h.reg.kick_lt r e
  · intro r1 r2 e; rw [(h2 r1).1, (h2 r2).1]; exact h.reg.kick_inj r1 r2 e
  · intro r e; rw [(h2 r).1, (h2 r).2.1]; exact h.kick_ready r e
  · rw [h5]; exact h.alive
  · rw [h6]; exact h.repaired

theorem Inv.congr {s t : St} (h : Inv s) (h1 : t.n = s.n) (h2 : t.ring = s.ring) (h3 : t.reg = s.reg)
    (h4 : t.next = s.next) (h5 : t.alive = s.alive) (h6 : t.old = s.old)
    (h7 : t.ackedH = true → t.ackedC = true) : Inv t :=
  h.congr_ring h1 (fun r => by simp only [h2, and_self]) h3 h4 h5 h6 h7

theorem Inv.closeConn {s : St} (h : Inv s) : Inv { s with conn := false } :=
  h.congr rfl rfl rfl rfl rfl rfl h.acked

theorem setRing_inv {s : St} (h : Inv s) (r : Nat) (v : VRing) (hk : v.kick = (s.ring r).kick)
    (hr : v.ready = (s.ring r).ready) (he : v.enabled = (s.ring r).enabled) : Inv (setRing s r v) := by
  refine h.congr_ring rfl (fun r' => ?_) rfl rfl rfl rfl h.acked
  by_cases hr' : r' = r
  · subst hr'; simp only [setRing, upd_same]; exact ⟨hk, hr, he⟩
  · simp only [setRing, upd_other _ _ hr', and_self]

theorem Inv.of_setRing {s t : St} (h : Inv s) {r : Nat} {v : VRing} (hs : SameBut t (setRing s r v)) (hreg : RegOk t)
    (hv : ∀ e, v.kick = some e → v.ready = true) : Inv t := by
  refine ⟨hreg, ?_, hs.alive.trans h.alive, hs.old.trans h.repaired, ?_⟩
  · intro r' e
    rw [hs.ring]
    by_cases hr' : r' = r
    · subst hr'; simp only [setRing, upd_same]; exact hv e
    · simp only [setRing, upd_other _ _ hr']; exact h.kick_ready r' e
  · rw [hs.ackedH, hs.ackedC]; exact h.acked

theorem setEnabled_same (s : St) (r : Nat) (on : Bool) :
    SameBut (setEnabled s r on) (setRing s r { s.ring r with enabled := on }) := updateReg_same _ _

theorem setEnabled_inv {s : St} (h : Inv s) (r : Nat) (on : Bool) : Inv (setEnabled s r on) :=
  h.of_setRing (setEnabled_same s r on) (updateReg_regOk _ _ ((h.reg.pre r).setRing_sameKick _ rfl)) (h.kick_ready r)

theorem setAll_inv {s : St} (h : Inv s) (on : Bool) (k : Nat) : Inv (setAll on s k) := by
  induction k with
  | zero => exact h
  | succ k ih => exact setEnabled_inv ih k on

theorem setAll_same (on : Bool) (s : St) (k : Nat) :
    SameBut (setAll on s k) { s with ring := fun r => if r < k then { s.ring r with enabled := on } else s.ring r } := by
  induction k with
  | zero => exact SameBut.refl s
  | succ k ih =>
    refine ((setEnabled_same _ k on).trans (ih.set k _)).trans ?_
    have : ∀ t u : St, t = u → SameBut t u := fun t u e => e ▸ SameBut.refl t
    apply this
    simp only [setRing, ih.ring]
    congr 1
    funext r
    unfold upd
    by_cases hr : r = k
    · subst hr; simp
    · have : r < k + 1 ↔ r < k := by omega
      simp [hr, this]

theorem alloc_inv {s : St} (h : Inv s) : Inv (alloc s) := by
  refine ⟨⟨h.reg.reg_iff, ?_, h.reg.kick_inj⟩, h.kick_ready, h.alive, h.repaired, h.acked⟩
  intro r e he
  have := h.reg.kick_lt r e he
  exact ⟨Nat.lt_succ_of_lt this.1, this.2⟩

/-- the state in which a message that may carry a descriptor is handled -/
theorem recv_inv {s : St} (h : Inv s) (fd : Bool) : Inv (if fd then alloc s else s) := by
  split
  · exact alloc_inv h
  · exact h

theorem recv_n (s : St) (fd : Bool) : (if fd then alloc s else s).n = s.n := by split <;> rfl
theorem recv_ring (s : St) (fd : Bool) : (if fd then alloc s else s).ring = s.ring := by split <;> rfl
theorem recv_cnt (s : St) (fd : Bool) : (if fd then alloc s else s).cnt = s.cnt := by split <;> rfl

theorem recv_freeFor {s : St} (h : Inv s) (fd : Bool) {r : Nat} (hr : r < s.n) :
    FreeFor (if fd then alloc s else s) r (if fd then some s.next else none) := by
  cases fd with
  | false => exact freeFor_none s r
  | true =>
    intro e he
    cases he
    exact ⟨Nat.lt_succ_self _, hr, fun r' _ hk => Nat.lt_irrefl _ (h.reg.kick_lt r' _ hk).1⟩

/-! ## `set_vring_kick` (repaired) -/

theorem replaceKick_same (s0 : St) (r : Nat) (new : Option Evt) :
    SameBut (replaceKick s0 r new) (setRing s0 r { s0.ring r with kick := new }) := by
  unfold replaceKick
  cases (s0.ring r).kick with
  | none =>
    have h1 : SameBut (if s0.old then s0 else s0) s0 := by split <;> exact SameBut.refl _
    simp only [h1.ring]
    exact h1.set r _
  | some k =>
    have h1 : SameBut (if s0.old then s0 else epollDel s0 k) s0 := by
      split
      · exact SameBut.refl _
      · exact epollDel_same _ _
    simp only [h1.ring]
    exact (closeFd_same _ _).trans (h1.set r _)

theorem replaceKick_pre {s0 : St} (h : Inv s0) (r : Nat) (new : Option Evt) (hnew : FreeFor s0 r new) :
    PreReg (replaceKick s0 r new) r := by
  unfold replaceKick
  simp only [h.repaired, Bool.false_eq_true, if_false]
  cases hk : (s0.ring r).kick with
  | none =>
    exact (h.reg.pre r).set hnew (fun e he => nomatch hk ▸ ((h.reg.reg_iff e r).1 he).2.1)
  | some k =>
    dsimp only
    -- the old descriptor is unregistered first: then nothing is registered for `r`
    have hreg : ∀ e, (epollDel s0 k).reg e = if e = k then none else s0.reg e := fun e => rfl
    have hnone : ∀ e, (epollDel s0 k).reg e ≠ some r := by
      intro e he
      rw [hreg] at he
      split at he
      · cases he
      · rename_i hne
        have := ((h.reg.reg_iff e r).1 he).2.1
        rw [hk] at this
        exact hne (Option.some.inj this).symm
    have hp : PreReg (epollDel s0 k) r := by
      refine ⟨fun e r' hr' => ?_, fun e he => absurd he (hnone e), ⟨h.reg.kick_lt, h.reg.kick_inj⟩⟩
      rw [(epollDel_same s0 k).cond, hreg]
      split
      · rename_i hek
        subst hek
        exact ⟨fun h1 => (nomatch h1), fun hc => absurd (h.reg.kick_inj r' r e hc.2.1 hk) hr'⟩
      · exact h.reg.reg_iff e r'
    -- then the new one is stored, and the daemon's copy of the old one is closed
    rw [closeFd_of_none (by simp [setRing, epollDel])]
    exact hp.set hnew (fun e he => absurd he (hnone e))

theorem installKick_same (s0 : St) (r : Nat) (new : Option Evt) (hold : s0.old = false) :
    SameBut (installKick s0 r new)
      (setRing s0 r { s0.ring r with kick := new, ready := (s0.ring r).ready || new.isSome }) := by
  have h3 := replaceKick_same s0 r new
  have hr3 : (replaceKick s0 r new).ring r = { s0.ring r with kick := new } := by rw [h3.ring]; exact upd_same ..
  unfold installKick
  simp only [needsInit, hr3, h3.old.trans hold, Bool.false_eq_true, if_false]
  split
  · rename_i hni
    have hni : (s0.ring r).ready = false ∧ new.isSome = true := by simpa using hni
    unfold initializeVring
    refine ((updateReg_same _ _).trans (h3.set r _)).trans ?_
    rw [setRing_setRing, hr3, hni.1, hni.2]
    exact SameBut.refl _
  · rename_i hni
    refine ((updateReg_same _ _).trans h3).trans ?_
    have : ((s0.ring r).ready || new.isSome) = (s0.ring r).ready := by
      cases h1 : (s0.ring r).ready <;> cases h2 : new.isSome <;> simp_all
    rw [this]
    exact SameBut.refl _

theorem installKick_inv {s0 : St} (h : Inv s0) (r : Nat) (new : Option Evt) (hnew : FreeFor s0 r new) :
    Inv (installKick s0 r new) := by
  have hpre := replaceKick_pre h r new hnew
  refine h.of_setRing (installKick_same s0 r new h.repaired) ?_ (fun e he => by have : new = some e := he; simp [this])
  unfold installKick
  simp only [(replaceKick_same s0 r new).old.trans h.repaired, Bool.false_eq_true, if_false]
  split
  · exact updateReg_regOk _ _ (hpre.setRing_sameKick _ rfl)
  · exact updateReg_regOk _ _ hpre

/-! ## `set_vring_call`, `get_vring_base`, guest-side events -/

theorem needsInit_false {s : St} (h : Inv s) (r : Nat) : needsInit s r = false := by
  unfold needsInit
  cases hk : (s.ring r).kick with
  | none => simp
  | some e => simp [h.kick_ready r e hk]

theorem setVringCall_eq_inv {s : St} (h : Inv s) (r : Nat) (fd : Bool) (hr : r < s.n) :
    setVringCall s r fd =
      (setRing (if fd then alloc s else s) r { s.ring r with call := if fd then some s.next else none }, .ok) ∧
    Inv (setVringCall s r fd).1 := by
  have h2 := setRing_inv (recv_inv h fd) r { s.ring r with call := if fd then some s.next else none }
    (by rw [recv_ring]) (by rw [recv_ring]) (by rw [recv_ring])
  have : setVringCall s r fd = (setRing (if fd then alloc s else s) r
      { s.ring r with call := if fd then some s.next else none }, .ok) := by
    unfold setVringCall
    simp only [recv_n, hr, if_true, recv_ring]
    rw [needsInit_false h2]
    rfl
  rw [this]
  exact ⟨rfl, h2⟩

/-- the second half of `get_vring_base` (`set_kick(None)`, `set_call(None)`), on a ring that is not ready -/
theorem dropFds_regOk {s1 : St} (h1 : RegOk s1) (r : Nat) (hr : (s1.ring r).ready = false) (v : VRing) (hv : v.kick = none) :
    RegOk (match (s1.ring r).kick with
      | some k => closeFd (setRing s1 r v) k
      | none => setRing s1 r v) := by
  have hnone : ∀ e, s1.reg e ≠ some r := fun e he => by
    have := ((h1.reg_iff e r).1 he).2.2.1
    rw [hr] at this
    cases this
  -- with no kick descriptor `updateReg` is the identity: the new state is `updateReg` of itself
  have h2 := updateReg_regOk _ r ((h1.pre r).set (v := v) (hv ▸ freeFor_none _ _) (fun e he => absurd he (hnone e)))
  have hk : ((setRing s1 r v).ring r).kick = none := (congrArg VRing.kick (upd_same ..)).trans hv
  unfold updateReg at h2
  rw [hk] at h2
  split
  · rename_i k hk1
    rw [closeFd_of_none]
    · exact h2
    · show s1.reg k = none
      cases hreg : s1.reg k with
      | none => rfl
      | some r' => exact absurd (h1.reg_kick hk1 hreg ▸ hreg) (hnone k)
  · exact h2

theorem stopRing_mid (s : St) (r : Nat) :
    (updateReg (setRing s r { s.ring r with ready := false }) r).ring r = { s.ring r with ready := false } := by
  rw [(updateReg_same _ r).ring]; exact upd_same ..

theorem stopRing_same (s : St) (r : Nat) :
    SameBut (stopRing s r) (setRing s r { s.ring r with ready := false, kick := none, call := none }) := by
  have h1 := updateReg_same (setRing s r { s.ring r with ready := false }) r
  have h2 := h1.set r { s.ring r with ready := false, kick := none, call := none }
  rw [setRing_setRing] at h2
  unfold stopRing
  simp only [stopRing_mid s r]
  split
  · exact (closeFd_same _ _).trans h2
  · exact h2

theorem stopRing_inv {s : St} (h : Inv s) (r : Nat) : Inv (stopRing s r) :=
  h.of_setRing (stopRing_same s r)
    (dropFds_regOk (updateReg_regOk (setRing s r { s.ring r with ready := false }) r
      ((h.reg.pre r).setRing_sameKick _ rfl)) r (congrArg VRing.ready (stopRing_mid s r)) _ rfl)
    (fun _ he => nomatch he)

theorem daemonHolds_false {s : St} {d : Evt} (h : daemonHolds s d = false) (r : Nat) (hr : r < s.n) :
    (s.ring r).kick ≠ some d := by
  unfold daemonHolds at h
  rw [List.any_eq_false] at h
  have := h r (List.mem_range.2 hr)
  simpa using this

/-- every event keeps the invariant of the repaired model — inside or outside the protocol's domain -/
theorem control_inv {s : St} (h : Inv s) (m : Msg) : Inv (control s m).1 := by
  unfold Model.RingReg.control
  split
  · -- connection closed: the message is dropped, its descriptor was received
    exact recv_inv h _
  cases m with
  | guestKick d =>
    dsimp only
    split
    · exact h.congr rfl rfl rfl rfl rfl rfl h.acked
    · exact h
  | peerClose d =>
    dsimp only
    have h1 : Inv { s with peerOpen := upd s.peerOpen d false } := h.congr rfl rfl rfl rfl rfl rfl h.acked
    split
    · exact h1
    · -- no ring holds `d`, so it is not registered
      rename_i hd
      have hd : daemonHolds { s with peerOpen := upd s.peerOpen d false } d = false := by simpa using hd
      have hnone : s.reg d = none := by
        cases hr : s.reg d with
        | none => rfl
        | some r =>
          have hc := (h.reg.reg_iff d r).1 hr
          exact absurd hc.2.1 (daemonHolds_false hd r hc.1)
      unfold epollDel
      rw [show upd s.reg d none = s.reg from upd_none _ _ hnone]
      exact h1
  | setFeatures proto =>
    have h1 : Inv { s with ackedH := proto, ackedC := proto } := h.congr rfl rfl rfl rfl rfl rfl (fun h' => h')
    cases proto with
    | true => exact h1
    | false => exact setAll_inv h1 true _
  | reset => exact (setAll_inv h false s.n).congr rfl rfl rfl rfl rfl rfl (fun h' => nomatch h')
  | setEnable r on =>
    simp only [setVringEnable]
    split
    · exact h.closeConn
    · split
      · exact h.closeConn
      · split
        · exact setEnabled_inv h r on
        · exact h.closeConn
  | getBase r =>
    simp only [getVringBase]
    split
    · exact stopRing_inv h r
    · exact h.closeConn
  | setCall r fd =>
    by_cases hr : r < s.n
    · exact (setVringCall_eq_inv h r fd hr).2
    · simp only [setVringCall]
      rw [if_neg (by rw [recv_n]; exact hr)]
      exact (recv_inv h fd).closeConn
  | setKick r fd =>
    simp only [setVringKick]
    by_cases hr : r < s.n
    · rw [if_pos (by rw [recv_n]; exact hr)]
      exact installKick_inv (recv_inv h fd) r _ (recv_freeFor h fd hr)
    · rw [if_neg (by rw [recv_n]; exact hr)]
      exact (recv_inv h fd).closeConn

theorem init_inv (n : Nat) (base : Nat → Nat) : Inv (init n base false) := by
  refine ⟨⟨?_, ?_, ?_⟩, ?_, rfl, rfl, ?_⟩
  · intro e r; simp [init, Cond, VRing.init]
  · intro r e h; simp [init, VRing.init] at h
  · intro r1 r2 e h; simp [init, VRing.init] at h
  · intro r e h; simp [init, VRing.init] at h
  · intro h; simp [init] at h

/-! ## the worker's drain under the invariant -/

theorem batch_mem (s : St) (e : Evt) (r : Nat) :
    (e, r) ∈ batch s ↔ e < s.next ∧ s.reg e = some r ∧ 0 < s.cnt e := by
  unfold batch
  rw [List.mem_filterMap]
  constructor
  · rintro ⟨e', he', h⟩
    split at h
    · split at h
      · cases h; exact ⟨List.mem_range.1 he', by assumption, by assumption⟩
      · cases h
    · cases h
  · rintro ⟨h1, h2, h3⟩
    exact ⟨e, List.mem_range.2 h1, by simp [h2, h3]⟩

theorem batch_fst_nodup (s : St) : ((batch s).map Prod.fst).Nodup := by
  unfold batch
  rw [List.Nodup, List.pairwise_map]
  refine List.Pairwise.filterMap _ ?_ List.nodup_range
  -- an entry carries the descriptor it was made from
  have key : ∀ (e : Evt) (p : Evt × Nat),
      (match s.reg e with | some r => if 0 < s.cnt e then some (e, r) else none | none => none) = some p → p.1 = e := by
    intro e p h
    split at h
    · split at h
      · cases h; rfl
      · cases h
    · cases h
  intro a a' hne b hb b' hb' hbb
  exact hne ((key a b hb).symm.trans (hbb.trans (key a' b' hb')))

theorem passes_ne_zero : passes ≠ 0 := by decide

theorem quiesce_of_batch_nil (f : Nat) (s : St) (h : batch s = []) : quiesce f s = (s, []) := by
  cases f with
  | zero => rfl
  | succ f => simp [quiesce, h]

theorem pass_spec (L : List (Evt × Nat)) :
    ∀ s : St, s.alive = true →
      (∀ p ∈ L, (s.ring p.2).kick = some p.1 ∧ (s.ring p.2).enabled = true ∧ 0 < s.cnt p.1) →
      (L.map Prod.fst).Nodup →
      pass s L = ({ s with cnt := fun d => if d ∈ L.map Prod.fst then 0 else s.cnt d }, L.map Prod.snd) := by
  induction L with
  | nil => intro s _ _ _; simp [pass]
  | cons p L ih =>
    intro s ha hp hn
    obtain ⟨e, r⟩ := p
    have h0 := hp (e, r) (List.mem_cons_self ..)
    simp only at h0
    have hne : ¬ s.cnt e = 0 := Nat.pos_iff_ne_zero.1 h0.2.2
    have hev : handleEvent s r = ({ s with cnt := upd s.cnt e 0 }, [r]) := by
      unfold handleEvent
      simp [ha, h0.1, hne, h0.2.1]
    simp only [List.map_cons, List.nodup_cons] at hn
    have ih' := ih { s with cnt := upd s.cnt e 0 } ha (by
      intro q hq
      have hq' := hp q (List.mem_cons_of_mem _ hq)
      have hqe : q.1 ≠ e := by
        intro h
        apply hn.1
        rw [← h]
        exact List.mem_map_of_mem hq
      refine ⟨hq'.1, hq'.2.1, ?_⟩
      show 0 < upd s.cnt e 0 q.1
      rw [upd_other _ _ hqe]; exact hq'.2.2) hn.2
    simp only [pass, hev, ih', List.map_cons, List.singleton_append]
    congr 2
    funext d
    show (if d ∈ List.map Prod.fst L then 0 else upd s.cnt e 0 d) = if d ∈ e :: List.map Prod.fst L then 0 else s.cnt d
    by_cases hd : d = e
    · subst hd; simp
    · simp only [upd, hd, if_false, List.mem_cons, false_or]

/-- under the invariant a registered descriptor is below `next` by itself -/
theorem Inv.mem_batch {s : St} (h : Inv s) (e : Evt) (r : Nat) : (e, r) ∈ batch s ↔ s.reg e = some r ∧ 0 < s.cnt e := by
  rw [batch_mem]
  exact ⟨fun h' => h'.2, fun h' => ⟨(h.reg.kick_lt r e ((h.reg.reg_iff e r).1 h'.1).2.1).1, h'⟩⟩

theorem mem_batch_fst {s : St} (h : Inv s) (d : Evt) :
    d ∈ (batch s).map Prod.fst ↔ (s.reg d).isSome = true ∧ 0 < s.cnt d := by
  constructor
  · intro hd
    obtain ⟨⟨e, r⟩, hp, rfl⟩ := List.mem_map.1 hd
    have := (h.mem_batch e r).1 hp
    exact ⟨by rw [this.1]; rfl, this.2⟩
  · intro ⟨h1, h2⟩
    obtain ⟨r, hr⟩ := Option.isSome_iff_exists.1 h1
    exact List.mem_map.2 ⟨(d, r), (h.mem_batch d r).2 ⟨hr, h2⟩, rfl⟩

/-- what the drain does to a state that satisfies the invariant: the counter of every registered descriptor is consumed,
the handler is called once for each ring whose registered descriptor was readable; nothing else changes -/
theorem quiesce_spec {s : St} (h : Inv s) {f : Nat} (hf : f ≠ 0) :
    quiesce f s =
      ({ s with cnt := fun d => if (s.reg d).isSome then 0 else s.cnt d }, (batch s).map Prod.snd) := by
  obtain ⟨f, rfl⟩ := Nat.exists_eq_add_one_of_ne_zero hf
  have hmem : ∀ p ∈ batch s, (s.ring p.2).kick = some p.1 ∧ (s.ring p.2).enabled = true ∧ 0 < s.cnt p.1 := by
    intro p hp
    obtain ⟨e, r⟩ := p
    have := (batch_mem s e r).1 hp
    have hc := (h.reg.reg_iff e r).1 this.2.1
    exact ⟨hc.2.1, hc.2.2.2, this.2.2⟩
  have hz : (fun d => if d ∈ (batch s).map Prod.fst then 0 else s.cnt d)
      = (fun d => if (s.reg d).isSome then 0 else s.cnt d) := by
    funext d
    simp only [mem_batch_fst h]
    by_cases h1 : (s.reg d).isSome = true <;> by_cases h2 : 0 < s.cnt d <;> simp [h1, h2]
    omega
  by_cases hb : batch s = []
  · rw [quiesce_of_batch_nil _ _ hb, hb]
    simp only [List.map_nil]
    have : s.cnt = fun d => if (s.reg d).isSome then 0 else s.cnt d := by
      rw [← hz, hb]; simp
    rw [← this]
  · have hp := pass_spec (batch s) s h.alive hmem (batch_fst_nodup s)
    have hg : (s.alive && !(batch s).isEmpty) = true := by simp [h.alive, hb]
    simp only [quiesce, hg, if_true, hp]
    rw [hz]
    have hb' : batch { s with cnt := fun d => if (s.reg d).isSome then 0 else s.cnt d } = [] :=
      List.eq_nil_iff_forall_not_mem.2 fun (e, r) hp' => by
        obtain ⟨_, h1, h2⟩ := (batch_mem _ e r).1 hp'
        simp [show s.reg e = some r from h1] at h2
    rw [quiesce_of_batch_nil _ _ hb']
    simp


end Lemmas.RingReg
