import VhostModel.Base
/-!
# `BitVec` / `Nat` bit facts as statements about numbers

`checked_add` and the mask tests of the generated validators (`x & MASK == v`, `x & !MASK == 0`) in terms of `toNat`,
and the single-bit mask on naturals.  Proof material only: nothing here is needed to run the model.
-/
namespace Base

theorem checkedAdd_isSome_iff {n : Nat} (a b : BitVec n) :
    (checkedAdd a b).isSome = true ↔ a.toNat + b.toNat < 2 ^ n := by
  unfold checkedAdd
  by_cases h : BitVec.uaddOverflow a b = true
  · simp [h]; simpa [BitVec.uaddOverflow] using h
  · simp [h]; simpa [BitVec.uaddOverflow] using h

theorem checkedAdd_isNone_iff {n : Nat} (a b : BitVec n) :
    (checkedAdd a b).isNone = true ↔ 2 ^ n ≤ a.toNat + b.toNat := by
  have := checkedAdd_isSome_iff a b
  cases h : checkedAdd a b <;> simp [h] at this ⊢ <;> omega

theorem checkedAdd_eq_some {n : Nat} (a b c : BitVec n) :
    checkedAdd a b = some c ↔ (a.toNat + b.toNat < 2 ^ n ∧ c.toNat = a.toNat + b.toNat) := by
  unfold checkedAdd
  by_cases h : BitVec.uaddOverflow a b = true
  · simp [h]; intro h1; simp [BitVec.uaddOverflow] at h; omega
  · simp [h]
    have h' : a.toNat + b.toNat < 2 ^ n := by simpa [BitVec.uaddOverflow] using h
    constructor
    · intro e; subst e; refine ⟨h', ?_⟩; simp [BitVec.toNat_add, Nat.mod_eq_of_lt h']
    · rintro ⟨_, e⟩; apply BitVec.eq_of_toNat_eq; simp [BitVec.toNat_add, Nat.mod_eq_of_lt h', e]

theorem checkedAdd_eq_none {n : Nat} (a b : BitVec n) :
    checkedAdd a b = none ↔ 2 ^ n ≤ a.toNat + b.toNat := by
  unfold checkedAdd
  by_cases h : BitVec.uaddOverflow a b = true
  · simp [h]; simpa [BitVec.uaddOverflow] using h
  · simp [h]; simpa [BitVec.uaddOverflow] using h

/-! ## Mask lemmas -/

/-- the bits at and above `k` are all zero iff the value is below `2^k` -/
theorem hi_zero_iff {w : Nat} (x : BitVec w) (k : Nat) :
    x &&& ~~~(BitVec.ofNat w (2^k - 1)) = 0#w ↔ x.toNat < 2^k := by
  constructor
  · intro h
    apply Nat.lt_pow_two_of_testBit
    intro i hi
    have := congrArg (fun v => v.getLsbD i) h
    simp [BitVec.getLsbD_and, BitVec.getLsbD_not, BitVec.getLsbD_ofNat, Nat.testBit_two_pow_sub_one] at this
    by_cases hw : i < w
    · by_cases hx : x.getLsbD i
      · have := this hx hw; omega
      · simpa [BitVec.getLsbD] using hx
    · have : x.toNat < 2^i := Nat.lt_of_lt_of_le x.isLt (Nat.pow_le_pow_right (by omega) (by omega))
      exact Nat.testBit_lt_two_pow this
  · intro h
    apply BitVec.eq_of_getLsbD_eq
    intro i hi
    simp [BitVec.getLsbD_and, BitVec.getLsbD_not, BitVec.getLsbD_ofNat, Nat.testBit_two_pow_sub_one]
    intro hx _
    by_cases hk : i < k
    · exact ⟨hi, hk⟩
    · have : x.toNat < 2^i := Nat.lt_of_lt_of_le h (Nat.pow_le_pow_right (by omega) (by omega))
      have := Nat.testBit_lt_two_pow this
      simp [BitVec.getLsbD] at hx; simp_all

/-- the low `k` bits as a number -/
theorem and_lo_toNat {w : Nat} (x : BitVec w) (k : Nat) (hk : k ≤ w) :
    (x &&& BitVec.ofNat w (2^k - 1)).toNat = x.toNat % 2^k := by
  rw [BitVec.toNat_and, ← Nat.and_two_pow_sub_one_eq_mod]
  have e : (2^k - 1) % 2^w = 2^k - 1 := Nat.mod_eq_of_lt (by
    have : 2^k ≤ 2^w := Nat.pow_le_pow_right (by omega) hk
    have : 0 < 2^k := Nat.two_pow_pos k
    omega)
  simp [e]

theorem lo_zero_iff {w : Nat} (x : BitVec w) (k : Nat) (hk : k ≤ w) :
    x &&& BitVec.ofNat w (2^k - 1) = 0#w ↔ x.toNat % 2^k = 0 := by
  rw [← and_lo_toNat x k hk]
  constructor
  · intro h; rw [h]; rfl
  · intro h; apply BitVec.eq_of_toNat_eq; simpa using h

theorem lo_eq_iff {w : Nat} (x : BitVec w) (k v : Nat) (hk : k ≤ w) (hv : v < 2^w) :
    x &&& BitVec.ofNat w (2^k - 1) = BitVec.ofNat w v ↔ x.toNat % 2^k = v := by
  rw [← and_lo_toNat x k hk]
  constructor
  · intro h; rw [h]; simp [Nat.mod_eq_of_lt hv]
  · intro h; apply BitVec.eq_of_toNat_eq; simp [Nat.mod_eq_of_lt hv, h]

theorem and_not_eq_zero_iff {w : Nat} (x m : BitVec w) : x &&& ~~~m = 0#w ↔ x &&& m = x := by
  constructor
  · intro h
    apply BitVec.eq_of_getLsbD_eq
    intro i hi
    have := congrArg (fun v => v.getLsbD i) h
    simp at this
    simp
    intro hx
    cases hm : m.getLsbD i
    · have := this hx; simp_all
    · rfl
  · intro h
    rw [← h, BitVec.and_assoc]
    simp

/-- masking with a single bit keeps that bit -/
theorem and_two_pow (x i : Nat) : x &&& 2^i = if x.testBit i then 2^i else 0 := by
  apply Nat.eq_of_testBit_eq; intro j
  rw [Nat.testBit_and, Nat.testBit_two_pow]
  by_cases e : i = j
  · subst e; cases x.testBit i <;> simp
  · cases x.testBit i <;> simp [e]

theorem nat_and_two_pow_cases (x i : Nat) : x &&& 2^i = 0 ∨ x &&& 2^i = 2^i := by
  rw [and_two_pow]; cases x.testBit i <;> simp

end Base
