import VhostModel.Model.MemTable
import VhostModel.Spec.MemTable
import VhostModel.Spec.Valid
/-! helper lemmas for `Props/C13.lean`: sortedness of the vm-memory collection, what one request does (`step_cases`),
the refinement relation between the handler's state and the table of the property, translation -/
namespace Lemmas.MemTable
open Model.MemTable
open Spec.MemTable (Req Op)

/-- what the memory object keeps of a region of the property's table -/
def toMem (r : Spec.MemTable.Region) : Region := ⟨r.gpa, r.size, r.fid, r.off⟩
/-- what the translation table keeps of it -/
def toMap (r : Spec.MemTable.Region) : AddrMapping := ⟨r.uaddr, r.size, r.gpa⟩

/-- the order vm-memory maintains: every region ends before every later one starts -/
def Sorted (l : List Region) : Prop := l.Pairwise fun a b => a.lastAddr < b.gpa

/-- every region has a positive length (`mmap` refuses length 0) -/
def Pos (l : List Region) : Prop := ∀ r ∈ l, 0 < r.size

theorem windowsOk_iff (l : List Region) : windowsOk l = true ↔ Sorted l := by
  unfold Sorted
  induction l with
  | nil => simp [windowsOk]
  | cons a l ih =>
    cases l with
    | nil => simp [windowsOk]
    | cons b rest =>
      rw [windowsOk]
      rw [List.pairwise_cons]
      constructor
      · intro h
        split at h
        · cases h
        · split at h
          · cases h
          · rename_i h1 h2
            have hs := ih.mp h
            refine ⟨?_, hs⟩
            intro c hc
            rw [List.pairwise_cons] at hs
            rcases List.mem_cons.mp hc with rfl | hc'
            · omega
            · have := hs.1 c hc'
              unfold Region.lastAddr at *
              omega
      · rintro ⟨h1, h2⟩
        have hb := h1 b (by simp)
        unfold Region.lastAddr at hb
        have : ¬ a.gpa > b.gpa := by omega
        simp only [this, if_false]
        have : ¬ a.lastAddr ≥ b.gpa := by unfold Region.lastAddr; omega
        simp only [this, if_false]
        exact ih.mpr h2

theorem sorted_gpa_lt {l : List Region} (h : Sorted l) : l.Pairwise fun a b => a.gpa < b.gpa := by
  unfold Sorted at h
  refine h.imp ?_
  intro a b hab
  unfold Region.lastAddr at hab; omega

theorem sorted_gpa_ne {l : List Region} (h : Sorted l) : l.Pairwise fun a b => a.gpa ≠ b.gpa :=
  (sorted_gpa_lt h).imp (fun h => Nat.ne_of_lt h)

/-- in a list whose keys are pairwise different, an element is determined by its key -/
theorem pairwise_key_inj {α : Type} {f : α → Nat} {l : List α} (h : l.Pairwise fun a b => f a ≠ f b)
    {a b : α} (ha : a ∈ l) (hb : b ∈ l) (e : f a = f b) : a = b := by
  induction l with
  | nil => cases ha
  | cons x xs ih =>
    rw [List.pairwise_cons] at h
    rcases List.mem_cons.mp ha with rfl | ha'
    · rcases List.mem_cons.mp hb with rfl | hb'
      · rfl
      · exact absurd e (h.1 b hb')
    · rcases List.mem_cons.mp hb with rfl | hb'
      · exact absurd e.symm (h.1 a ha')
      · exact ih h.2 ha' hb'

/-! ### insertSorted -/
theorem insertSorted_perm (g : Region) (l : List Region) : (insertSorted g l).Perm (l ++ [g]) := by
  induction l with
  | nil => simp [insertSorted]
  | cons x xs ih =>
    unfold insertSorted
    split
    · exact (List.Perm.cons x ih)
    · have : (g :: x :: xs).Perm ((x :: xs) ++ [g]) := by
        have := @List.perm_append_comm _ [g] (x :: xs)
        simpa using this
      exact this

/-! ### removeRegion -/
theorem removeRegion_eq_filter {base size : Nat} {l mem : List Region}
    (hs : l.Pairwise fun a b => a.gpa ≠ b.gpa) (h : removeRegion base size l = some mem) :
    mem = l.filter (fun r => r.gpa != base) ∧ ∃ r ∈ l, r.gpa = base ∧ r.size = size := by
  induction l generalizing mem with
  | nil => simp [removeRegion] at h
  | cons r rs ih =>
    rw [List.pairwise_cons] at hs
    unfold removeRegion at h
    split at h
    · rename_i hg
      split at h
      · rename_i hsz
        cases h
        refine ⟨?_, r, by simp, hg, hsz⟩
        have hne : ∀ x ∈ rs, (x.gpa != base) = true := by
          intro x hx
          have := hs.1 x hx
          simp only [bne_iff_ne, ne_eq]
          omega
        simp only [List.filter_cons, hg, bne_self_eq_false, Bool.false_eq_true, if_false]
        exact (List.filter_eq_self.mpr hne).symm
      · cases h
    · rename_i hg
      cases hr : removeRegion base size rs with
      | none => simp [hr] at h
      | some m =>
        simp only [hr, Option.map_some, Option.some.injEq] at h
        subst h
        obtain ⟨e, x, hx, hxg, hxs⟩ := ih hs.2 hr
        refine ⟨?_, x, List.mem_cons_of_mem _ hx, hxg, hxs⟩
        have : (r.gpa != base) = true := by simp [hg]
        simp only [List.filter_cons, this, if_true]
        rw [e]

theorem removeRegion_sorted {base size : Nat} {l mem : List Region} (hs : Sorted l)
    (h : removeRegion base size l = some mem) : Sorted mem := by
  obtain ⟨e, _⟩ := removeRegion_eq_filter (sorted_gpa_ne hs) h
  subst e
  exact List.Pairwise.filter _ hs

/-! ### building regions -/
theorem mmapRegion_some {r : Req} {g : Region} (h : mmapRegion r = some g) :
    g = toMem r.region ∧ 0 < r.size ∧ r.gpa + r.size < 2^64 ∧ r.mapOk = true := by
  unfold mmapRegion at h
  split at h
  · rename_i h1
    split at h
    · rename_i h2
      cases h
      simp only [Bool.and_eq_true, decide_eq_true_eq] at h1
      exact ⟨rfl, h1.2, h2, h1.1⟩
    · cases h
  · cases h

theorem buildAll_some {rs : List Req} {gs : List Region} {ms : List AddrMapping}
    (h : buildAll rs = some (gs, ms)) :
    gs = rs.map (fun r => toMem r.region) ∧ ms = rs.map (fun r => toMap r.region) ∧ ∀ r ∈ rs, 0 < r.size := by
  induction rs generalizing gs ms with
  | nil => simp [buildAll] at h; simp [h]
  | cons r rs ih =>
    unfold buildAll at h
    cases hm : mmapRegion r with
    | none => simp [hm] at h
    | some g =>
      simp only [hm] at h
      cases hb : buildAll rs with
      | none => simp [hb] at h
      | some p =>
        obtain ⟨gs', ms'⟩ := p
        simp only [hb, Option.some.injEq, Prod.mk.injEq] at h
        obtain ⟨rfl, rfl⟩ := h
        obtain ⟨e1, e2, e3⟩ := ih hb
        obtain ⟨eg, hp, _, _⟩ := mmapRegion_some hm
        refine ⟨?_, ?_, ?_⟩
        · simp [e1, eg]
        · simp [e2, mappingOf, toMap, Spec.MemTable.Req.region]
        · intro x hx
          rcases List.mem_cons.mp hx with rfl | hx'
          · exact hp
          · exact e3 x hx'

theorem fromRegions_some {l mem : List Region} (h : fromRegions l = some mem) : mem = l ∧ Sorted l ∧ l ≠ [] := by
  unfold fromRegions at h
  split at h
  · cases h
  · rename_i hne
    split at h
    · rename_i hw
      cases h
      refine ⟨rfl, (windowsOk_iff _).mp hw, ?_⟩
      intro e; simp [e] at hne
    · cases h

/-! ### one request -/

/-- what an accepted request installs: the new collection and the new translation table -/
def Installs (s : St) : Op → List Region → List AddrMapping → Prop
  | .setTable rs, mem, maps =>
      mem = rs.map (fun r => toMem r.region) ∧ maps = rs.map (fun r => toMap r.region) ∧ Sorted mem
  | .add r, mem, maps =>
      mem = insertSorted (toMem r.region) s.regions ∧ maps = s.mappings ++ [toMap r.region] ∧ Sorted mem
  | .remove g sz, mem, maps =>
      removeRegion g sz s.regions = some mem ∧ maps = s.mappings.filter (fun m => m.gpaBase != g)

/-- a request is refused and changes nothing, or installs a table, shows it to the backend once and answers Ok -/
theorem step_cases (s : St) (op : Op) :
    step s op = (s, false) ∨
    ∃ mem maps, step s op = (⟨mem, maps, s.notified ++ [mem]⟩, true) ∧ Installs s op mem maps := by
  cases op with
  | setTable rs =>
    simp only [step, setMemTable]
    split
    · exact .inl rfl
    · rename_i regs maps hb
      split
      · exact .inl rfl
      · rename_i mem hf
        obtain ⟨e1, e2, _⟩ := buildAll_some hb
        obtain ⟨rfl, hsrt, _⟩ := fromRegions_some hf
        exact .inr ⟨_, _, rfl, e1, e2, hsrt⟩
  | add r =>
    simp only [step, addMemRegion]
    split
    · exact .inl rfl
    · rename_i g hm
      split
      · exact .inl rfl
      · rename_i mem hi
        obtain ⟨rfl, _⟩ := mmapRegion_some hm
        obtain ⟨rfl, hsrt, _⟩ := fromRegions_some hi
        exact .inr ⟨_, _, rfl, rfl, rfl, hsrt⟩
  | remove g sz =>
    simp only [step, removeMemRegion]
    split
    · exact .inl rfl
    · rename_i mem hr
      exact .inr ⟨_, _, rfl, hr, rfl⟩

theorem step_failed (s : St) (op : Op) (h : (step s op).2 = false) : (step s op).1 = s := by
  obtain e | ⟨_, _, e, _⟩ := step_cases s op
  · rw [e]
  · rw [e] at h; cases h

/-! ### the refinement relation -/

/-- the handler's state `s` represents the property's table `T` -/
structure Rel (s : St) (T : List Spec.MemTable.Region) : Prop where
  regions : s.regions.Perm (T.map toMem)
  mappings : s.mappings.Perm (T.map toMap)
  sorted : Sorted s.regions

theorem rel_init : Rel St.init [] := ⟨by simp [St.init], by simp [St.init], by simp [St.init, Sorted]⟩

/-- in a table represented by a sorted collection the keys `gpa` and `(gpa, size)` select the same entries once a region
`(g, sz)` is known to be there -/
theorem rel_key {s : St} {T : List Spec.MemTable.Region} (h : Rel s T) {g sz : Nat} {x : Region} (hx : x ∈ s.regions)
    (hxg : x.gpa = g) (hxs : x.size = sz) : ∀ y ∈ T, (!(y.gpa == g && y.size == sz)) = (y.gpa != g) := by
  intro y hy
  by_cases hyg : y.gpa = g
  · have hm : toMem y ∈ s.regions := (h.regions.mem_iff).mpr (List.mem_map_of_mem hy)
    have hxy : toMem y = x := pairwise_key_inj (sorted_gpa_ne h.sorted) hm hx (by simp [toMem, hyg, hxg])
    have : y.size = sz := by rw [← hxs, ← hxy]; rfl
    simp [hyg, this]
  · simp [hyg, bne]

theorem rel_step {s : St} {T : List Spec.MemTable.Region} (h : Rel s T) (op : Op) :
    Rel (step s op).1 (if (step s op).2 then Spec.MemTable.apply T op else T) := by
  obtain e | ⟨mem, maps, e, hi⟩ := step_cases s op <;> rw [e]
  · exact h
  · cases op with
    | setTable rs =>
      obtain ⟨rfl, rfl, hsrt⟩ := hi
      exact ⟨by simp [Spec.MemTable.apply, Function.comp_def], by simp [Spec.MemTable.apply, Function.comp_def], hsrt⟩
    | add r =>
      obtain ⟨rfl, rfl, hsrt⟩ := hi
      refine ⟨?_, ?_, hsrt⟩
      · show (insertSorted _ s.regions).Perm (List.map toMem (T ++ [r.region]))
        rw [List.map_append]
        exact (insertSorted_perm _ s.regions).trans (List.Perm.append_right _ h.regions)
      · show (s.mappings ++ _).Perm (List.map toMap (T ++ [r.region]))
        rw [List.map_append]
        exact List.Perm.append_right _ h.mappings
    | remove g sz =>
      obtain ⟨hr, rfl⟩ := hi
      have hsrt := removeRegion_sorted h.sorted hr
      obtain ⟨rfl, x, hx, hxg, hxs⟩ := removeRegion_eq_filter (sorted_gpa_ne h.sorted) hr
      have hkey := rel_key h hx hxg hxs
      have hT : ∀ p : Spec.MemTable.Region → Bool, (∀ y, p y = (y.gpa != g)) →
          T.filter p = T.filter (fun y => !(y.gpa == g && y.size == sz)) :=
        fun p hp => List.filter_congr (fun y hy => (hp y).trans (hkey y hy).symm)
      refine ⟨?_, ?_, hsrt⟩
      · have h1 := h.regions.filter (fun r => r.gpa != g)
        rwa [List.filter_map, hT (_ ∘ toMem) (fun _ => rfl)] at h1
      · have h1 := h.mappings.filter (fun m => m.gpaBase != g)
        rwa [List.filter_map, hT (_ ∘ toMap) (fun _ => rfl)] at h1

/-! ### runs -/
theorem rel_run {s : St} {T : List Spec.MemTable.Region} (h : Rel s T) (ops : List Op) :
    Rel (run s ops).1 (Spec.MemTable.foldSuccesses T (ops.zip (run s ops).2)) := by
  induction ops generalizing s T with
  | nil => simpa [run, Spec.MemTable.foldSuccesses] using h
  | cons op ops ih =>
    have hst := rel_step h op
    simp only [run]
    cases hok : (step s op).2 with
    | true =>
      simp only [hok, if_true] at hst
      have := ih hst
      simpa [List.zip_cons_cons, Spec.MemTable.foldSuccesses, hok] using this
    | false =>
      simp only [hok] at hst
      have := ih hst
      simpa [List.zip_cons_cons, Spec.MemTable.foldSuccesses, hok] using this

theorem run_length (s : St) (ops : List Op) : (run s ops).2.length = ops.length := by
  induction ops generalizing s with
  | nil => rfl
  | cons op ops ih => simp [run, ih]

/-! ### region lookup -/
theorem contains_iff (r : Region) (g : Nat) : r.contains g = true ↔ r.gpa ≤ g ∧ g < r.gpa + r.size := by
  simp [Region.contains]

theorem find_unique {l : List Region} (hs : Sorted l) {x : Region} (hx : x ∈ l) {g : Nat}
    (hc : x.contains g = true) : findRegion l g = some x := by
  unfold findRegion
  induction l with
  | nil => cases hx
  | cons a l ih =>
    unfold Sorted at hs
    rw [List.pairwise_cons] at hs
    rcases List.mem_cons.mp hx with rfl | hx'
    · simp [hc]
    · have hlt := hs.1 x hx'
      have : a.contains g = false := by
        rw [contains_iff] at hc
        cases hca : a.contains g with
        | false => rfl
        | true =>
          rw [contains_iff] at hca
          unfold Region.lastAddr at hlt
          omega
      simp only [List.find?_cons, this]
      exact ih hs.2 hx'

theorem find_none {l : List Region} {g : Nat} (h : ∀ x ∈ l, x.contains g = false) : findRegion l g = none := by
  unfold findRegion
  rw [List.find?_eq_none]
  intro x hx
  simp [h x hx]

/-! ### translation -/
def AddrMapping.containsVa (m : AddrMapping) (va : Nat) : Prop := m.vmmAddr ≤ va ∧ va < m.vmmAddr + m.size

theorem translate_some {ms : List AddrMapping} {va g : Nat} (h : translate ms va = some g) :
    ∃ pre m post, ms = pre ++ m :: post ∧ (∀ x ∈ pre, ¬ AddrMapping.containsVa x va) ∧
      AddrMapping.containsVa m va ∧ g = m.gpaBase + (va - m.vmmAddr) := by
  induction ms with
  | nil => simp [translate] at h
  | cons m ms ih =>
    unfold translate at h
    split at h
    · rename_i hc
      cases h
      exact ⟨[], m, ms, rfl, by simp, hc, by omega⟩
    · rename_i hc
      obtain ⟨pre, m', post, e, hp, hm, hg⟩ := ih h
      refine ⟨m :: pre, m', post, by simp [e], ?_, hm, hg⟩
      intro x hx
      rcases List.mem_cons.mp hx with rfl | hx'
      · exact hc
      · exact hp x hx'

theorem translate_none {ms : List AddrMapping} {va : Nat} (h : translate ms va = none) :
    ∀ m ∈ ms, ¬ AddrMapping.containsVa m va := by
  induction ms with
  | nil => simp
  | cons m ms ih =>
    unfold translate at h
    split at h
    · cases h
    · rename_i hc
      intro x hx
      rcases List.mem_cons.mp hx with rfl | hx'
      · exact hc
      · exact ih h x hx'

theorem translate_ok {s : St} {T : List Spec.MemTable.Region} (h : Rel s T) (va : Nat) :
    Spec.MemTable.translateOk T va (translate s.mappings va) := by
  have hmem : ∀ m, m ∈ s.mappings ↔ ∃ r ∈ T, toMap r = m := by
    intro m; rw [h.mappings.mem_iff, List.mem_map]
  cases ht : translate s.mappings va with
  | none =>
    intro r hr
    exact translate_none ht (toMap r) ((hmem _).mpr ⟨r, hr, rfl⟩)
  | some g =>
    obtain ⟨pre, m, post, e, _, hm, hg⟩ := translate_some ht
    have : m ∈ s.mappings := by rw [e]; simp
    obtain ⟨r, hr, rfl⟩ := (hmem m).mp this
    exact ⟨r, hr, hm, hg⟩

theorem translate_first {pre post : List AddrMapping} {m : AddrMapping} {va : Nat}
    (hp : ∀ x ∈ pre, ¬ AddrMapping.containsVa x va) (hm : AddrMapping.containsVa m va) :
    translate (pre ++ m :: post) va = some (m.gpaBase + (va - m.vmmAddr)) := by
  induction pre with
  | nil =>
    have : m.vmmAddr ≤ va ∧ va < m.vmmAddr + m.size := hm
    simp only [List.nil_append, translate, this, and_self, if_true]
    congr 1; omega
  | cons x pre ih =>
    have hx : ¬ (x.vmmAddr ≤ va ∧ va < x.vmmAddr + x.size) := hp x (by simp)
    simp only [List.cons_append, translate, hx, if_false]
    exact ih (fun y hy => hp y (List.mem_cons_of_mem _ hy))

/-- the validity rule of the message layer (`Spec.validRegion`), as far as a translation entry records it -/
def MappingValid (m : AddrMapping) : Prop := ∃ off, Spec.validRegion m.gpaBase m.size m.vmmAddr off

theorem translateChecked_eq {ms : List AddrMapping} (hv : ∀ m ∈ ms, MappingValid m) (va : Nat) :
    translateChecked ms va = (match translate ms va with | some g => .ok g | none => .missing) ∧
    (∀ g, translate ms va = some g → g < 2^64) := by
  induction ms with
  | nil => simp [translateChecked, translate]
  | cons m ms ih =>
    obtain ⟨off, h0, h1, h2, _⟩ := hv m (by simp)
    have ih' := ih (fun x hx => hv x (List.mem_cons_of_mem _ hx))
    unfold translateChecked translate
    by_cases ha : m.vmmAddr ≤ va
    · by_cases hb : va < m.vmmAddr + m.size
      · have hlt : va - m.vmmAddr + m.gpaBase < 2^64 := by omega
        simp only [ha, h2, hb, hlt, and_self, if_true]
        refine ⟨trivial, ?_⟩
        intro g hg; cases hg; exact hlt
      · simp only [ha, h2, hb, and_false, if_true, if_false]
        exact ih'
    · simp only [ha, false_and, if_false]
      exact ih'

end Lemmas.MemTable
