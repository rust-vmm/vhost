import VhostModel.Lemmas.Decode
import VhostModel.Gen.Helpers
/-!
# Lemmas for `Props.Helpers`: bits, the interpreter of the guard programs, field reads, and the decoders of
`Model.Msgs` on a prefix of the buffer

* `(x &&& 2^i != 0) = x.testBit i` (the header accessors of `message.rs` vs `Model.BackendSrv.bitSet`);
* `run_check`, `run_last`, `run_skip`, `run_decode`: `HelperSig.run` one step at a time, for a program whose checks return
  one error: it passes iff the conjunction of the negated checks holds, each step defined by what passed before it;
* `check_request_size_run`, `extract_request_body_run`: the two programs `frontend_req_handler.rs` has as well, in any
  environment (`Props.Helpers` and `Props.ProxyOps` instantiate them);
* a field that lies inside the buffer is read by `getField` as `some (g …)`; `g` is below `256^width`;
* `bodyValid "<Ty>" (buf.take n)` is `some true` iff the validator accepts the record built from the naturals `g` reads
  from `buf` — the `Option`-valued decoding of the model vs. the explicit length comparison + validator call of the source.
-/
namespace Lemmas.Helpers
open Base HelperSig Model.Msgs Model.BackendSrv Gen Gen.Helpers
open Lemmas.Decode Lemmas.BackendSrv Lemmas.Layouts Lemmas.Owed

/-! ## bits -/

theorem and_two_pow_bne_zero (x i : Nat) : (x &&& 2 ^ i != 0) = x.testBit i := by
  rw [Base.and_two_pow]
  cases x.testBit i
  · rfl
  · simp

theorem and_two_pow_beq_zero (x i : Nat) : (x &&& 2 ^ i == 0) = !x.testBit i := by
  rw [← and_two_pow_bne_zero, bne, Bool.not_not]

theorem and3_eq_mod (x : Nat) : x &&& 3 = x % 4 := Nat.and_two_pow_sub_one_eq_mod x 2

/-- a check `a < b` against a model that tests `b ≤ a` -/
theorem decide_lt_eq_not (a b : Nat) : decide (a < b) = !decide (b ≤ a) := by
  simp only [← decide_not, Nat.not_le]

/-! ## `HelperSig.run`, one step at a time -/

section run
variable {ε : Type} {bl : ε → Nat} {s : String} {f d : ε → Bool} {e : HErr} {rest : List (Step ε)} {x : ε}

/-- a check whose arithmetic is defined, written as the negation of `b`, in front of steps that pass on `ok` once it
has: the hypotheses of `hr` are what the checks passed so far establish, and are what keeps the later reads and
subtractions from a `fault` -/
theorem run_check (b ok : Bool) (hd : d x = true) (hf : f x = !b)
    (hr : b = true → run bl rest x = if ok then .pass else .err e) :
    run bl (.check s f d e :: rest) x = if b && ok then .pass else .err e := by
  simp only [run, hd, hf]
  cases b
  · rfl
  · exact hr rfl

/-- … in front of steps that pass once it has -/
theorem run_last (b : Bool) (hd : d x = true) (hf : f x = !b) (hr : b = true → run bl rest x = .pass) :
    run bl (.check s f d e :: rest) x = if b then .pass else .err e := by
  rw [← Bool.and_true b]
  exact run_check b true hd hf hr

/-- a step that only records defined arithmetic -/
theorem run_skip (hd : d x = true) (hf : f x = false) : run bl (.check s f d e :: rest) x = run bl rest x := by
  simp only [run, hd, hf]
  rfl

theorem run_decode {ty : String} {off len : ε → Nat} (h : off x + len x ≤ bl x) :
    run bl (.decode ty off len :: rest) x = run bl rest x := if_pos h

end run

/-! ## the two programs that the frontend's request server has as well (`check_msg_size`, `extract_msg_body`) -/

/-- their size test: both sizes as expected, not a reply, version 1 (`Model.FrontendSrv.checkSize` unfolds to it) -/
def sizeOk (hs fl size expected : Nat) : Bool := hs == expected && !fl.testBit 2 && fl % 4 == 1 && size == expected

theorem size_cond (hs fl size expected : Nat) :
    ((((hs != expected) || ((fl &&& 4) != 0)) || ((fl &&& 3) != 1)) || (size != expected)) =
      !sizeOk hs fl size expected := by
  have hb := and_two_pow_bne_zero fl 2
  simp only [Nat.reducePow] at hb
  rw [hb, and3_eq_mod]
  simp only [sizeOk, Bool.not_and, Bool.not_not, bne]

theorem check_request_size_run (x : HIn) :
    run check_request_size.bufLen check_request_size.steps x =
      if sizeOk x.hdrSize x.hdrFlags x.size x.expected then .pass else .err .invalidMessage :=
  run_last _ rfl (size_cond ..) fun _ => rfl

/-- `size` is `buf.len()` wherever the program is called, so the read of `T` lies inside the buffer once the size test
has passed -/
theorem extract_request_body_run (x : HIn) (hx : x.size ≤ x.bufLen) :
    run extract_request_body.bufLen extract_request_body.steps x =
      if sizeOk x.hdrSize x.hdrFlags x.size x.sizeOfT && x.msgValid then .pass else .err .invalidMessage := by
  refine run_check _ _ rfl (size_cond ..) fun h => (run_decode ?_).trans (run_last _ rfl rfl fun _ => rfl)
  simp only [sizeOk, Bool.and_eq_true, beq_iff_eq] at h
  show 0 + x.sizeOfT ≤ x.bufLen
  omega

/-! ## field reads -/

/-- a field inside the first `n` bytes is read from that prefix as `g` reads it from the whole buffer -/
theorem getField_take {bs : Bytes} {s : String} {p : List String} {off w : Nat} (n : Nat)
    (hf : fieldAt s p = some (off, w)) (hw : off + w ≤ n) (hn : n ≤ bs.length) :
    getField (bs.take n) s p = some (g bs s p) := by
  rw [getField_g hf rfl (by simp [List.length_take]; omega), g_take n hf hw hn]

/-! ## decoded messages as naturals -/

-- asked whether `g bs s p` is a field of one of the records below, the unifier would unfold `g` (and evaluate the layout
-- table on the literal names) before it unfolds the record
attribute [local irreducible] g

def memN (bs : Bytes) : VhostUserMemoryN := ⟨g bs "VhostUserMemory" ["num_regions"], g bs "VhostUserMemory" ["padding1"]⟩
def cfgN (bs : Bytes) : VhostUserConfigN :=
  ⟨g bs "VhostUserConfig" ["offset"], g bs "VhostUserConfig" ["size"], g bs "VhostUserConfig" ["flags"]⟩
def u64N (bs : Bytes) : VhostUserU64N := ⟨g bs "VhostUserU64" ["value"]⟩
def regionN (r : Bytes) : VhostUserMemoryRegionN :=
  ⟨g r "VhostUserMemoryRegion" ["guest_phys_addr"], g r "VhostUserMemoryRegion" ["memory_size"],
   g r "VhostUserMemoryRegion" ["user_addr"], g r "VhostUserMemoryRegion" ["mmap_offset"]⟩

theorem memN_lt (bs : Bytes) : (memN bs).num_regions < 2 ^ 32 := g_lt lay_memory.2.1

theorem cfgN_lt (bs : Bytes) : (cfgN bs).offset < 2 ^ 32 ∧ (cfgN bs).size < 2 ^ 32 ∧ (cfgN bs).flags < 2 ^ 32 :=
  ⟨g_lt lay_config.2.1, g_lt lay_config.2.2.1, g_lt lay_config.2.2.2⟩

theorem bodyValid_memory_take {bs : Bytes} (h : 8 ≤ bs.length) :
    Gen.VhostUserMemory.isValid (memN bs).bv = (bodyValid "VhostUserMemory" (bs.take 8) == some true) := by
  have hl : (bs.take 8).length = 8 := by simp [List.length_take]; omega
  rw [Bool.eq_iff_iff, beq_iff_eq]
  simp [bodyValid, decMemory, lay_memory.1, hl, getField_take 8 lay_memory.2.1 (by omega) h,
    getField_take 8 lay_memory.2.2 (by omega) h, memN, VhostUserMemoryN.bv, bv]

theorem bodyValid_config_take {bs : Bytes} (h : 12 ≤ bs.length) :
    Gen.VhostUserConfig.isValid (cfgN bs).bv = (bodyValid "VhostUserConfig" (bs.take 12) == some true) := by
  have hl : (bs.take 12).length = 12 := by simp [List.length_take]; omega
  rw [Bool.eq_iff_iff, beq_iff_eq]
  simp [bodyValid, decConfig, lay_config.1, hl, getField_take 12 lay_config.2.1 (by omega) h,
    getField_take 12 lay_config.2.2.1 (by omega) h, getField_take 12 lay_config.2.2.2 (by omega) h, cfgN,
    VhostUserConfigN.bv, bv]

theorem bodyValid_region_full {r : Bytes} (h : r.length = 32) :
    bodyValid "VhostUserMemoryRegion" r = some (Gen.VhostUserMemoryRegion.isValid (regionN r).bv) := by
  have L := lay_region
  simp [bodyValid, decRegion, decRegionAt, L.1, h, getField_g L.2.1 h, getField_g L.2.2.1 h, getField_g L.2.2.2.1 h,
    getField_g L.2.2.2.2 h, regionN, VhostUserMemoryRegionN.bv, bv]

end Lemmas.Helpers
