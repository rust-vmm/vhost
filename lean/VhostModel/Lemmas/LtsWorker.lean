import VhostModel.Model.LtsTable
/-!
# Reading the segments of the worker loop in `Model.Worker` (C12, worker side)

`evsW` interprets a residual program of `Base.LtsSig` (a segment of `VringEpollHandler::run`) on the state of
`Model.Worker`, event by event, until the next hold point.

Reading conventions of this model (header of `Model/Worker.lean`):
* one ring, whose events are the only ones the worker sees: `epoll.wait` returns (with one event, the ring's) iff a
  registered descriptor is readable, else it blocks; it does not fail (`EINTR` and the exit event are not this model's);
  the event word is known (`Some(evset)`); `device_event` is the ring's index (`exitCond` false, `isRing` true);
* `consume` on a counter that is zero is `EAGAIN` (`WouldBlock`), no other failure; on a positive counter it zeroes it;
* `backend.handle_event` succeeds;
* a hold point sets the model's program counter: `worker.wait ↦ wait`, `worker.woken ↦ woken`, `worker.pre_read ↦ checked`,
  `worker.dispatch ↦ toDispatch`; the model has no state for `worker.read_kick` (`Props.LtsSteps.worker_steps_are_segments`
  runs the two segments around it one after the other; `worker_read_kick_local`: the second one looks at the local
  `enabled` only);
* an error that leaves `run` ends the thread: `workerExit`, `dead`;
* the ghost fields are set where the model sets them: `clean` when `epoll.wait` returns, `chkStale` at `worker.pre_read`,
  `rdStale` at `worker.dispatch`, the `consumed` record when `read_kick` returns after a successful `consume`, the `disp`
  record with the handler call.
-/
namespace Lemmas.LtsWorker
open Base Model.Worker Spec.KickDelivery Model.LtsTable

inductive Flow where
  | run
  | held (n : String)
  | ret (v : Bool)
  | retErr
  | brk
  | brkTo (l : String)
  | again
  | blocked
  /-- a loop came round without reaching a hold point: not interpreted -/
  | spin
  deriving DecidableEq, Repr

structure WS where
  st : St
  flow : Flow
  /-- `enabled` of `handle_event` -/
  enabledLoc : Bool
  /-- `Ok(v)` of the last helper call -/
  retv : Bool
  /-- `kick.consume()` returned `WouldBlock` -/
  wouldBlock : Bool
  /-- ghost: `read_kick` read the counter -/
  consumed : Bool
  /-- the event at hand is the thread's exit event (not an event of `Model.Worker`; read by `Props.LtsSteps.worker_exit_partial`
  only) -/
  exitEvt : Bool := false

def startW (st : St) : WS := ⟨st, .run, false, false, false, false, false⟩

def holdW (n : String) (s : WS) : WS :=
  { s with
    flow := .held n
    st := if n = "worker.wait" then { s.st with wpc := .wait }
          else if n = "worker.woken" then { s.st with wpc := .woken }
          else if n = "worker.pre_read" then { s.st with wpc := .checked, chkStale := false }
          else if n = "worker.dispatch" then { s.st with wpc := .toDispatch, rdStale := false }
          else s.st }

def actW (a : LAct) (s : WS) : WS :=
  match a with
  | .hold n => holdW n s
  | .epollWait =>
    if readyAny s.st then { s with st := { s.st with clean := !pendingDel s.st } } else { s with flow := .blocked }
  | .consume p =>
    match s.st.kick with
    | some k =>
      if s.st.cnt k = 0 then (if p then { s with flow := .retErr } else { s with wouldBlock := true })
      else { s with st := { s.st with cnt := upd s.st.cnt k 0 }, consumed := true, wouldBlock := false }
    | none => s
  | .backendHandleEvent _ =>
    let p := period s.st.trace
    { s with st := emit { s.st with glog := s.st.glog ++ [.disp p.forbD p.forbS s.st.rdStale s.st.chkStale] } .dispatch }
  | .cont _ => { s with flow := .again }
  | .brkTo l => { s with flow := .brkTo l }
  | .h .brk => { s with flow := .brk }
  | .h (.okValue v) =>
    { s with flow := .ret (if v = "true" then true else if v = "self.enabled" then s.st.enabled else false) }
  | .h .ok => { s with flow := .ret false }
  | .h (.err _) => { s with flow := .retErr }
  | _ => s

def condW (c : String) (s : WS) : Bool :=
  if c = notReady then !s.st.ready
  else if c = "!self.enabled" then !s.st.enabled
  else if c = "!enabled" then !s.enabledLoc
  else if c = "self.handle_event(ev_type, evset)?" then s.retv
  else if c = isRing then true
  else if c = exitCond then s.exitEvt
  else false

/-- does the arm `pat if guard` take the value of `scrut`? -/
def armOkW (scrut pat : String) (s : WS) : Bool :=
  if scrut = "kick.consume()" then (if pat = "Err(e)" then s.wouldBlock else true)
  else pat = "Ok(res)" || pat = "Some(evset)"

def isArmW (scrut : String) (s : WS) : LEvent → Bool
  | .node .arm ss _ _ => armOkW scrut (ss.headD "") s
  | _ => false

/-- ghost: what the model records when `read_kick` returns `Ok(v)` after it read the counter -/
def noteConsumed (v : Bool) (st : St) : St :=
  if v then emit st (.consumed true) else emit { st with glog := st.glog ++ [.dropped st.clean] } (.consumed false)

def afterReadKick (s : WS) : WS :=
  match s.flow with
  | .ret v => { s with st := if s.consumed then noteConsumed v s.st else s.st, flow := .run, enabledLoc := v, consumed := false }
  | _ => s

def afterCallW (p : Bool) (s : WS) : WS :=
  match s.flow with
  | .ret v => { s with flow := .run, retv := v }
  | .retErr => if p then s else { s with flow := .run }
  | _ => s

/-- the end of the iterations of a `for` (one event per batch: there is no further element) -/
def endFor (s : WS) : WS :=
  match s.flow with
  | .again | .brk => { s with flow := .run }
  | _ => s

/-- an iteration of `loop` ended -/
def endLoop (l : String) (s : WS) : WS :=
  match s.flow with
  | .brk => { s with flow := .run }
  | .brkTo l' => if l' = l then { s with flow := .run } else s
  | .run | .again => { s with flow := .spin }
  | _ => s

mutual
def evW : LEvent → WS → WS
  | .act a, s => actW a s
  | .node k ss b1 b2, s =>
    match k with
    | .ifCond => if condW (ss.headD "") s then evsW b1 s else evsW b2 s
    | .ifSome =>
      (match s.st.kick with
       | some _ => evsW b1 s
       | none => evsW b2 s)
    | .readKick => afterReadKick (evsW b1 s)
    | .helperCall p => afterCallW p (evsW b1 s)
    | .matchOn => armsW (ss.getD 1 "") b1 s
    | .arm => evsW b2 s
    | .forEach => endFor (evsW b1 s)
    | .forFrom => endFor (evsW b1 s)
    | .loop => endLoop (ss.headD "") (evsW b1 s)
    | .loopFrom =>
      let s1 := evsW b1 s
      (match s1.flow with
       | .run | .again => endLoop (ss.headD "") (evsW b2 { s1 with flow := .run })
       | .brk => { s1 with flow := .run }
       | .brkTo l' => if l' = ss.headD "" then { s1 with flow := .run } else s1
       | _ => s1)
    | _ => s
def evsW : List LEvent → WS → WS
  | [], s => s
  | e :: es, s =>
    match (evW e s).flow with
    | .run => evsW es (evW e s)
    | _ => evW e s
def armsW (scrut : String) : List LEvent → WS → WS
  | [], s => s
  | e :: es, s => if isArmW scrut s e then evW e s else armsW scrut es s
end

def finishW (s0 : St) (s : WS) : Option St :=
  match s.flow with
  | .held _ => some s.st
  | .blocked => some s0
  | .retErr => some (emit { s.st with wpc := .dead } .workerExit)
  | _ => none

/-! ## the three repairs and the mutation as edits of the source -/

/-- commit b54e7e9 (fix-c12-lost-kick) reverted: `read_kick` without the early return of a disabled ring -/
def revLost : LEvent → Option (List LEvent)
  | .node .ifCond ["!self.enabled"] [.act (.h (.okValue "false"))] [] => some []
  | _ => none

/-- commit e4698fd (fix-c12-stale-eagain) reverted: `kick.consume()?;` instead of the `match` with the `WouldBlock` arm -/
def revEagain : LEvent → Option (List LEvent)
  | .act (.consume false) => some [.act (.consume true)]
  | .node .matchOn ["", "kick.consume()"] _ _ => some []
  | _ => none

/-- commit 2d45ace (fix-c12-stopped-dispatch) reverted: `handle_event` without the test of `ready()` -/
def revStopped : LEvent → Option (List LEvent)
  | .node .ifCond [c] [.act (.h (.okValue "false"))] [] => if c = notReady then some [] else none
  | _ => none

/-- the segments of configuration `cfg`: the repairs that are switched off, reverted -/
def edit (cfg : Cfg) (es : List LEvent) : List LEvent :=
  let e1 := if cfg.fixLost then es else LSeg.rewriteL revLost es
  let e2 := if cfg.fixEagain then e1 else LSeg.rewriteL revEagain e1
  if cfg.fixStopped then e2 else LSeg.rewriteL revStopped e2

/-! ## the edited segments, computed -/

def readKickBodyOf (lost eagain : Bool) : List LEvent :=
  [.vringGet "get_ref" ""] ++
  (if lost then [.ifCond "!self.enabled" [.okValue "false"] []] else []) ++
  [.ifSome "&self.kick"
    (if eagain then [
      .consume false,
      .matchOn "" "kick.consume()" [
        .arm "Err(e)" "e.kind() == io::ErrorKind::WouldBlock" [] [.okValue "false"],
        .arm "res" "" [] [.propagate "res"]]]
     else [.consume true]) [],
   .okValue "self.enabled"]

def segPreReadOf (lost eagain : Bool) : List LEvent :=
  inHandleEvent [.readKick "HandleEventReadKick" "enabled" (readKickBodyOf lost eagain), .hold "worker.read_kick"] [] []

def segWokenOf (stopped : Bool) : List LEvent :=
  inHandleEvent [
    .ifCond exitCond [.okValue "true"] [],
    .ifCond isRing
      ([.bind "vring" "&self.vrings[device_event as usize]"] ++
       (if stopped then [.ifCond notReady [.okValue "false"] []] else []) ++
       [.hold "worker.pre_read"]) [],
    .hold "worker.dispatch"] exitCheck [.ok]

theorem edit_eq_self (cfg : Cfg) {es : List LEvent} (hl : LSeg.rewriteL revLost es = es)
    (he : LSeg.rewriteL revEagain es = es) (hs : LSeg.rewriteL revStopped es = es) : edit cfg es = es := by
  simp only [edit, hl, he, hs, ite_self]

theorem edit_segWait (cfg : Cfg) : edit cfg segWait = segWait := edit_eq_self cfg (by rfl) (by rfl) (by rfl)

theorem edit_segReadKick (cfg : Cfg) : edit cfg segReadKick = segReadKick := edit_eq_self cfg (by rfl) (by rfl) (by rfl)

theorem edit_segDispatch (cfg : Cfg) : edit cfg segDispatch = segDispatch := edit_eq_self cfg (by rfl) (by rfl) (by rfl)

theorem edit_segWoken (cfg : Cfg) : edit cfg segWoken = segWokenOf cfg.fixStopped := by
  have hl : LSeg.rewriteL revLost segWoken = segWoken := by rfl
  have he : LSeg.rewriteL revEagain segWoken = segWoken := by rfl
  simp only [edit, hl, he, ite_self]
  cases cfg.fixStopped <;> rfl

theorem edit_segPreRead (cfg : Cfg) : edit cfg segPreRead = segPreReadOf cfg.fixLost cfg.fixEagain := by
  obtain ⟨a, b, c, d⟩ := cfg
  cases a <;> cases b <;> cases c <;> rfl

end Lemmas.LtsWorker
