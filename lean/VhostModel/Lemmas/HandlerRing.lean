import VhostModel.Model.RingReg
import VhostModel.Lemmas.HandlerTable
/-!
# Reading the handler's rows in `Model.RingReg` (C11)

`evsR` interprets a list of events of `Base.HandlerSig` on the state of `Model.RingReg` (`St`: ring flags, the worker's
epoll set), event by event: the state changes on the vring object (`set_enabled`, `set_queue_ready`, `set_kick`,
`set_call`), and the private helpers `update_vring_registration`, `unregister_vring_kick`, `initialize_vring` *through
their own events* down to `epollRegister` / `epollUnregister`.

Reading conventions of this model (header of `Model/RingReg.lean`):
* one worker owns every ring: the loop over `self.queues_per_thread` runs its body once, and the mask test
  `shifted_queues_mask & 1u64 == 1u64` holds (routing to several workers is C17's subject); `index as u8` is `index`;
* `set_kick` drops the previous `EventConsumer`: the descriptor is closed (`closeFd`);
* `epollRegister`: `EPOLL_CTL_ADD` with `EEXIST` tolerated, no other failure; `epollUnregister`: `EPOLL_CTL_DEL`, result ignored;
* the model keeps bit 30 of `acked_features` only (`ackedH`) and has no offered set (every feature is offered);
* queue configuration, the backend callbacks and the memory table are not this model's.
-/
namespace Lemmas.HandlerRing
open Base Model.RingReg
open Model.HandlerTable (cond val row threadLoop updateRegBody unregisterKickBody initializeVringBody)
open Spec.RingAutomaton (Evt Msg upd)

local notation "tUpdateReg" => Model.HandlerTable.updateReg
local notation "tInitializeVring" => Model.HandlerTable.initializeVring
local notation "tNeedsInit" => Model.HandlerTable.needsInit

/-- `Ok(())`, the reply of GET_VRING_BASE, `Err(_)` -/
inductive HRes where
  | ok
  | base (r v : Nat)
  | err
  deriving DecidableEq, Repr

inductive Flow where
  | run
  | brk
  | ret (r : HRes)
  deriving DecidableEq

structure RS where
  st : St
  /-- `index` -/
  r : Nat
  /-- arguments and locals -/
  x : HIn
  /-- the `file` argument -/
  file : Option Evt
  /-- `fd` of `if let Some(fd) = vring_state.get_kick()` -/
  fd : Option Evt
  flow : Flow

def sync (s : RS) : HIn :=
  { s.x with
    ring_ready := (s.st.ring s.r).ready
    ring_enabled := (s.st.ring s.r).enabled
    ring_kick_some := (s.st.ring s.r).kick.isSome
    acked_features := if s.st.ackedH then 0x40000000 else 0
    backend_features := 18446744073709551615 }

def fail (s : RS) : RS := { s with flow := .ret .err }

def fdArg (s : RS) (a : String) : Option Evt := if a = "file" then s.file else none

def vringCallR (s : RS) (m : String) (a : String) : RS :=
  if m = "set_enabled" then { s with st := setRing s.st s.r { s.st.ring s.r with enabled := cond a (sync s) } }
  else if m = "set_queue_ready" then { s with st := setRing s.st s.r { s.st.ring s.r with ready := cond a (sync s) } }
  else if m = "set_kick" then
    let oldk := (s.st.ring s.r).kick
    let s2 := setRing s.st s.r { s.st.ring s.r with kick := fdArg s a }
    { s with st := match oldk with
                   | some k => closeFd s2 k
                   | none => s2 }
  else if m = "set_call" then { s with st := setRing s.st s.r { s.st.ring s.r with call := fdArg s a } }
  else s

def actR (a : HAct) (s : RS) : RS :=
  match a with
  | .indexBound _ => if s.r < s.st.n then s else fail s
  | .featureAcked _ _ => if !s.st.ackedH then fail s else s
  | .valueCheck c _ => if cond c (sync s) then fail s else s
  | .setField n v =>
    if n = "acked_features" then { s with st := { s.st with ackedH := (val v (sync s)).testBit 30 } } else s
  | .vringCall m [a] => vringCallR s m a
  | .vringGet m _ =>
    if m = "queue_next_avail" then { s with x := { s.x with next_avail := s.st.base s.r } } else s
  | .epollRegister _ _ =>
    match s.fd with
    | some fd => { s with st := epollAdd s.st fd s.r }
    | none => s
  | .epollUnregister =>
    match s.fd with
    | some fd => { s with st := epollDel s.st fd }
    | none => s
  | .brk => { s with flow := .brk }
  | .ok | .done => { s with flow := .ret .ok }
  | .okValue _ => { s with flow := .ret (.base s.r s.x.next_avail) }
  | .err _ => fail s
  | _ => s

/-- back in the caller: the helper's `Ok` is consumed, its error travels on if the call propagates it; `fd` was the
helper's own variable -/
def afterCall (p : Bool) (s0 s : RS) : RS :=
  match s.flow with
  | .ret .err => if p then { s with fd := s0.fd } else { s with fd := s0.fd, flow := .run }
  | _ => { s with fd := s0.fd, flow := .run }

def threads : String := "self.queues_per_thread.iter().enumerate()"
def ownsRing : String := "shifted_queues_mask & 1u64 == 1u64"

mutual
def evR : HEvent → RS → RS
  | .act a, s => actR a s
  | .helperCall _ _ p body, s => afterCall p s (evsR body s)
  | .forEachVring body, s =>
    let s' := (List.range s.st.n).foldl
      (fun s i => match s.flow with
        | .run => evsR body { s with r := i }
        | _ => s) s
    { s' with r := s.r }
  | .forEach c body, s =>
    if c = threads then
      let s' := evsR body s
      match s'.flow with
      | .brk => { s' with flow := .run }
      | _ => s'
    else s
  | .ifCond c t f, s => if c = ownsRing then evsR t s else if cond c (sync s) then evsR t s else evsR f s
  | .ifSome w t f, s =>
    if w = "vring_state.get_kick()" then
      match (s.st.ring s.r).kick with
      | some fd => evsR t { s with fd := some fd }
      | none => evsR f s
    else s
def evsR : List HEvent → RS → RS
  | [], s => s
  | e :: es, s =>
    match (evR e s).flow with
    | .run => evsR es (evR e s)
    | _ => evR e s
end

def startR (st : St) (r : Nat) (x : HIn) (file : Option Evt) : RS := ⟨st, r, x, file, none, .run⟩

def resultR (s : RS) : St × HRes :=
  (s.st, match s.flow with
         | .ret r => r
         | _ => .ok)

/-- the events `evs` run as the handler's method on state `st` for ring `r` -/
def handleEvs (evs : List HEvent) (st : St) (r : Nat) (x : HIn) (file : Option Evt) : St × HRes :=
  resultR (evsR evs (startR st r x file))

/-- method `name` of the table -/
def handle (name : String) (st : St) (r : Nat) (x : HIn) (file : Option Evt) : St × HRes :=
  handleEvs (row name) st r x file

/-- the rule of `set_vring_kick` on the pinned tree (F-C11-rekick), as an edit of the row: the call of
`unregister_vring_kick` is absent and nothing is done when the ring needs no initialisation -/
def pinned : List HEvent → List HEvent
  | [] => []
  | .helperCall n a p b :: es => if n = "unregister_vring_kick" then pinned es else .helperCall n a p b :: pinned es
  | .ifCond c t f :: es => (if c = tNeedsInit then .ifCond c t [] else .ifCond c t f) :: pinned es
  | e :: es => e :: pinned es

theorem evsR_step {e : HEvent} {es : List HEvent} {s s1 : RS} (h : evR e s = s1) (hrun : s1.flow = .run) :
    evsR (e :: es) s = evsR es s1 := by
  simp only [evsR, h, hrun]

/-! ## the helpers -/

theorem cond_readyEnabled : cond "vring_state.get_queue().ready() && vring_state.is_enabled()" =
    (fun x => (x.ring_ready && x.ring_enabled)) := by table_lookup
theorem cond_needsInit : cond tNeedsInit = (fun x => ((!x.ring_ready) && x.ring_kick_some)) := HandlerVring.cond_needsInit
theorem cond_enable : cond "enable" = (fun x => x.enable) := HandlerVring.cond_enable
theorem cond_subset : cond "(features & !self.backend.features()) != 0" =
    (fun x => ((x.features &&& (18446744073709551615 - x.backend_features)) != 0)) := HandlerTable.cond_subset
theorem cond_noProto : cond "self.acked_features & VhostUserVirtioFeatures::PROTOCOL_FEATURES.bits() == 0" =
    (fun x => ((x.acked_features &&& 0x40000000) == 0)) := HandlerVring.cond_noProto
theorem val_features : val "features" = (fun x => x.features) := HandlerVring.val_features
theorem val_zero : val "0" = (fun _ => 0) := by table_lookup

/-- `update_vring_registration`, event by event, is `Model.RingReg.updateReg` -/
theorem evR_updateReg (idx : String) (s : RS) (hs : s.flow = .run) :
    evR (tUpdateReg idx) s = { s with st := updateReg s.st s.r } := by
  obtain ⟨st, r, x, file, fd, flow⟩ := s
  simp only at hs; subst hs
  cases hk : (st.ring r).kick <;> cases hc : ((st.ring r).ready && (st.ring r).enabled) <;>
    simp [Model.HandlerTable.updateReg, updateRegBody, threadLoop, evR, evsR, actR, hk, afterCall, Model.RingReg.updateReg,
      threads, ownsRing, cond_readyEnabled, sync, hc]

/-- `unregister_vring_kick`, event by event: the ring's current kick descriptor, if any, leaves the epoll set -/
theorem evR_unregister (s : RS) (hs : s.flow = .run) :
    evR (.helperCall "unregister_vring_kick" ["vring", "index"] false unregisterKickBody) s =
      { s with st := match (s.st.ring s.r).kick with
                     | some k => epollDel s.st k
                     | none => s.st } := by
  obtain ⟨st, r, x, file, fd, flow⟩ := s
  simp only at hs; subst hs
  cases hk : (st.ring r).kick with
  | none => simp [unregisterKickBody, threadLoop, evR, evsR, actR, hk, afterCall, threads, ownsRing]
  | some k => simp [unregisterKickBody, threadLoop, evR, evsR, actR, hk, afterCall, threads, ownsRing]

/-- `initialize_vring`, event by event, is `Model.RingReg.initializeVring` -/
theorem evR_initializeVring (s : RS) (hs : s.flow = .run) :
    evR tInitializeVring s = { s with st := initializeVring s.st s.r } := by
  obtain ⟨st, r, x, file, fd, flow⟩ := s
  simp only at hs; subst hs
  simp only [Model.HandlerTable.initializeVring, initializeVringBody, evR, evsR, actR, vringCallR, HandlerVring.cond_true]
  simp [evR_updateReg, afterCall, Model.RingReg.initializeVring, actR]

section run
variable (st : St) (r : Nat) (x : HIn) (file fd : Option Evt) (es : List HEvent)

theorem run_indexBound (e : String) :
    resultR (evsR (.indexBound e :: es) ⟨st, r, x, file, fd, .run⟩) =
      if r < st.n then resultR (evsR es ⟨st, r, x, file, fd, .run⟩) else (st, .err) := by
  by_cases h : r < st.n <;> simp [evsR, evR, actR, h, fail, resultR]

theorem run_checkFeature (a : List String) (bit : Nat) (e : String) :
    resultR (evsR (.helperCall "check_feature" a true [.featureAcked bit e] :: es) ⟨st, r, x, file, fd, .run⟩) =
      if !st.ackedH then (st, .err) else resultR (evsR es ⟨st, r, x, file, fd, .run⟩) := by
  cases h : st.ackedH <;> simp [evsR, evR, actR, afterCall, h, fail, resultR]

theorem run_ok : resultR (evsR (.ok :: es) ⟨st, r, x, file, fd, .run⟩) = (st, .ok) := rfl
theorem run_okValue (e : String) :
    resultR (evsR (.okValue e :: es) ⟨st, r, x, file, fd, .run⟩) = (st, .base r x.next_avail) := rfl

theorem vringCallR_flow (s : RS) (m a : String) : (vringCallR s m a).flow = s.flow := by
  simp only [vringCallR, apply_ite RS.flow, ite_self]

theorem evsR_vringCall (m a : String) :
    evsR (.vringCall m [a] :: es) ⟨st, r, x, file, fd, .run⟩ = evsR es (vringCallR ⟨st, r, x, file, fd, .run⟩ m a) := by
  simp only [evsR, evR, actR, vringCallR_flow]

theorem evsR_updateReg (idx : String) :
    evsR (tUpdateReg idx :: es) ⟨st, r, x, file, fd, .run⟩ = evsR es ⟨updateReg st r, r, x, file, fd, .run⟩ :=
  evsR_step (evR_updateReg idx _ rfl) rfl

theorem evsR_unregister :
    evsR (.helperCall "unregister_vring_kick" ["vring", "index"] false unregisterKickBody :: es) ⟨st, r, x, file, fd, .run⟩ =
      evsR es ⟨match (st.ring r).kick with
               | some k => epollDel st k
               | none => st, r, x, file, fd, .run⟩ :=
  evsR_step (evR_unregister _ rfl) rfl

/-- `if self.vring_needs_init(vring) { self.initialize_vring(..) } else { els }` -/
theorem evsR_needsInit (els : List HEvent) (st' : St)
    (hels : evsR els ⟨st, r, x, file, fd, .run⟩ = ⟨st', r, x, file, fd, .run⟩) :
    evsR (.ifCond tNeedsInit [tInitializeVring] els :: es) ⟨st, r, x, file, fd, .run⟩ =
      evsR es ⟨if needsInit st r then initializeVring st r else st', r, x, file, fd, .run⟩ := by
  have hc : cond tNeedsInit (sync ⟨st, r, x, file, fd, .run⟩) = needsInit st r := by rw [cond_needsInit]; rfl
  refine evsR_step ?_ rfl
  simp only [evR, hc]
  rw [if_neg (by simp [Model.HandlerTable.needsInit, ownsRing])]
  cases needsInit st r
  · exact hels
  · exact evsR_step (evR_initializeVring _ rfl) rfl

theorem evsR_act (a : HAct) (s : RS) (h : (actR a s).flow = .run) : evsR (.act a :: es) s = evsR es (actR a s) := by
  simp only [evsR, evR, h]

theorem evsR_bind (n e : String) :
    evsR (.bind n e :: es) ⟨st, r, x, file, fd, .run⟩ = evsR es ⟨st, r, x, file, fd, .run⟩ := rfl
theorem evsR_backendCall (m : String) (a : List String) :
    evsR (.backendCall m a :: es) ⟨st, r, x, file, fd, .run⟩ = evsR es ⟨st, r, x, file, fd, .run⟩ := rfl

theorem evsR_ifCond1 (c : String) (e : HEvent) (hc : c ≠ ownsRing) :
    evsR (.ifCond c [e] [] :: es) ⟨st, r, x, file, fd, .run⟩ =
      if cond c (sync ⟨st, r, x, file, fd, .run⟩) then evsR (e :: es) ⟨st, r, x, file, fd, .run⟩
      else evsR es ⟨st, r, x, file, fd, .run⟩ := by
  cases h : cond c (sync ⟨st, r, x, file, fd, .run⟩) <;>
    simp only [evsR, evR, if_neg hc, h, if_true, if_false, Bool.false_eq_true]
  cases hf : (evR e ⟨st, r, x, file, fd, .run⟩).flow <;> simp only [hf]

end run

/-! ## the loop over the vrings -/

theorem evsR_enableBody (b idx : String) (on : Bool) (hb : cond b = fun _ => on) (t : RS) (ht : t.flow = .run) :
    evsR [.vringCall "set_enabled" [b], tUpdateReg idx] t = { t with st := setEnabled t.st t.r on } := by
  obtain ⟨st, r, x, file, fd, flow⟩ := t
  simp only at ht; subst ht
  simp only [evsR, evR, actR, vringCallR, hb]
  simp [evR_updateReg, setEnabled]

theorem loop_setAll (b idx : String) (on : Bool) (hb : cond b = fun _ => on) (s : RS) (hs : s.flow = .run) (k : Nat) :
    ∃ j, (List.range k).foldl
      (fun s i => match s.flow with
        | .run => evsR [.vringCall "set_enabled" [b], tUpdateReg idx] { s with r := i }
        | _ => s) s = { s with st := setAll on s.st k, r := j } := by
  induction k with
  | zero => exact ⟨s.r, rfl⟩
  | succ k ih =>
    obtain ⟨j, hj⟩ := ih
    refine ⟨k, ?_⟩
    rw [List.range_succ, List.foldl_append, hj]
    simp only [List.foldl_cons, List.foldl_nil, hs]
    rw [evsR_enableBody b idx on hb _ rfl]
    rfl

theorem evsR_setAll (b idx : String) (on : Bool) (hb : cond b = fun _ => on) (s : RS) (hs : s.flow = .run)
    (es : List HEvent) :
    evsR (.forEachVring [.vringCall "set_enabled" [b], tUpdateReg idx] :: es) s =
      evsR es { s with st := setAll on s.st s.st.n } := by
  obtain ⟨j, hj⟩ := loop_setAll b idx on hb s hs s.st.n
  exact evsR_step (by simp only [evR]; rw [hj]) hs

theorem loop_noop (body : List HEvent) (hbody : ∀ t : RS, t.flow = .run → evsR body t = t)
    (s : RS) (hs : s.flow = .run) (k : Nat) : ∃ j, (List.range k).foldl
      (fun s i => match s.flow with
        | .run => evsR body { s with r := i }
        | _ => s) s = { s with r := j } := by
  induction k with
  | zero => exact ⟨s.r, rfl⟩
  | succ k ih =>
    obtain ⟨j, hj⟩ := ih
    refine ⟨k, ?_⟩
    rw [List.range_succ, List.foldl_append, hj]
    simp only [List.foldl_cons, List.foldl_nil, hs]
    rw [hbody _ rfl]

/-- a loop over the vrings whose body does nothing this model reads -/
theorem evsR_forEachVring_noop (body : List HEvent) (hbody : ∀ t : RS, t.flow = .run → evsR body t = t)
    (s : RS) (hs : s.flow = .run) (es : List HEvent) : evsR (.forEachVring body :: es) s = evsR es s := by
  obtain ⟨j, hj⟩ := loop_noop body hbody s hs s.st.n
  exact evsR_step (by simp only [evR]; rw [hj]) hs

end Lemmas.HandlerRing
