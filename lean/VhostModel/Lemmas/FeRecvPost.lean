import VhostModel.Base.ImpFe

/-!
# What the API methods do after the reader returned cannot block

`noConn_not_blocked`: a term without a call into `connection.rs` never ends blocked.
-/
namespace Lemmas.FeRecv
open ImpFe
open Imp (World)

/-- no call into `connection.rs` -/
def noConn : FStmt → Bool
  | .seq a b => noConn a && noConn b
  | .ite _ t e => noConn t && noConn e
  | .matchSelfError _ a b => noConn a && noConn b
  | .callConn _ _ _ _ _ => false
  | .callFe _ body _ _ _ _ => noConn body
  | .matchOk _ _ _ _ _ a b => noConn a && noConn b
  | .matchFile _ _ a b => noConn a && noConn b
  | _ => true

def _root_.ImpFe.FCtl.isBlocked : FCtl → Bool
  | .stuck .blocked _ => true
  | _ => false

/-- a statement that makes no call into `connection.rs` cannot block -/
theorem noConn_not_blocked {σ : Type} (env : FEnv σ) (s : FStmt) (h : noConn s = true) :
    ∀ (F : Nat) (fr : FFrame) (sf : Self) (w : World σ), (ImpFe.exec env s F fr sf w).1.isBlocked = false := by
  induction s with
  | skip => intros; rfl
  | seq a b iha ihb =>
    intro F fr sf w
    simp only [noConn, Bool.and_eq_true] at h
    have h1 := iha h.1 F fr sf w
    rw [exec_seq]
    rcases hx : ImpFe.exec env a F fr sf w with ⟨c, fr', sf', w'⟩
    rw [hx] at h1
    cases c with
    | normal => exact ihb h.2 F fr' sf' w'
    | done r => rfl
    | stuck s i => exact h1
  | assign v e => intro F fr sf w; rw [exec_assign]; split <;> rfl
  | assignSelf f e => intro F fr sf w; rw [exec_assignSelf]; split <;> rfl
  | assignF f e => intros; rfl
  | dropF f => intros; rfl
  | mkBuf b fs => intro F fr sf w; rw [exec_mkBuf]; split <;> rfl
  | takeFd a b c => intro F fr sf w; rw [exec_takeFd]; split <;> (try split) <;> rfl
  | ite c t e iht ihe =>
    intro F fr sf w
    simp only [noConn, Bool.and_eq_true] at h
    rw [exec_ite]; split
    · exact iht h.1 F fr sf w
    · exact ihe h.2 F fr sf w
    · rfl
  | matchSelfError e a b iha ihb =>
    intro F fr sf w
    simp only [noConn, Bool.and_eq_true] at h
    rw [exec_matchSelfError]; split
    · exact iha h.1 F _ sf w
    · exact ihb h.2 F fr sf w
  | ret a b c d => intro F fr sf w; rw [exec_ret]; split <;> rfl
  | retErr e => intro F fr sf w; rw [exec_retErr]; split <;> rfl
  | fault => intros; rfl
  | callConn a b c d e => simp [noConn] at h
  | callFe nm body nA bA fA res ih =>
    intro F fr sf w
    simp only [noConn] at h
    rw [exec_callFe]; split
    · rfl
    · rename_i σn _
      have := ih h F { n := σn, b := argsB fr bA (fun _ => []), f := argsF fr fA (fun _ => none) } sf w
      split
      · rfl
      · rename_i hx; rw [hx] at this; exact this
      · rfl
  | matchOk res okN okF okB okFile a b iha ihb =>
    intro F fr sf w
    simp only [noConn, Bool.and_eq_true] at h
    simp only [exec]; split
    · exact iha h.1 F _ sf w
    · exact ihb h.2 F fr sf w
  | matchFile res file a b iha ihb =>
    intro F fr sf w
    simp only [noConn, Bool.and_eq_true] at h
    rw [exec_matchFile]; split
    · split
      · exact iha h.1 F _ sf w
      · exact ihb h.2 F fr sf w
    · rfl
end Lemmas.FeRecv
