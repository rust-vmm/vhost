import VhostModel.Model.ProxyTable
import VhostModel.Gen.ProxyOps
import VhostModel.Lemmas.Image
/-!
# Definitions and small facts shared by the proxy ties (`Lemmas/ProxyBackend`, `ProxyGpu`, `ProxyAck`, `Props/ProxyOps`)

* `methodOf` / `gpuProg`: the generated method row / helper program a model call goes through;
* `afterRecv`, `awaitOut`, `gpuAfterRecv`: what a call returns, *as prescribed by a generated statement program* that
  reads at most one message — the right-hand sides of the `…_table` theorems;
* `leBytes8_mod`: the eight bytes of a value only depend on the value modulo `2^64` (`Base.leBytes_mod`);
* `gpuRows_eq`, `gpuRow_size`: the GPU rows are the generated ones; what they say about the body sizes.
-/
namespace Lemmas.Proxy
open Base ProxySig Model.ProxyTable Model.Msgs Model.Stream Model.RecvBody
open Model.BackendSrv (Err Hdr encHdr hdrNewFlags)
open Model.Frontend (Reply RecvRes RecvOut)

theorem leBytes8_mod (v : Nat) : leBytes 8 (v % 18446744073709551616) = leBytes 8 v := leBytes_mod 8 v

theorem leVal8_zero : leVal (leBytes 8 0) = 0 := by decide

/-! ## the backend proxy -/
section Backend
open Model.BackendProxy

/-- the generated method of a call kind (looked up by its Rust name) -/
def methodOf (k : Kind) : PxMethod :=
  (Gen.ProxyOps.Backend.methods.find? (fun m => m.row.name == Kind.method k)).getD
    ⟨default, fun _ => true, .notNegotiated⟩

theorem methodOf_row (k : Kind) : (methodOf k).row = rowOf k := by cases k <;> decide

theorem backendRows_eq : backendRows = Gen.ProxyOps.Backend.methods.map (·.row) := by rfl

/-- read off the generated rows, so that no proof evaluates `structSize` again -/
theorem rowOf_size (k : Kind) : (rowOf k).size ≤ 40 ∧ structSize k.bodyTy = some (rowOf k).size := by
  have hr : rowOf k ∈ Gen.ProxyOps.Backend.methods.map (·.row) :=
    backendRows_eq ▸ List.mem_map_of_mem (by cases k <;> simp [kinds])
  obtain ⟨h1, h2⟩ := (show ∀ r ∈ Gen.ProxyOps.Backend.methods.map (·.row), r.size ≤ 40 ∧ r.size ≠ 0 by decide) _ hr
  refine ⟨h1, ?_⟩
  simp only [rowOf] at h2 ⊢
  cases hs : structSize k.bodyTy <;> simp_all

/-- continuation of a proxy call on what `recv_body::<ty>` returned: the statements behind the read, run on the inputs
that describe the received message (`replyIn`) -/
def afterRecv {σ : Type} (x : PIn) (ty : String) (rest : List Stmt) (req : Req) (o : RecvOut σ) : CallOut σ :=
  match o.res with
  | .blocked => ⟨.blocked, wire req, req.fds, o.rest, o.cst, o.closed⟩
  | .err e => ⟨.err (.proto e), wire req, req.fds, o.rest, o.cst, o.closed⟩
  | .ok r =>
    -- `rfds` is dropped when the function returns, whatever it returns
    match run (replyIn x backendCodes (Model.GpuProxy.replyBodyOk ty) r req.hdr) rest none with
    | .err e => ⟨.err (perrOf e), wire req, req.fds, o.rest, o.cst, o.closed ++ r.files.getD []⟩
    | .ok v => ⟨.ok v, wire req, req.fds, o.rest, o.cst, o.closed ++ r.files.getD []⟩
    | _ => ⟨.err (.proto .other), wire req, req.fds, o.rest, o.cst, o.closed⟩

/-- what a proxy call returns once the request `req` is written, as prescribed by the statement program `prog`:
a local check fires / an early `Ok(v)` ⇒ nothing is read; `recvBody ty` ⇒ one `recv_body::<ty>` on the backend channel
(`size_of::<ty>()` bytes behind the header, the validator of `ty`), then `afterRecv` -/
def awaitOut {σ : Type} (ch : Chooser σ) (cl : Bool) (x : PIn) (prog : List Stmt) (req : Req) (cst : σ) (str : List Cell) :
    CallOut σ :=
  match run x prog none with
  | .err e => ⟨.err (perrOf e), wire req, req.fds, str, cst, []⟩
  | .ok v => ⟨.ok v, wire req, req.fds, str, cst, []⟩
  | .recv ty rest =>
    afterRecv x ty rest req
      (recvBody ch cl hdrValidB ((Model.GpuProxy.sizeOfTy ty).getD 0) (Model.GpuProxy.replyBodyOk ty) cst str)
  | _ => ⟨.err (.proto .other), wire req, req.fds, str, cst, []⟩

end Backend

/-! ## the GPU proxy -/
section Gpu
open Model.GpuProxy

/-- the generated program of a send helper, by its Rust name -/
def gpuProg : String → List Stmt
  | "send_header" => Gen.ProxyOps.Gpu.send_header.stmts
  | "send_message" => Gen.ProxyOps.Gpu.send_message.stmts
  | "send_message_with_payload" => Gen.ProxyOps.Gpu.send_message_with_payload.stmts
  | _ => []

theorem gpuRows_eq : gpuRows = Gen.ProxyOps.Gpu.methods := by rfl

theorem gpuRow_size {m : Method} (hm : m ∈ methods) :
    (gpuRowOf m).size ≤ 48 ∧ ∀ ty, m.bodyTy = some ty → structSize ty = some (gpuRowOf m).size := by
  have hr : gpuRowOf m ∈ Gen.ProxyOps.Gpu.methods := gpuRows_eq ▸ List.mem_map_of_mem hm
  obtain ⟨h1, h2⟩ :=
    (show ∀ r ∈ Gen.ProxyOps.Gpu.methods, r.size ≤ 48 ∧ (r.body.isSome = true → r.size ≠ 0) by decide) _ hr
  refine ⟨h1, fun ty hty => ?_⟩
  have h3 := h2 (by simp [gpuRowOf, hty])
  simp only [gpuRowOf, hty, Option.bind_some] at h3 ⊢
  cases hs : structSize ty <;> simp_all

/-- continuation of `recv_reply::<ty>` on what `recv_body::<ty>` returned -/
def gpuAfterRecv {σ : Type} (x : PIn) (ty : String) (rest : List Stmt) (rh : Hdr) (o : RecvOut σ) : RecvOut σ :=
  match o.res with
  | .ok r =>
    match run (replyIn x gpuCodes (replyBodyOk ty) r rh) rest none with
    | .err e => ⟨.err (errOf e), o.rest, o.cst, o.closed ++ r.files.getD []⟩   -- `rfds` dropped
    | .okBody => o
    | _ => ⟨.err .other, o.rest, o.cst, o.closed⟩
  | _ => o

end Gpu

end Lemmas.Proxy
