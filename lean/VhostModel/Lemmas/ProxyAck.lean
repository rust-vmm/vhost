import VhostModel.Lemmas.ProxyBase
import VhostModel.Lemmas.HelpersBase
import VhostModel.Lemmas.BackendChannel
/-!
# The acknowledgement path of `Model.FrontendSrv` is the generated `frontend_req_handler.rs` programs

Inputs of the generated programs: `Model.ProxyTable.feIn` (header fields, `size = buf.len()` = length of the received
body, the two state fields) and `ackEnv` (… plus the handler result as `send_ack_message` sees it, `resOf`).

* `ack_cond_matches`, `ack_hdr_matches`, `ack_value_matches`, `sendAck_table`: `send_ack_message`.
-/
namespace Lemmas.Proxy
open Base ProxySig HelperSig Model.ProxyTable Model.Msgs
open Model.BackendSrv (Err Hdr encHdr hdrNewFlags bitSet)
open Model.FrontendSrv
open Gen.ProxyOps.FeSrv
open Lemmas.Helpers (and_two_pow_bne_zero)

theorem ack_cond_matches (st : FSt) (h : Hdr) (o : Model.FrontendSrv.Outcome) :
    send_ack_message.sendCond (ackEnv st h o) = (st.replyAck && h.needReply) := by
  have hb := and_two_pow_bne_zero h.flags 3
  simp only [Nat.reducePow] at hb
  simp [send_ack_message.sendCond, ackEnv, feIn, Hdr.needReply, bitSet, hb]

theorem ack_hdr_matches (st : FSt) (h : Hdr) (o : Model.FrontendSrv.Outcome) :
    send_ack_message.sendHdr.map (fun f => f (ackEnv st h o)) = [h.code, hdrNewFlags 4, 8] := by
  simp [send_ack_message.sendHdr, ackEnv, feIn, hdrNewFlags]

theorem ack_value_matches (st : FSt) (h : Hdr) (o : Model.FrontendSrv.Outcome) (hr : OutRange o) :
    send_ack_message.sendFields.map (fun f => f (ackEnv st h o)) = [ackVal o % 2^64] := by
  rcases o with (n | e | _) | _
  · have : n % 2^64 = n := Nat.mod_eq_of_lt hr
    simp [send_ack_message.sendFields, ackEnv, resOf, ackVal, this]
  · have he : e < 2^31 := hr
    simp only [send_ack_message.sendFields, ackEnv, resOf, ackVal, List.map_cons, List.map_nil, List.cons.injEq, and_true,
      Nat.reducePow, Int.ofNat_eq_natCast]
    omega
  · simp [send_ack_message.sendFields, ackEnv, resOf, ackVal]
  · simp [send_ack_message.sendFields, ackEnv, resOf, ackVal]

theorem sendAck_table (st : FSt) (h : Hdr) (o : Model.FrontendSrv.Outcome) (hr : OutRange o) :
    sendAck st h o =
      (if send_ack_message.sendCond (ackEnv st h o) then
        (send_ack_message.sendHdr.map (fun f => f (ackEnv st h o))).flatMap (leBytes 4) ++
          (send_ack_message.sendFields.map (fun f => f (ackEnv st h o))).flatMap (leBytes 8)
       else []) := by
  rw [ack_cond_matches, ack_hdr_matches, ack_value_matches st h o hr]
  simp [sendAck, ackBytes, encHdr, leBytes8_mod]

end Lemmas.Proxy
