import VhostModel.Lemmas.Reach
/-!
# The bytes of the requests as the frontend encodes them, read the server's way

What `Props.C02Reach` needs of the request bodies beyond the per-struct field lemmas of `Lemmas.Encode`: the ring index
as `handle_vring_fd_request` reads it, the fixed part and payload of GET/SET_CONFIG, the slicing of a memory table into
the encoded regions (by induction over the region list), and the two validators the API's own checks imply.
-/
namespace Lemmas.ReachSrv
open Base Model.Stream Model.Msgs Model.BackendSrv Lemmas.Encode Lemmas.Reach
open Model.Frontend (u64 u32 u16 regionBytes)

theorem leVal_take_u64 (i : Nat) (hi : i < 2^64) : leVal ((u64 i).take 8) = i := by
  rw [List.take_of_length_le (by simp [u64])]
  exact leVal_leBytes 8 i (by omega)

/-! ### config space access -/

theorem config_take (off sz cf : Nat) (pl : Bytes) :
    (u32 off ++ u32 sz ++ u32 cf ++ pl).take 12 = u32 off ++ u32 sz ++ u32 cf :=
  take_append_len _ _ 12 (by simp [u32])

theorem config_drop (off sz cf : Nat) (pl : Bytes) :
    (u32 off ++ u32 sz ++ u32 cf ++ pl).drop 12 = pl :=
  drop_append_len _ _ 12 (by simp [u32])

theorem config_len (off sz cf : Nat) (pl : Bytes) :
    (u32 off ++ u32 sz ++ u32 cf ++ pl).length = 12 + pl.length := by simp [u32]; omega

/-! ### the memory table -/

/-- the four numbers of a region as the handler receives them -/
def regionArgs (r : Nat × Nat × Nat × Nat × Bool) : List Nat := [r.1, r.2.1, r.2.2.1, r.2.2.2.1]

def regionInRange (r : Nat × Nat × Nat × Nat × Bool) : Bool :=
  decide (r.1 < 2^64) && decide (r.2.1 < 2^64) && decide (r.2.2.1 < 2^64) && decide (r.2.2.2.1 < 2^64)

theorem regionBytes_length (r : Nat × Nat × Nat × Nat × Bool) : (regionBytes r).length = 32 := by
  simp [regionBytes, u64]

/-- the server's slicing of the body recovers the encoded regions one by one -/
theorem regionsOf_enc (rs : List (Nat × Nat × Nat × Nat × Bool)) : ∀ (pre : Bytes) (off : Nat), pre.length = off →
    regionsOf (pre ++ rs.flatMap regionBytes) rs.length off = rs.map regionBytes := by
  induction rs with
  | nil => intro pre off _; rfl
  | cons r rs ih =>
    intro pre off hpre
    simp only [List.flatMap_cons, List.length_cons, regionsOf, List.map_cons]
    congr 1
    · have := slice_mid' pre (regionBytes r) (rs.flatMap regionBytes) off 32 hpre (regionBytes_length r)
      simpa [List.append_assoc] using this
    · have := ih (pre ++ regionBytes r) (off + 32) (by simp [regionBytes_length, hpre])
      simpa [List.append_assoc] using this

theorem region_args (r : Nat × Nat × Nat × Nat × Bool) (hr : regionInRange r = true) :
    [g (regionBytes r) "VhostUserMemoryRegion" ["guest_phys_addr"], g (regionBytes r) "VhostUserMemoryRegion" ["memory_size"],
     g (regionBytes r) "VhostUserMemoryRegion" ["user_addr"], g (regionBytes r) "VhostUserMemoryRegion" ["mmap_offset"]] =
    regionArgs r := by
  simp only [regionInRange, Bool.and_eq_true, decide_eq_true_eq] at hr
  obtain ⟨⟨⟨h1, h2⟩, h3⟩, h4⟩ := hr
  obtain ⟨f1, f2, f3, f4⟩ := dec_Region [] r.1 r.2.1 r.2.2.1 r.2.2.2.1 h1 h2 h3 h4
  simp only [List.append_nil] at f1 f2 f3 f4
  simp only [regionBytes, regionArgs, srv_g _ _ _ _ f1, srv_g _ _ _ _ f2, srv_g _ _ _ _ f3, srv_g _ _ _ _ f4]

theorem regions_args (rs : List (Nat × Nat × Nat × Nat × Bool)) (hr : rs.all regionInRange = true) :
    (rs.map regionBytes).flatMap (fun r =>
      [g r "VhostUserMemoryRegion" ["guest_phys_addr"], g r "VhostUserMemoryRegion" ["memory_size"],
       g r "VhostUserMemoryRegion" ["user_addr"], g r "VhostUserMemoryRegion" ["mmap_offset"]]) = rs.flatMap regionArgs := by
  induction rs with
  | nil => rfl
  | cons r rs ih =>
    simp only [List.all_cons, Bool.and_eq_true] at hr
    simp only [List.map_cons, List.flatMap_cons, ih hr.2, region_args r hr.1]

/-- the header of the table (`num_regions`, zero padding) passes its generated validator for 1‥32 regions -/
theorem memory_header_valid : ∀ n, n < 33 → 1 ≤ n →
    Gen.VhostUserMemory.isValid ⟨bv 32 n, bv 32 0⟩ = true := by decide

theorem bodyValid_Memory (n : Nat) (h1 : 1 ≤ n) (h32 : n ≤ 32) : bodyValid "VhostUserMemory" (u32 n ++ u32 0) = some true := by
  obtain ⟨f1, f2⟩ := dec_Memory [] n 0 (by omega) (by omega)
  simp only [List.append_nil] at f1 f2
  have hl : (u32 n ++ u32 0).length = 8 := by simp [u32]
  simp [bodyValid, decMemory, Lemmas.Layouts.lay_memory.1, hl, f1, f2, memory_header_valid n (by omega) h1]

/-! ### SET_INFLIGHT_FD: the frontend's own check implies the server's validator -/

theorem bodyValid_Inflight (ms mo nq qs : Nat) (h1 : ms < 2^64) (h2 : mo < 2^64) (h3 : nq < 2^16) (h4 : qs < 2^16)
    (hn : nq ≠ 0) (hq : qs ≠ 0) :
    bodyValid "VhostUserInflight" (u64 ms ++ u64 mo ++ u16 nq ++ u16 qs ++ [0, 0, 0, 0]) = some true := by
  obtain ⟨f1, f2, f3, f4⟩ := dec_Inflight [0, 0, 0, 0] ms mo nq qs h1 h2 h3 h4
  have hl : (u64 ms ++ u64 mo ++ u16 nq ++ u16 qs ++ [0, 0, 0, 0]).length = 24 := by simp [u64, u16]
  have e1 : ¬ bv 16 nq = 0x0#16 := by
    intro e; have := congrArg BitVec.toNat e; simp [bv] at this; omega
  have e2 : ¬ bv 16 qs = 0x0#16 := by
    intro e; have := congrArg BitVec.toNat e; simp [bv] at this; omega
  generalize (u64 ms ++ u64 mo ++ u16 nq ++ u16 qs ++ [0, 0, 0, 0]) = b at *
  simp [bodyValid, decInflight, Lemmas.Layouts.lay_inflight.1, hl, f1, f2, f3, f4, Gen.VhostUserInflight.isValid]
  exact ⟨e1, e2⟩

end Lemmas.ReachSrv
