import VhostModel.Lemmas.Encode
import VhostModel.Lemmas.BackendSrv
/-!
# `dispatch` once the guards of the arm have passed; `check_request_size` on a request of the expected size
-/
namespace Lemmas.Reach
open Base Model.Stream Model.Msgs Model.BackendSrv Lemmas.Encode

/-- `dispatch` on a request whose arm is `arm` and whose guards all pass is the arm's action -/
theorem dispatch_arm {st : BSt} {hdr : Hdr} {buf : Bytes} {files : Option (List Fd)} {h : HOut} (arm : Arm) (c' : Ctx)
    (ha : arms.find? (·.code == hdr.code) = some arm)
    (hg : runGuards st { hdr := hdr, buf := buf, files := files } arm.guards = .ok c') :
    dispatch st hdr buf files h = runAct st c' h arm.act := by
  simp [dispatch, ha, hg]

theorem checkSize_ok (h : Hdr) (len n : Nat) (hs : h.size = n) (hl : len = n) (hr : h.isReply = false) :
    checkSize h len n = true := by
  simp [checkSize, hs, hl, hr]

end Lemmas.Reach
