import VhostModel.Lemmas.BackendSrv
import VhostModel.Lemmas.Wire
/-!
# What an arm of the request server writes once the handler has been invoked (server half of C03)

`runAct` after the guards: whenever the handler *was* invoked (`calls ≠ []`), the bytes written, the number of
descriptors attached and the result of `handle_request` are the closed forms
`actOut` / `actFds` / `actRes` — functions of the server state, the request header, the request body and the
handler's scripted outcome only (the guards never change header or body: `Lemmas.BackendSrv.runGuards_hdr_buf`).
`dispatch_of_calls` lifts this to `dispatch`.
-/
namespace Lemmas.Roundtrip
open Base Model.Stream Model.Msgs Model.BackendSrv Lemmas.Encode

/-- bytes written by an action whose handler was invoked -/
def actOut (st : BSt) (hdr : Hdr) (buf : Bytes) (h : HOut) : Act → Bytes
  | .ack _ => ackOf st hdr h.ok
  | .getFeatures => if h.ok then replyHdr hdr 8 ++ leBytes 8 h.v else []
  | .getProtocolFeatures => if h.ok then replyHdr hdr 8 ++ leBytes 8 (h.v ||| 8) else []
  | .setFeatures => ackOf ({ st with acked := g buf "VhostUserU64" ["value"] }).updateFlag hdr h.ok
  | .setProtocolFeatures => ackOf ({ st with ackedProto := g buf "VhostUserU64" ["value"] }).updateFlag hdr h.ok
  | .replyU64 _ => if h.ok then replyHdr hdr 8 ++ leBytes 8 h.v else []
  | .getVringBase =>
    if h.ok then replyHdr hdr 8 ++ leBytes 4 (g buf "VhostUserVringState" ["index"]) ++ leBytes 4 h.v else []
  | .getInflight =>
    if h.ok then
      replyHdr hdr 24 ++ leBytes 8 h.v ++ leBytes 8 (g buf "VhostUserInflight" ["mmap_offset"]) ++
        leBytes 2 (g buf "VhostUserInflight" ["num_queues"]) ++ leBytes 2 (g buf "VhostUserInflight" ["queue_size"]) ++ [0, 0, 0, 0]
    else []
  | .getShmem =>
    if h.ok then replyHdr hdr 2056 ++ leBytes 4 h.v ++ leBytes 4 0 ++ (h.b ++ List.replicate 2048 0).take 2048 else []
  | .setLogBase => if h.ok then replyHdr hdr 16 ++ buf else []
  | .fdOrEmpty _ => replyHdr hdr 0
  | .deviceStateFd => replyHdr hdr 8 ++ leBytes 8 (if !h.ok then 0x101 else if h.file then 0 else 0x100)
  | .checkDeviceState => replyHdr hdr 8 ++ leBytes 8 (if h.ok then 0 else 1)
  | .getConfig =>
    let off := g buf "VhostUserConfig" ["offset"]; let sz := g buf "VhostUserConfig" ["size"]
    let fl := g buf "VhostUserConfig" ["flags"]
    if h.ok && h.b.length == sz then replyHdr hdr (12 + sz) ++ leBytes 4 off ++ leBytes 4 sz ++ leBytes 4 fl ++ h.b
    else replyHdr hdr 12 ++ leBytes 4 off ++ leBytes 4 0 ++ leBytes 4 fl
  | .setConfig => ackOf st hdr h.ok
  | .memTable => ackOf st hdr h.ok
  | .backendReqFd => ackOf st hdr true
  | .gpuSocket => ackOf st hdr h.ok

/-- descriptors attached to them -/
def actFds (h : HOut) : Act → Nat
  | .getInflight => if h.ok then 1 else 0
  | .fdOrEmpty _ => if h.ok then 1 else 0
  | .deviceStateFd => if !h.ok then 0 else if h.file then 1 else 0
  | _ => 0

/-- does `handle_request` return `Ok` whatever the handler did (the failure, if any, is reported in band) -/
def actInfallible : Act → Bool
  | .fdOrEmpty _ | .deviceStateFd | .checkDeviceState | .getConfig | .backendReqFd => true
  | _ => false

/-- result of `handle_request` -/
def actRes (h : HOut) (a : Act) : Res := if actInfallible a || h.ok then .ok else .err .handlerErr

theorem runAct_of_calls (st : BSt) (c : Ctx) (h : HOut) (a : Act) (hc : (runAct st c h a).calls ≠ []) :
    (runAct st c h a).out = actOut st c.hdr c.buf h a ∧ (runAct st c h a).outFds = actFds h a ∧
    (runAct st c h a).res = actRes h a := by
  cases a with
  | deviceStateFd =>
    rcases h with ⟨_ | _, _, _, _ | _⟩ <;> exact ⟨rfl, rfl, rfl⟩
  | getConfig =>
    rw [Lemmas.BackendSrv.runAct_getConfig] at hc ⊢
    by_cases hok : Lemmas.BackendSrv.cfgOk c.buf = true
    · rw [if_pos hok]
      by_cases hu : (h.ok && h.b.length == g c.buf "VhostUserConfig" ["size"]) = true
      · rw [if_pos hu]; exact ⟨(if_pos hu).symm, rfl, rfl⟩
      · rw [if_neg hu]; exact ⟨(if_neg hu).symm, rfl, rfl⟩
    · rw [if_neg hok] at hc; exact absurd rfl hc
  | setConfig =>
    rw [Lemmas.BackendSrv.runAct_setConfig] at hc ⊢
    by_cases hok : Lemmas.BackendSrv.cfgOk c.buf = true
    · rw [if_pos hok]; rcases h with ⟨_ | _, _, _, _⟩ <;> exact ⟨rfl, rfl, rfl⟩
    · rw [if_neg hok] at hc; exact absurd rfl hc
  | memTable =>
    rw [Lemmas.BackendSrv.runAct_memTable] at hc ⊢
    by_cases hok : Lemmas.BackendSrv.memTableOk c = true
    · rw [if_pos hok]; rcases h with ⟨_ | _, _, _, _⟩ <;> exact ⟨rfl, rfl, rfl⟩
    · rw [if_neg hok] at hc; exact absurd rfl hc
  | backendReqFd =>
    rw [Lemmas.BackendSrv.runAct_backendReqFd] at hc ⊢
    by_cases hok : (takeSingle c.files).1.isSome = true
    · rw [if_pos hok]; exact ⟨rfl, rfl, rfl⟩
    · rw [if_neg hok] at hc; exact absurd rfl hc
  | gpuSocket =>
    rw [Lemmas.BackendSrv.runAct_gpuSocket] at hc ⊢
    by_cases hok : (takeSingle c.files).1.isSome = true
    · rw [if_pos hok]; rcases h with ⟨_ | _, _, _, _⟩ <;> exact ⟨rfl, rfl, rfl⟩
    · rw [if_neg hok] at hc; exact absurd rfl hc
  -- the other arms have no check of their own: the handler is always invoked
  | _ => rcases h with ⟨_ | _, _, _, _⟩ <;> exact ⟨rfl, rfl, rfl⟩

/-- `dispatch`, once the handler was invoked: the closed forms, for the arm of the request's code -/
theorem dispatch_of_calls {st : BSt} {hdr : Hdr} {buf : Bytes} {files : Option (List Fd)} {h : HOut}
    (arm : Arm) (ha : arms.find? (·.code == hdr.code) = some arm) (hc : (dispatch st hdr buf files h).calls ≠ []) :
    (dispatch st hdr buf files h).out = actOut st hdr buf h arm.act ∧
    (dispatch st hdr buf files h).outFds = actFds h arm.act ∧
    (dispatch st hdr buf files h).res = actRes h arm.act := by
  unfold dispatch at hc ⊢
  simp only [ha] at hc ⊢
  cases hg : runGuards st { hdr := hdr, buf := buf, files := files } arm.guards with
  | error e => simp [hg] at hc
  | ok c' =>
    simp only [hg] at hc ⊢
    obtain ⟨e1, e2⟩ := Lemmas.BackendSrv.runGuards_hdr_buf arm.guards hg
    have := runAct_of_calls st c' h arm.act hc
    rw [e1, e2] at this
    exact this

end Lemmas.Roundtrip
