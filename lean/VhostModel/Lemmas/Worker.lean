import VhostModel.Model.Worker
import VhostModel.Lemmas.Runs
/-!
# Invariants of `Model.Worker` (all configurations) used by Props/C12

The worker's and the control thread's step functions are first put into relational form (`WSeg`, `CSeg`: one constructor
per kind of segment, with the condition under which it is taken and the state it produces).  Everything later — the
invariants here, the step-level facts of `Lemmas/WorkerLive.lean` — is proved by cases on these kinds; to run a step
forward from a known program counter there are `c_step`, `send_step` and `w_stay`.
-/
namespace Lemmas.Worker
open Model.Worker Spec.KickDelivery

/-- the control thread is inside a disabling message, past its state change -/
def afterDisable (s : St) : Prop := ∃ m k, s.cpc = .inMsg m (k + 1) ∧ m.disables = true
/-- … inside GET_VRING_BASE, past `set_queue_ready(false)` -/
def afterStop (s : St) : Prop := ∃ k, s.cpc = .inMsg .stop (k + 1)

/-- group A: the disable/reset half of P1 (`Spec.KickDelivery.NoDispatchAfterReply`) -/
structure InvA (s : St) : Prop where
  a1 : (period s.trace).forbD = true ∨ afterDisable s → s.enabled = false
  a2 : s.wpc = .toDispatch → s.rdStale = true ∨ s.enabled = true
  a3 : ∀ k, s.cpc = .inMsg .enable k → (period s.trace).forbD = false
  g : ∀ fd fs rs cs, GRec.disp fd fs rs cs ∈ s.glog → fd = true → rs = true

theorem period_emit (s : St) (e : Ev) : period (emit s e).trace = (period s.trace).next e := by
  simp [emit, period_append]

theorem epollUpdate_eq (s : St) : epollUpdate s = { s with reg := (epollUpdate s).reg } := by
  unfold epollUpdate; split <;> rfl

theorem unregKick_eq (s : St) : unregKick s = { s with reg := (unregKick s).reg } := by
  unfold unregKick; split <;> rfl

@[simp] theorem epollUpdate_cpc (s : St) : (epollUpdate s).cpc = s.cpc := by rw [epollUpdate_eq]
@[simp] theorem unregKick_kick (s : St) : (unregKick s).kick = s.kick := by rw [unregKick_eq]
@[simp] theorem unregKick_next (s : St) : (unregKick s).next = s.next := by rw [unregKick_eq]
@[simp] theorem unregKick_cpc (s : St) : (unregKick s).cpc = s.cpc := by rw [unregKick_eq]

theorem forbD_reply (p : Period) (m : CMsg) : (p.next (.reply m)).forbD = (p.forbD || m.disables) := by
  cases m <;> simp [Period.next, CMsg.disables]

theorem forbS_reply (p : Period) (m : CMsg) : (p.next (.reply m)).forbS = (p.forbS || decide (m = .stop)) := by
  cases m <;> simp [Period.next, CMsg.disables]

theorem forbD_start (p : Period) (m : CMsg) : (p.next (.start m)).forbD = (p.forbD && decide (m ≠ .enable)) := by
  cases m <;> simp [Period.next]

theorem forbS_start (p : Period) (m : CMsg) : (p.next (.start m)).forbS = (p.forbS && decide (m ≠ .restart)) := by
  cases m <;> simp [Period.next]

theorem kick_eq {s s' : St} {d : Evt} (h : step s (.kick d) = some s') :
    s' = emit { s with cnt := upd s.cnt d (s.cnt d + 1) } (.kick d) := (Option.some.inj h).symm

theorem send_eq {s s' : St} {m : CMsg} (h : step s (.send m) = some s') :
    s.cpc = .idle ∧ s' = emit { s with cpc := .inMsg m 0 } (.start m) := by
  simp only [step] at h
  cases hc : s.cpc with
  | inMsg m' k => simp [hc] at h
  | idle => simp only [hc, Option.some.injEq] at h; exact ⟨rfl, h.symm⟩

/-- `wStep` as a relation: each outcome with the condition under which it is taken -/
inductive WSeg (s : St) : St → Prop
  | stay : s.wpc = .wait → readyAny s = false → WSeg s s
  | wake : s.wpc = .wait → readyAny s = true → WSeg s { s with wpc := .woken, clean := !pendingDel s }
  | check : s.wpc = .woken → (s.cfg.fixStopped = true → s.ready = true) →
      WSeg s { s with wpc := .checked, chkStale := false }
  | back : s.wpc = .woken ∧ s.cfg.fixStopped = true ∧ s.ready = false ∨
      s.wpc = .checked ∧ (s.enabled = false ∧ (s.cfg.fixLost = true ∨ s.kick = none) ∨
        s.cfg.fixEagain = true ∧ ∃ k, s.kick = some k ∧ s.cnt k = 0) → WSeg s { s with wpc := .wait }
  | exit (k : Evt) : s.wpc = .checked → s.kick = some k → s.cnt k = 0 → s.cfg.fixEagain = false →
      WSeg s (emit { s with wpc := .dead } .workerExit)
  | grant (k : Evt) : s.wpc = .checked → s.kick = some k → s.enabled = true →
      WSeg s (emit { s with cnt := upd s.cnt k 0, wpc := .toDispatch, rdStale := false } (.consumed true))
  | drop (k : Evt) : s.wpc = .checked → s.kick = some k → s.enabled = false → s.cfg.fixLost = false →
      WSeg s (emit { s with cnt := upd s.cnt k 0, wpc := .wait, glog := s.glog ++ [.dropped s.clean] } (.consumed false))
  | noFd : s.wpc = .checked → s.kick = none → s.enabled = true → WSeg s { s with wpc := .toDispatch, rdStale := false }
  | dispatch : s.wpc = .toDispatch →
      WSeg s (emit
        { s with wpc := .wait, glog := s.glog ++ [.disp (period s.trace).forbD (period s.trace).forbS s.rdStale s.chkStale] }
        .dispatch)

theorem w_seg {s s' : St} (h : step s .w = some s') : WSeg s s' := by
  simp only [step, wStep] at h
  cases hw : s.wpc <;> simp only [hw] at h
  · cases h
    split
    · rename_i hr; exact .wake hw hr
    · rename_i hr; exact .stay hw (Bool.eq_false_iff.2 hr)
  · cases h
    split
    · rename_i hg
      rw [Bool.and_eq_true, Bool.not_eq_true'] at hg
      exact .back (.inl ⟨hw, hg⟩)
    · rename_i hg
      exact .check hw (fun hf => by simpa [hf] using hg)
  · split at h
    · rename_i hg
      rw [Bool.and_eq_true, Bool.not_eq_true'] at hg
      cases h; exact .back (.inr ⟨hw, .inl ⟨hg.2, .inl hg.1⟩⟩)
    · rename_i hg
      split at h
      · rename_i k hk
        split at h
        · rename_i hc
          split at h <;> cases h
          · rename_i hfe; exact .back (.inr ⟨hw, .inr ⟨hfe, k, hk, hc⟩⟩)
          · rename_i hfe; exact .exit k hw hk hc (Bool.eq_false_iff.2 hfe)
        · split at h <;> cases h
          · exact .grant k hw hk ‹_›
          · rename_i hen
            have hen : s.enabled = false := by simpa using hen
            exact .drop k hw hk hen (by simpa [hen] using hg)
      · rename_i hk
        split at h <;> cases h
        · exact .noFd hw hk ‹_›
        · rename_i hen
          exact .back (.inr ⟨hw, .inl ⟨Bool.eq_false_iff.2 hen, .inr hk⟩⟩)
  · cases h; exact .dispatch hw
  · cases h

/-- the stage at which a message's `update_vring_registration` runs, and the stage of its reply -/
def epollStage : CMsg → Nat
  | .restart | .nofd => 2
  | _ => 1

def replyStage : CMsg → Nat
  | .disable | .enable | .reset => 2
  | _ => 3

theorem epollStage_pos (m : CMsg) : 1 ≤ epollStage m := by cases m <;> decide
theorem two_le_replyStage (m : CMsg) : 2 ≤ replyStage m := by cases m <;> decide

/-- `cStep` as a relation: stage `k` of message `m` takes `s` to `s'` -/
inductive CSeg (s : St) : CMsg → Nat → St → Prop
  | disable {m : CMsg} : m.disables = true → CSeg s m 0 (noteDisable { s with enabled := false, cpc := .inMsg m 1 })
  | enable : CSeg s .enable 0 { s with enabled := true, cpc := .inMsg .enable 1 }
  | stop : CSeg s .stop 0 (noteStop { s with ready := false, cpc := .inMsg .stop 1 })
  | newKick : CSeg s .restart 0
      { s with reg := (unregKick s).reg, kick := some s.next, next := s.next + 1,
               cpc := .inMsg .restart (if s.ready then 2 else 1) }
  | noKick : CSeg s .nofd 0
      { s with reg := (unregKick s).reg, kick := none,
               cpc := .inMsg .nofd (if s.cfg.nofdStarts && !s.ready then 1 else 2) }
  | setReady {m : CMsg} : m = .restart ∨ m = .nofd → CSeg s m 1 { s with ready := true, cpc := .inMsg m 2 }
  | epoll {m : CMsg} : CSeg s m (epollStage m) { s with reg := (epollUpdate s).reg, cpc := .inMsg m (epollStage m + 1) }
  | dropKick : CSeg s .stop 2 { s with kick := none, cpc := .inMsg .stop 3 }
  | reply {m : CMsg} : CSeg s m (replyStage m) (reply s m)

theorem c_seg {s s' : St} (h : step s .c = some s') : ∃ m k, s.cpc = .inMsg m k ∧ CSeg s m k s' := by
  simp only [step, cStep] at h
  cases hc : s.cpc with
  | idle => simp [hc] at h
  | inMsg m k =>
    refine ⟨m, k, rfl, ?_⟩
    simp only [hc] at h
    rw [epollUpdate_eq s, unregKick_eq s] at h
    split at h <;> cases h
    · exact .disable rfl
    · exact .disable rfl
    · exact .enable
    · exact .epoll
    · exact .epoll
    · exact .epoll
    · exact .reply
    · exact .reply
    · exact .reply
    · exact .stop
    · exact .epoll
    · exact .dropKick
    · exact .reply
    · exact .newKick
    · exact .setReady (.inl rfl)
    · exact .epoll
    · exact .reply
    · exact .noKick
    · exact .setReady (.inr rfl)
    · exact .epoll
    · exact .reply

theorem c_step {s s' : St} {m : CMsg} {k : Nat} (hc : s.cpc = .inMsg m k) (h : CSeg s m k s') : step s .c = some s' := by
  simp only [step, cStep, hc]
  rw [epollUpdate_eq s, unregKick_eq s]
  cases h with
  | disable hm => cases m <;> first | rfl | cases hm
  | setReady hm => rcases hm with rfl | rfl <;> rfl
  | epoll => cases m <;> rfl
  | reply => cases m <;> rfl
  | _ => rfl

theorem send_step {s : St} (m : CMsg) (hc : s.cpc = .idle) :
    step s (.send m) = some (emit { s with cpc := .inMsg m 0 } (.start m)) := by
  simp only [step, hc]

theorem w_stay {s : St} (hw : s.wpc = .wait) (hr : readyAny s = false) : step s .w = some s := by
  simp [step, wStep, hw, hr]

structure RingFrame (s s' : St) : Prop where
  cfg : s'.cfg = s.cfg
  ready : s'.ready = s.ready
  enabled : s'.enabled = s.enabled
  kick : s'.kick = s.kick
  reg : s'.reg = s.reg
  next : s'.next = s.next
  cpc : s'.cpc = s.cpc

theorem w_frame {s s' : St} (h : step s .w = some s') : RingFrame s s' := by
  cases w_seg h <;> exact ⟨rfl, rfl, rfl, rfl, rfl, rfl, rfl⟩

theorem kick_frame {s s' : St} {d : Evt} (h : step s (.kick d) = some s') : RingFrame s s' := by
  cases kick_eq h; exact ⟨rfl, rfl, rfl, rfl, rfl, rfl, rfl⟩

theorem w_pc {s s' : St} (h : step s .w = some s') :
    match s'.wpc with
    | .woken => readyAny s = true ∧ s'.clean = !pendingDel s
    | .checked => s.wpc = .woken ∧ (s.cfg.fixStopped = true → s.ready = true) ∧ s'.chkStale = false ∧ s'.clean = s.clean
    | .toDispatch => s.wpc = .checked ∧ s.enabled = true ∧ s'.rdStale = false ∧ s'.chkStale = s.chkStale
    | .dead => s'.trace = s.trace ++ [.workerExit]
    | .wait => True := by
  -- each kind fixes `s'.wpc`, and the clause for it repeats the kind's guards (for `exit`: what it appends)
  cases w_seg h with
  | stay hw _ => rw [hw]; trivial
  | check hw hg => exact ⟨hw, hg, rfl, rfl⟩
  | _ => simp [*, emit]

-- the disjunct is fixed by what the kind appends
theorem w_log {s s' : St} (h : step s .w = some s') :
    (s'.trace = s.trace ∧ s'.glog = s.glog) ∨
    (s.wpc = .toDispatch ∧ s'.trace = s.trace ++ [.dispatch] ∧
      s'.glog = s.glog ++ [.disp (period s.trace).forbD (period s.trace).forbS s.rdStale s.chkStale]) ∨
    (s'.wpc = .toDispatch ∧ s'.trace = s.trace ++ [.consumed true] ∧ s'.glog = s.glog) ∨
    (s.wpc = .checked ∧ s.enabled = false ∧ s.cfg.fixLost = false ∧ s'.trace = s.trace ++ [.consumed false] ∧
      s'.glog = s.glog ++ [.dropped s.clean]) ∨
    (s.cfg.fixEagain = false ∧ s'.trace = s.trace ++ [.workerExit] ∧ s'.glog = s.glog) := by
  cases w_seg h <;> simp [*, emit]

theorem w_period {s s' : St} (h : step s .w = some s') : period s'.trace = period s.trace := by
  rcases w_log h with ⟨ht, -⟩ | ⟨-, ht, -⟩ | ⟨-, ht, -⟩ | ⟨-, -, -, ht, -⟩ | ⟨-, ht, -⟩ <;> rw [ht]
  all_goals exact period_append _ _

theorem w_glog {s s' : St} (h : step s .w = some s') {r : GRec} (hr : r ∈ s'.glog) :
    r ∈ s.glog ∨
    (s.wpc = .toDispatch ∧ r = .disp (period s.trace).forbD (period s.trace).forbS s.rdStale s.chkStale) ∨
    (s.wpc = .checked ∧ s.enabled = false ∧ r = .dropped s.clean) := by
  rcases w_log h with ⟨-, hg⟩ | ⟨hw, -, hg⟩ | ⟨-, -, hg⟩ | ⟨hw, he, -, -, hg⟩ | ⟨-, -, hg⟩ <;> rw [hg] at hr
  · exact .inl hr
  · exact (List.mem_append.1 hr).imp_right fun hr => .inl ⟨hw, List.mem_singleton.1 hr⟩
  · exact .inl hr
  · exact (List.mem_append.1 hr).imp_right fun hr => .inr ⟨hw, he, List.mem_singleton.1 hr⟩
  · exact .inl hr

theorem afterDisable_iff {s : St} {m : CMsg} {k : Nat} (hc : s.cpc = .inMsg m k) :
    afterDisable s ↔ 1 ≤ k ∧ m.disables = true := by
  unfold afterDisable; rw [hc]
  constructor
  · rintro ⟨m', j, h, hd⟩; cases h; exact ⟨Nat.le_add_left 1 j, hd⟩
  · rintro ⟨hk, hd⟩; exact ⟨m, k - 1, by rw [Nat.sub_add_cancel hk], hd⟩

theorem afterStop_iff {s : St} {m : CMsg} {k : Nat} (hc : s.cpc = .inMsg m k) : afterStop s ↔ 1 ≤ k ∧ m = .stop := by
  unfold afterStop; rw [hc]
  constructor
  · rintro ⟨j, h⟩; cases h; exact ⟨Nat.le_add_left 1 j, rfl⟩
  · rintro ⟨hk, rfl⟩; exact ⟨k - 1, by rw [Nat.sub_add_cancel hk]⟩

theorem not_afterStop_idle {s : St} (hc : s.cpc = .idle) : ¬ afterStop s := by
  rintro ⟨k, h⟩; rw [hc] at h; cases h

theorem pendingDel_iff {s : St} {m : CMsg} {k : Nat} (hc : s.cpc = .inMsg m k) :
    pendingDel s = true ↔ k = 1 ∧ m.disables = true := by
  unfold pendingDel; rw [hc]
  split
  · rename_i h; cases h; simp
  · rename_i h; exact ⟨nofun, fun ⟨hk, _⟩ => absurd (hk ▸ rfl) (h m)⟩

/-! ## group A: disable/reset half of P1 -/

/-- `a1` and `a3` speak of `enabled`, the open period and the control thread only -/
theorem InvA.of_ctl {s t : St} (h : InvA s) (he : t.enabled = s.enabled) (hp : period t.trace = period s.trace)
    (hd : afterDisable t → afterDisable s) (hen : ∀ k, t.cpc = .inMsg .enable k → ∃ k', s.cpc = .inMsg .enable k')
    (a2 : t.wpc = .toDispatch → t.rdStale = true ∨ t.enabled = true)
    (g : ∀ fd fs rs cs, GRec.disp fd fs rs cs ∈ t.glog → fd = true → rs = true) : InvA t := by
  refine ⟨?_, a2, ?_, g⟩
  · rw [hp, he]; exact fun h' => h.a1 (h'.imp_right hd)
  · intro k hk; rw [hp]; obtain ⟨k', hk'⟩ := hen k hk; exact h.a3 k' hk'

theorem InvA.of_advance {s t : St} {m : CMsg} {k k' : Nat} (h : InvA s) (hc : s.cpc = .inMsg m k)
    (hc' : t.cpc = .inMsg m k') (hk : m.disables = true → 1 ≤ k) (he : t.enabled = s.enabled)
    (ht : t.trace = s.trace) (hw : t.wpc = s.wpc) (hr : t.rdStale = s.rdStale) (hg : t.glog = s.glog) : InvA t := by
  refine h.of_ctl he (congrArg period ht) ?_ ?_ (by rw [hw, hr, he]; exact h.a2) (by rw [hg]; exact h.g)
  · intro ha
    have := (afterDisable_iff hc').1 ha
    exact (afterDisable_iff hc).2 ⟨hk this.2, this.2⟩
  · intro j hj; rw [hc'] at hj; cases hj; exact ⟨k, hc⟩

theorem invA_kick {s : St} (h : InvA s) (d : Evt) (s' : St) (hs : step s (.kick d) = some s') : InvA s' := by
  cases kick_eq hs
  exact h.of_ctl rfl (period_emit _ _) id (fun k hk => ⟨k, hk⟩) h.a2 h.g

theorem invA_send {s : St} (h : InvA s) (m : CMsg) (s' : St) (hs : step s (.send m) = some s') : InvA s' := by
  obtain ⟨hc, rfl⟩ := send_eq hs
  refine ⟨?_, h.a2, ?_, h.g⟩
  · rintro (h1 | h1)
    · rw [period_emit, forbD_start, Bool.and_eq_true] at h1
      exact h.a1 (.inl h1.1)
    · exact absurd ((afterDisable_iff rfl).1 h1).1 (by decide)
  · intro k hk
    cases hk
    rw [period_emit, forbD_start]; simp

theorem invA_w {s : St} (h : InvA s) (s' : St) (hs : step s .w = some s') : InvA s' := by
  have f := w_frame hs
  refine h.of_ctl f.enabled (w_period hs) (by unfold afterDisable; rw [f.cpc]; exact id) (fun k hk => ⟨k, f.cpc ▸ hk⟩) ?_ ?_
  · intro hw
    have p := w_pc hs
    rw [hw] at p
    exact .inr (f.enabled ▸ p.2.1)
  · intro fd fs rs cs hm hfd
    rcases w_glog hs hm with hm | ⟨hw, hr⟩ | ⟨-, -, hr⟩
    · exact h.g fd fs rs cs hm hfd
    · -- the handler entry itself: in a forbidden period the ring is disabled, so the grant was overtaken
      cases hr
      exact (h.a2 hw).resolve_right (by rw [h.a1 (.inl hfd)]; decide)
    · cases hr

theorem invA_c {s : St} (h : InvA s) (s' : St) (hs : step s .c = some s') : InvA s' := by
  obtain ⟨m, k, hc, hseg⟩ := c_seg hs
  cases hseg with
  | disable hm =>
    refine ⟨fun _ => rfl, fun hw => .inl ?_, fun k' hk' => ?_, h.g⟩
    · have hw : s.wpc = .toDispatch := hw
      show (s.rdStale || decide (s.wpc = .toDispatch)) = true
      simp [hw]
    · cases hk'; cases hm
  | enable =>
    have hf := h.a3 0 hc
    refine ⟨?_, fun _ => .inr rfl, fun _ _ => hf, h.g⟩
    rintro (h1 | h1)
    · exact absurd (hf ▸ h1 : false = true) (by decide)
    · exact absurd ((afterDisable_iff rfl).1 h1).2 (by decide)
  | reply =>
    refine ⟨?_, h.a2, fun k' hk' => (by cases hk'), h.g⟩
    rintro (h1 | h1)
    · have h1 : ((period s.trace).next (.reply m)).forbD = true := period_emit _ _ ▸ h1
      rw [forbD_reply, Bool.or_eq_true] at h1
      exact h.a1 (h1.imp_right fun hd => (afterDisable_iff hc).2 ⟨Nat.le_trans (by decide) (two_le_replyStage m), hd⟩)
    · obtain ⟨_, _, h, _⟩ := h1; cases h
  | stop | newKick | noKick | dropKick => exact h.of_advance hc rfl (by decide) rfl rfl rfl rfl rfl
  | setReady hm => exact h.of_advance hc rfl (fun _ => Nat.le_refl 1) rfl rfl rfl rfl rfl
  | epoll => exact h.of_advance hc rfl (fun _ => epollStage_pos m) rfl rfl rfl rfl rfl

/-! ## group B: stop half of P1 -/

structure InvB (s : St) : Prop where
  b1 : (period s.trace).forbS = true ∨ afterStop s → s.ready = false
  b2 : s.cfg.fixStopped = true → (s.wpc = .checked ∨ s.wpc = .toDispatch) → s.chkStale = true ∨ s.ready = true
  b3 : ∀ k, s.cpc = .inMsg .restart k → (period s.trace).forbS = false
  g : ∀ fd fs rs cs, GRec.disp fd fs rs cs ∈ s.glog → s.cfg.fixStopped = true → fs = true → cs = true
  /-- the `set_queue_ready(true)` segment of a descriptor-less SET_VRING_KICK exists only in the mutated code -/
  b4 : s.cpc ≠ .inMsg .nofd 1

theorem InvB.of_ctl {s t : St} (h : InvB s) (he : t.ready = s.ready) (hp : period t.trace = period s.trace)
    (hd : afterStop t → afterStop s) (hen : ∀ k, t.cpc = .inMsg .restart k → ∃ k', s.cpc = .inMsg .restart k')
    (b4 : t.cpc ≠ .inMsg .nofd 1)
    (b2 : t.cfg.fixStopped = true → (t.wpc = .checked ∨ t.wpc = .toDispatch) → t.chkStale = true ∨ t.ready = true)
    (g : ∀ fd fs rs cs, GRec.disp fd fs rs cs ∈ t.glog → t.cfg.fixStopped = true → fs = true → cs = true) :
    InvB t := by
  refine ⟨?_, b2, ?_, g, b4⟩
  · rw [hp, he]; exact fun h' => h.b1 (h'.imp_right hd)
  · intro k hk; rw [hp]; obtain ⟨k', hk'⟩ := hen k hk; exact h.b3 k' hk'

theorem InvB.of_advance {s t : St} {m : CMsg} {k k' : Nat} (h : InvB s) (hc : s.cpc = .inMsg m k)
    (hc' : t.cpc = .inMsg m k') (hk : m = .stop → 1 ≤ k) (b4 : t.cpc ≠ .inMsg .nofd 1) (he : t.ready = s.ready)
    (ht : t.trace = s.trace) (hf : t.cfg = s.cfg) (hw : t.wpc = s.wpc) (hr : t.chkStale = s.chkStale)
    (hg : t.glog = s.glog) : InvB t := by
  refine h.of_ctl he (congrArg period ht) ?_ ?_ b4 (by rw [hf, hw, hr, he]; exact h.b2) (by rw [hf, hg]; exact h.g)
  · intro ha
    have := (afterStop_iff hc').1 ha
    exact (afterStop_iff hc).2 ⟨hk this.2, this.2⟩
  · intro j hj; rw [hc'] at hj; cases hj; exact ⟨k, hc⟩

theorem invB_kick {s : St} (h : InvB s) (d : Evt) (s' : St) (hs : step s (.kick d) = some s') : InvB s' := by
  cases kick_eq hs
  exact h.of_ctl rfl (period_emit _ _) id (fun k hk => ⟨k, hk⟩) h.b4 h.b2 h.g

theorem invB_send {s : St} (h : InvB s) (m : CMsg) (s' : St) (hs : step s (.send m) = some s') : InvB s' := by
  obtain ⟨hc, rfl⟩ := send_eq hs
  refine ⟨?_, h.b2, ?_, h.g, nofun⟩
  · rintro (h1 | h1)
    · rw [period_emit, forbS_start, Bool.and_eq_true] at h1
      exact h.b1 (.inl h1.1)
    · exact absurd ((afterStop_iff rfl).1 h1).1 (by decide)
  · intro k hk
    cases hk
    rw [period_emit, forbS_start]; simp

theorem invB_w {s : St} (h : InvB s) (s' : St) (hs : step s .w = some s') : InvB s' := by
  have f := w_frame hs
  refine h.of_ctl f.ready (w_period hs) (by unfold afterStop; rw [f.cpc]; exact id) (fun k hk => ⟨k, f.cpc ▸ hk⟩)
    (f.cpc ▸ h.b4) ?_ ?_
  · rw [f.cfg, f.ready]
    have p := w_pc hs
    rintro hfs (hw | hw) <;> rw [hw] at p
    · exact .inr (p.2.1 hfs)
    · obtain ⟨hw0, -, -, hck⟩ := p
      rw [hck]; exact h.b2 hfs (.inl hw0)
  · intro fd fs rs cs hm hfs hfd
    rw [f.cfg] at hfs
    rcases w_glog hs hm with hm | ⟨hw, hr⟩ | ⟨-, -, hr⟩
    · exact h.g fd fs rs cs hm hfs hfd
    · cases hr
      exact (h.b2 hfs (.inr hw)).resolve_right (by rw [h.b1 (.inl hfd)]; decide)
    · cases hr

/-- needs the unmutated guard of `set_vring_kick` (`nofdStarts = false`): with the mutation a descriptor-less
SET_VRING_KICK sets `ready` inside the forbidden period of a stop (`b1` fails) -/
theorem invB_c {s : St} (h : InvB s) (hm : s.cfg.nofdStarts = false) (s' : St) (hs : step s .c = some s') : InvB s' := by
  obtain ⟨m, k, hc, hseg⟩ := c_seg hs
  cases hseg with
  | stop =>
    refine ⟨fun _ => rfl, fun _ hw => .inl ?_, nofun, h.g, nofun⟩
    have hw : s.wpc = .checked ∨ s.wpc = .toDispatch := hw
    show (s.chkStale || decide (s.wpc = .checked) || decide (s.wpc = .toDispatch)) = true
    rcases hw with hw | hw <;> simp [hw]
  | setReady hm' =>
    rcases hm' with rfl | rfl
    · have hf := h.b3 1 hc
      refine ⟨?_, fun _ _ => .inr rfl, fun _ _ => hf, h.g, nofun⟩
      rintro (h1 | h1)
      · exact absurd (hf ▸ h1 : false = true) (by decide)
      · exact absurd ((afterStop_iff rfl).1 h1).2 (by decide)
    · exact absurd hc h.b4
  | reply =>
    refine ⟨?_, h.b2, fun k' hk' => (by cases hk'), h.g, nofun⟩
    rintro (h1 | h1)
    · have h1 : ((period s.trace).next (.reply m)).forbS = true := period_emit _ _ ▸ h1
      rw [forbS_reply, Bool.or_eq_true, decide_eq_true_iff] at h1
      exact h.b1 (h1.imp_right fun hd => (afterStop_iff hc).2 ⟨Nat.le_trans (by decide) (two_le_replyStage m), hd⟩)
    · exact absurd h1 (not_afterStop_idle rfl)
  | disable hd => exact h.of_advance hc rfl (by rintro rfl; cases hd) (by intro h; cases h; cases hd) rfl rfl rfl rfl rfl rfl
  | enable | newKick => exact h.of_advance hc rfl nofun nofun rfl rfl rfl rfl rfl rfl
  | noKick =>
    refine h.of_advance hc rfl nofun ?_ rfl rfl rfl rfl rfl rfl
    show CPc.inMsg .nofd (if s.cfg.nofdStarts && !s.ready then 1 else 2) ≠ .inMsg .nofd 1
    rw [hm]; nofun
  | epoll => exact h.of_advance hc rfl (fun _ => epollStage_pos m) (by intro h; cases h) rfl rfl rfl rfl rfl rfl
  | dropKick => exact h.of_advance hc rfl (fun _ => by decide) nofun rfl rfl rfl rfl rfl rfl

/-! ## group C: no wake-up consumed without a handler call -/

/-- `c3`: the epoll set holds no descriptor of the ring but its current kick descriptor (so a batch holds at most one of its
events, header of `Model/Worker.lean`); `c7` repeats the second half of `InvA.a1` -/
structure InvC (s : St) : Prop where
  c1 : (s.wpc = .woken ∨ s.wpc = .checked) → s.clean = true → s.enabled = true
  c2 : ∀ d, s.reg d = true → s.enabled = true ∨ pendingDel s = true
  c3 : ∀ d, s.reg d = true → s.kick = some d
  c4 : s.cpc = .inMsg .stop 2 → ∀ d, s.reg d = false
  c5 : ∀ d, s.kick = some d → d < s.next
  c6 : afterStop s → s.ready = false
  c7 : afterDisable s → s.enabled = false
  g : ∀ c, GRec.dropped c ∈ s.glog → c = false

theorem readyAny_reg {s : St} (h : readyAny s = true) : ∃ d, s.reg d = true := by
  unfold readyAny at h
  obtain ⟨d, _, hd⟩ := List.any_eq_true.1 h
  simp only [Bool.and_eq_true] at hd
  exact ⟨d, hd.1⟩


/-- a step that leaves ring state, registrations and the control thread alone -/
theorem InvC.of_eq {s t : St} (h : InvC s) (ha : InvA t)
    (hw : (t.wpc = .woken ∨ t.wpc = .checked) → t.clean = true → t.enabled = true)
    (e1 : t.reg = s.reg) (e2 : t.enabled = s.enabled) (e3 : t.cpc = s.cpc) (e4 : t.kick = s.kick)
    (e5 : t.next = s.next) (e6 : t.ready = s.ready) (hg : ∀ c, GRec.dropped c ∈ t.glog → c = false) : InvC t := by
  refine ⟨hw, ?_, ?_, ?_, ?_, ?_, fun h' => ha.a1 (.inr h'), hg⟩
  · unfold pendingDel; rw [e1, e2, e3]; exact h.c2
  · rw [e1, e4]; exact h.c3
  · rw [e1, e3]; exact h.c4
  · rw [e4, e5]; exact h.c5
  · unfold afterStop; rw [e3, e6]; exact h.c6

theorem invC_kick {s : St} (h : InvC s) (d : Evt) (s' : St) (ha : InvA s') (hs : step s (.kick d) = some s') :
    InvC s' := by
  cases kick_eq hs
  exact h.of_eq ha h.c1 rfl rfl rfl rfl rfl rfl h.g

theorem invC_send {s : St} (h : InvC s) (m : CMsg) (s' : St) (ha : InvA s') (hs : step s (.send m) = some s') :
    InvC s' := by
  obtain ⟨hc, rfl⟩ := send_eq hs
  refine ⟨h.c1, fun d hd => (h.c2 d hd).imp_right fun hp => ?_, h.c3, nofun, h.c5, fun h' => ?_,
    fun h' => ha.a1 (.inr h'), h.g⟩
  · unfold pendingDel at hp; rw [hc] at hp; cases hp
  · exact absurd ((afterStop_iff rfl).1 h').1 (by decide)

theorem invC_w {s : St} (h : InvC s) (s' : St) (ha : InvA s') (hs : step s .w = some s') : InvC s' := by
  have f := w_frame hs
  refine h.of_eq ha ?_ f.reg f.enabled f.cpc f.kick f.next f.ready ?_
  · rw [f.enabled]
    have p := w_pc hs
    rintro (hw | hw) hcl <;> rw [hw] at p
    · -- woken by a registered descriptor while no unregistration was pending
      obtain ⟨hr, hcl'⟩ := p
      obtain ⟨d, hd⟩ := readyAny_reg hr
      rw [hcl', Bool.not_eq_true'] at hcl
      exact (h.c2 d hd).resolve_right (by rw [hcl]; decide)
    · obtain ⟨hw0, -, -, hcl'⟩ := p
      exact h.c1 (.inl hw0) (hcl' ▸ hcl)
  · intro c hm
    rcases w_glog hs hm with hm | ⟨-, hr⟩ | ⟨hw, hen, hr⟩
    · exact h.g c hm
    · cases hr
    · -- a read without a grant: the ring is disabled, so the wake-up was not `clean`
      cases hr
      exact Bool.eq_false_iff.2 fun hcl => by rw [h.c1 (.inr hw) hcl] at hen; cases hen

theorem epollUpdate_reg (s : St) (d : Evt) :
    (epollUpdate s).reg d = match s.kick with
      | some fd => if d = fd then (s.ready && s.enabled) else s.reg d
      | none => s.reg d := by
  unfold epollUpdate
  cases s.kick with
  | none => rfl
  | some fd => simp [upd]

theorem unregKick_reg_false {s : St} (c3 : ∀ d, s.reg d = true → s.kick = some d) (d : Evt) :
    (unregKick s).reg d = false := by
  unfold unregKick
  cases hk : s.kick with
  | none => exact Bool.eq_false_iff.2 fun hr => nomatch hk ▸ c3 d hr
  | some k =>
    show (if d = k then false else s.reg d) = false
    split
    · rfl
    · rename_i hd
      exact Bool.eq_false_iff.2 fun hr => hd (Option.some.inj (hk ▸ c3 d hr)).symm

/-- after `epollUpdate` every registration is the current kick descriptor, and it is there only if ready ∧ enabled -/
theorem epollUpdate_props {s : St} (c3 : ∀ d, s.reg d = true → s.kick = some d) (d : Evt)
    (hd : (epollUpdate s).reg d = true) : s.kick = some d ∧ s.ready = true ∧ s.enabled = true := by
  rw [epollUpdate_reg] at hd
  cases hk : s.kick with
  | none => rw [hk] at hd; exact nomatch hk ▸ c3 d hd
  | some fd =>
    rw [hk] at hd
    have hd : (if d = fd then (s.ready && s.enabled) else s.reg d) = true := hd
    split at hd
    · rename_i hdf
      rw [Bool.and_eq_true] at hd
      exact ⟨hdf ▸ rfl, hd⟩
    · rename_i hdf
      exact absurd (Option.some.inj (hk ▸ c3 d hd)).symm hdf

theorem unregistered_elim {t : St} (h : ∀ d, t.reg d = false) {p : Evt → Prop} (d : Evt) (hd : t.reg d = true) : p d :=
  absurd (h d ▸ hd) Bool.false_ne_true

theorem invC_c {s : St} (h : InvC s) (s' : St) (ha : InvA s') (hs : step s .c = some s') : InvC s' := by
  obtain ⟨m, k, hc, hseg⟩ := c_seg hs
  have pd := pendingDel_iff hc
  have c7 := fun h' => ha.a1 (.inr h')
  cases hseg with
  | disable hm =>
    refine ⟨fun hw hcl => ?_, fun _ _ => .inr ((pendingDel_iff rfl).2 ⟨rfl, hm⟩), h.c3, nofun, h.c5, fun h' => ?_, c7, h.g⟩
    · -- the ghost flag `clean` is cleared when the change lands between `woken` and `readKick`
      have hw : s.wpc = .woken ∨ s.wpc = .checked := hw
      have hcl : (s.clean && !(decide (s.wpc = .woken) || decide (s.wpc = .checked))) = true := hcl
      rcases hw with hw | hw <;> simp [hw] at hcl
    · have := ((afterStop_iff rfl).1 h').2
      subst this; cases hm
  | enable =>
    exact ⟨fun _ _ => rfl, fun _ _ => .inl rfl, h.c3, nofun, h.c5, fun h' => (nomatch ((afterStop_iff rfl).1 h').2), c7, h.g⟩
  | stop =>
    exact ⟨h.c1, fun d hd => (h.c2 d hd).imp_right fun hp => absurd (pd.1 hp).1 (by decide), h.c3, nofun, h.c5,
      fun _ => rfl, c7, h.g⟩
  | newKick =>
    have hall := unregKick_reg_false h.c3
    exact ⟨h.c1, unregistered_elim hall, unregistered_elim hall, nofun, fun d hd => by cases hd; exact Nat.lt_succ_self _,
      fun h' => (nomatch ((afterStop_iff rfl).1 h').2), c7, h.g⟩
  | noKick =>
    have hall := unregKick_reg_false h.c3
    exact ⟨h.c1, unregistered_elim hall, unregistered_elim hall, nofun, nofun, fun h' => (nomatch ((afterStop_iff rfl).1 h').2), c7, h.g⟩
  | setReady hm =>
    have hnd : m.disables = false := by rcases hm with rfl | rfl <;> rfl
    have hns : m ≠ .stop := by rcases hm with rfl | rfl <;> nofun
    refine ⟨h.c1, fun d hd => (h.c2 d hd).imp_right fun hp => ?_, h.c3, fun hc' => ?_, h.c5, fun h' => ?_, c7, h.g⟩
    · rw [(pd.1 hp).2] at hnd; cases hnd
    · cases hc'; exact absurd rfl hns
    · exact absurd ((afterStop_iff rfl).1 h').2 hns
  | epoll =>
    have h1 := epollStage_pos m
    have hp := epollUpdate_props h.c3
    refine ⟨h.c1, fun d hd => .inl (hp d hd).2.2, fun d hd => (hp d hd).1, fun hc' d => ?_, h.c5, fun h' => ?_, c7, h.g⟩
    · -- GET_VRING_BASE: the ring is not ready, so its descriptor has just left the epoll set
      cases hc'
      have hrd : s.ready = false := h.c6 ((afterStop_iff hc).2 ⟨h1, rfl⟩)
      exact Bool.eq_false_iff.2 fun hr => by rw [(hp d hr).2.1] at hrd; cases hrd
    · exact h.c6 ((afterStop_iff hc).2 ⟨h1, ((afterStop_iff rfl).1 h').2⟩)
  | dropKick =>
    have hall := h.c4 hc
    exact ⟨h.c1, unregistered_elim hall, unregistered_elim hall, nofun, nofun, fun _ => h.c6 ((afterStop_iff hc).2 ⟨by decide, rfl⟩), c7, h.g⟩
  | reply =>
    exact ⟨h.c1, fun d hd => (h.c2 d hd).imp_right fun hp => absurd ((pd.1 hp).1 ▸ two_le_replyStage m : 2 ≤ 1) (by decide),
      h.c3, nofun, h.c5, fun h' => absurd h' (not_afterStop_idle rfl), c7, h.g⟩

/-! ## history and ghost log -/

/-- what one step does to the history and the ghost log -/
def TraceStep (s s' : St) : Prop :=
  s'.cfg = s.cfg ∧
  ((s'.trace = s.trace ∧ s'.glog = s.glog) ∨
   ∃ e, s'.trace = s.trace ++ [e] ∧ (∀ r, r ∈ s.glog → r ∈ s'.glog) ∧
     (e = .dispatch → ∃ rs cs, GRec.disp (period s.trace).forbD (period s.trace).forbS rs cs ∈ s'.glog) ∧
     (e = .consumed false → (∃ c, GRec.dropped c ∈ s'.glog) ∧ s.cfg.fixLost = false) ∧
     (e = .workerExit → s.cfg.fixEagain = false))

theorem c_log {s s' : St} (h : step s .c = some s') :
    s'.cfg = s.cfg ∧ s'.glog = s.glog ∧
    (s'.trace = s.trace ∨ ∃ m, s.cpc = .inMsg m (replyStage m) ∧ s' = reply s m) := by
  obtain ⟨m, k, hc, hseg⟩ := c_seg h
  cases hseg
  case reply => exact ⟨rfl, rfl, .inr ⟨m, hc, rfl⟩⟩
  all_goals exact ⟨rfl, rfl, .inl rfl⟩

theorem step_trace {s s' : St} {l : Lbl} (hs : step s l = some s') : TraceStep s s' := by
  cases l with
  | kick d => cases kick_eq hs; exact ⟨rfl, .inr ⟨.kick d, rfl, fun _ h => h, nofun, nofun, nofun⟩⟩
  | send m => cases (send_eq hs).2; exact ⟨rfl, .inr ⟨.start m, rfl, fun _ h => h, nofun, nofun, nofun⟩⟩
  | w =>
    refine ⟨(w_frame hs).cfg, ?_⟩
    rcases w_log hs with h | ⟨-, ht, hg⟩ | ⟨-, ht, hg⟩ | ⟨-, -, hf, ht, hg⟩ | ⟨hf, ht, hg⟩
    · exact .inl h
    · exact .inr ⟨_, ht, fun r hr => hg ▸ List.mem_append_left _ hr, fun _ => ⟨_, _, hg ▸ List.mem_append_right _ (.head _)⟩,
        nofun, nofun⟩
    · exact .inr ⟨_, ht, fun r hr => hg ▸ hr, nofun, nofun, nofun⟩
    · exact .inr ⟨_, ht, fun r hr => hg ▸ List.mem_append_left _ hr, nofun,
        fun _ => ⟨⟨_, hg ▸ List.mem_append_right _ (.head _)⟩, hf⟩, nofun⟩
    · exact .inr ⟨_, ht, fun r hr => hg ▸ hr, nofun, nofun, fun _ => hf⟩
  | c =>
    obtain ⟨hf, hg, ht | ⟨m, -, rfl⟩⟩ := c_log hs
    · exact ⟨hf, .inl ⟨ht, hg⟩⟩
    · exact ⟨hf, .inr ⟨.reply m, rfl, fun _ hr => hr, nofun, nofun, nofun⟩⟩

/-! ## all invariants along a run -/

/-- `b` (the stop half of P1) is an invariant of the code as it is — pinned or repaired — but not of the code with the
mutated guard of `set_vring_kick` (`Props.C12.nofd_kick_marks_ready_counterexample`) -/
structure Inv (s : St) : Prop where
  a : InvA s
  b : s.cfg.nofdStarts = false → InvB s
  c : InvC s

theorem inv_init (cfg : Cfg) : Inv (init cfg) := by
  refine ⟨⟨?_, ?_, ?_, ?_⟩, fun _ => ⟨?_, ?_, ?_, ?_, ?_⟩, ⟨?_, ?_, ?_, ?_, ?_, ?_, ?_, ?_⟩⟩ <;>
    simp [init, period, afterDisable, afterStop, pendingDel]

theorem inv_step {s s' : St} {l : Lbl} (h : Inv s) (hs : step s l = some s') : Inv s' := by
  have hcfg : s'.cfg = s.cfg := (step_trace hs).1
  cases l with
  | kick d =>
    have a := invA_kick h.a d s' hs
    exact ⟨a, fun hm => invB_kick (h.b (hcfg ▸ hm)) d s' hs, invC_kick h.c d s' a hs⟩
  | send m =>
    have a := invA_send h.a m s' hs
    exact ⟨a, fun hm => invB_send (h.b (hcfg ▸ hm)) m s' hs, invC_send h.c m s' a hs⟩
  | w =>
    have a := invA_w h.a s' hs
    exact ⟨a, fun hm => invB_w (h.b (hcfg ▸ hm)) s' hs, invC_w h.c s' a hs⟩
  | c =>
    have a := invA_c h.a s' hs
    exact ⟨a, fun hm => invB_c (h.b (hcfg ▸ hm)) (hcfg ▸ hm) s' hs, invC_c h.c s' a hs⟩

theorem isRun : Lemmas.Runs.IsRun step run :=
  ⟨fun _ => rfl, fun s l ls => by rw [run]; cases step s l <;> rfl⟩

theorem inv_run {s s' : St} (h : Inv s) (ls : List Lbl) (hs : run s ls = some s') : Inv s' :=
  isRun.inv (fun _ _ _ h hs => inv_step h hs) h hs

/-- the link between the history and the ghost log -/
structure Linked (cfg : Cfg) (s : St) : Prop where
  cfg_eq : s.cfg = cfg
  disp : ∀ pre post, s.trace = pre ++ Ev.dispatch :: post →
    ∃ rs cs, GRec.disp (period pre).forbD (period pre).forbS rs cs ∈ s.glog
  drop : Ev.consumed false ∈ s.trace → (∃ c, GRec.dropped c ∈ s.glog) ∧ cfg.fixLost = false
  exit : Ev.workerExit ∈ s.trace → cfg.fixEagain = false

theorem append_singleton_split {α : Type} (tr pre post : List α) (e x : α) (h : tr ++ [e] = pre ++ x :: post) :
    (post = [] ∧ e = x ∧ pre = tr) ∨ ∃ post', post = post' ++ [e] ∧ tr = pre ++ x :: post' := by
  rcases List.eq_nil_or_concat post with rfl | ⟨post', y, rfl⟩
  · obtain ⟨h1, h2⟩ := List.append_inj' (h : tr ++ [e] = pre ++ [x]) rfl
    exact .inl ⟨rfl, List.singleton_inj.1 h2, h1.symm⟩
  · rw [List.concat_eq_append, ← List.cons_append, ← List.append_assoc] at h
    obtain ⟨h1, h2⟩ := List.append_inj' h rfl
    cases List.singleton_inj.1 h2
    exact .inr ⟨post', List.concat_eq_append .., h1⟩

theorem linked_init (cfg : Cfg) : Linked cfg (init cfg) := by
  refine ⟨rfl, ?_, ?_, ?_⟩
  all_goals simp [init]

theorem linked_step {cfg : Cfg} {s s' : St} {l : Lbl} (h : Linked cfg s) (hs : step s l = some s') : Linked cfg s' := by
  obtain ⟨hcfg, hts⟩ := step_trace hs
  rcases hts with ⟨ht, hg⟩ | ⟨e, ht, hsub, hd, hc, hx⟩
  · refine ⟨hcfg.trans h.cfg_eq, ?_, ?_, ?_⟩
    · rw [ht, hg]; exact h.disp
    · rw [ht, hg]; exact h.drop
    · rw [ht]; exact h.exit
  · refine ⟨hcfg.trans h.cfg_eq, ?_, ?_, ?_⟩
    · intro pre post hsplit
      rw [ht] at hsplit
      rcases append_singleton_split _ _ _ _ _ hsplit with ⟨_, he, hpre⟩ | ⟨post', _, htr⟩
      · subst hpre; exact hd he
      · obtain ⟨rs, cs, hm⟩ := h.disp pre post' htr
        exact ⟨rs, cs, hsub _ hm⟩
    · intro hm
      rw [ht, List.mem_append, List.mem_singleton] at hm
      rcases hm with hm | hm
      · obtain ⟨⟨c, hc'⟩, hf⟩ := h.drop hm
        exact ⟨⟨c, hsub _ hc'⟩, hf⟩
      · have := hc hm.symm
        exact ⟨this.1, by rw [← h.cfg_eq]; exact this.2⟩
    · intro hm
      rw [ht, List.mem_append, List.mem_singleton] at hm
      rcases hm with hm | hm
      · exact h.exit hm
      · rw [← h.cfg_eq]; exact hx hm.symm

end Lemmas.Worker
