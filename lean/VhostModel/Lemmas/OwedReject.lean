import VhostModel.Lemmas.ArmOk
/-!
# C04Owed: requests the Spec classifies as `reject` do not reach the handler

A request no arm lets through is refused (`nocall_of_not_armOk`: a guard that does not hold stops the arm, an action
whose own checks fail refuses); what the Spec rejects for its body or descriptors, no arm lets through (`nocall_of_bad`).
-/
namespace Lemmas.OwedReject
open Base Model.BackendSrv Model.Msgs Spec.Proto Lemmas.Owed Lemmas.OwedGuards Lemmas.BackendSrv Lemmas.ArmOk

/-- refused: no handler invocation, negotiation state untouched, an error is returned, and nothing is written except
possibly the negative acknowledgement (`ackOf st hdr false`: only when REPLY_ACK is in force and NEED_REPLY is set) -/
def NoCall (st : BSt) (hdr : Hdr) (o : Out) : Prop :=
  o.calls = [] ∧ o.st = st ∧ (∃ e, o.res = .err e) ∧ (o.out = [] ∨ o.out = ackOf st hdr false)

theorem nocall_err (st : BSt) (hdr : Hdr) (e : Err) (cl : List Fd) :
    NoCall st hdr { st := st, res := .err e, closed := cl } := ⟨rfl, rfl, ⟨e, rfl⟩, .inl rfl⟩

theorem nocall_nack (st : BSt) (hdr : Hdr) (e : Err) (cl : List Fd) :
    NoCall st hdr { st := st, out := ackOf st hdr false, res := .err e, closed := cl } := ⟨rfl, rfl, ⟨e, rfl⟩, .inr rfl⟩

theorem reject_imp (n : Neg) (r : Req) (h : classify n r = .reject) :
    ¬ Spec.validHeader Spec.frontendCodes r.code r.flags r.size ∨ gateOk n r.code = false ∨
    (r.code ∈ implemented ∧
      (Spec.Proto.bodyValid r.code r.body = false ∨ r.nfds ≠ filesPrescribed r.code r.body)) := by
  unfold classify at h
  rcases of_ite_eq h with h1 | ⟨-, h⟩
  · exact .inl (by simpa using h1)
  rcases of_ite_eq h with h2 | ⟨-, h⟩
  · exact .inr (.inl (by simpa using h2))
  obtain ⟨hi, h⟩ := of_ite_ne h nofun
  obtain ⟨-, h⟩ := of_ite_ne h nofun
  obtain ⟨-, h⟩ := of_ite_ne h nofun
  obtain ⟨-, h⟩ := of_ite_ne h nofun
  simp only [Bool.not_eq_true', Bool.not_eq_false] at hi
  refine .inr (.inr ⟨List.contains_iff_mem.1 hi, ?_⟩)
  rcases of_ite_eq h with h3 | ⟨-, h⟩
  · exact .inl (by simpa using h3)
  rcases of_ite_eq h with h4 | ⟨-, h⟩
  · exact .inr (by simpa using h4)
  obtain ⟨-, h⟩ := of_ite_ne h nofun
  split at h
  · split at h <;> cases h
  · cases h

/-- an action whose own checks fail refuses -/
theorem nocall_of_not_actOk (st : BSt) (c : Ctx) (h : Model.BackendSrv.HOut) {act : Act} (hk : ¬ actOk c act = true) :
    NoCall st c.hdr (runAct st c h act) := by
  cases act with
  | getConfig => rw [runAct_getConfig, if_neg (show ¬ cfgOk c.buf = true from hk)]; exact nocall_err ..
  | setConfig => rw [runAct_setConfig, if_neg (show ¬ cfgOk c.buf = true from hk)]; exact nocall_nack ..
  | memTable => rw [runAct_memTable, if_neg (show ¬ memTableOk c = true from hk)]; exact nocall_nack ..
  | backendReqFd => rw [runAct_backendReqFd, if_neg (show ¬ (takeSingle c.files).1.isSome = true from hk)]; exact nocall_nack ..
  | gpuSocket => rw [runAct_gpuSocket, if_neg (show ¬ (takeSingle c.files).1.isSome = true from hk)]; exact nocall_nack ..
  | _ => exact absurd rfl hk

/-- a request no arm lets through is refused: by the first guard that does not hold, or by the action -/
theorem nocall_of_not_armOk {st : BSt} {hdr : Hdr} {buf : Bytes} {files : Option (List Fd)} {h : Model.BackendSrv.HOut}
    (hn : ∀ a ∈ arms, a.code = hdr.code → ¬ ArmOk st hdr buf files a) : NoCall st hdr (dispatch st hdr buf files h) :=
  dispatch_cases (P := NoCall st hdr) st hdr buf files h (fun e => nocall_err st hdr e _) fun a hm hc hh => by
    have := nocall_of_not_actOk st (a.guards.foldl after { hdr := hdr, buf := buf, files := files }) h
      (act := a.act) fun hk => hn a hm hc ⟨hh, hk⟩
    rwa [(foldl_after_hdr_buf _ _).1] at this

/-- The third case of `reject_imp`, an invalid body or a wrong number of descriptors, by contraposition: an arm lets
through only what satisfies the Spec's body rule and, where the call uses the descriptors, has the prescribed number of
them (`arm_body_valid`, `arm_files`).  A request whose call uses none prescribes none, and cannot have come with any
(`hfd`): SET_LOG_FD (7), the one other code `fdCodes` lists, is not implemented. -/
theorem nocall_of_bad {st : BSt} {code fl sz : Nat} {buf : Bytes} {files : Option (List Fd)} {h : Model.BackendSrv.HOut}
    (himpl : code ∈ implemented) (hfd : files.getD [] ≠ [] → code ∈ fdCodes)
    (hbad : Spec.Proto.bodyValid code buf = false ∨ (files.getD []).length ≠ filesPrescribed code buf) :
    NoCall st ⟨code, fl, sz⟩ (dispatch st ⟨code, fl, sz⟩ buf files h) := by
  refine nocall_of_not_armOk fun a hm hc ok => ?_
  obtain rfl : a.code = code := hc
  rcases hbad with hb | hn
  · rw [arm_body_valid hm ok] at hb; cases hb
  · by_cases hu : a.code ∈ usesCodes
    · exact hn (arm_files hm ok hu)
    · have : files.getD [] = [] := Classical.byContradiction fun hne =>
        hu ((by decide : ∀ c ∈ fdCodes, c ∈ implemented → c ∈ usesCodes) _ (hfd hne) himpl)
      exact hn (by rw [this, filesPrescribed_of_none hu]; rfl)

end Lemmas.OwedReject
