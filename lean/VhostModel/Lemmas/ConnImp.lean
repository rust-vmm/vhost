import VhostModel.Base.Imp
import VhostModel.Lemmas.Stream
/-!
# One-step rewriting rules of the `Imp` interpreter (one per statement form), and the rule for `while`

The proofs about the loops and framing functions rewrite with these rules; a `call` of a function whose run is already
known (an equation `exec env body F fr0 w = (c, fr', w')`) is rewritten by `exec_call_of` applied to that equation, a
`while` by `loop_rule`.  `exec` itself is unfolded only for `matchErr` below and for the few statements of
`get_sub_iovs_offset` (`Lemmas.ConnSub`).  `primRecv_read`: the primitive `recvmsg` is the `read` of `Lemmas.Stream`.
-/
namespace Imp
open Model.Stream (Cell Chooser clampK)
variable {σ : Type} (env : Env σ) (F : Nat) (fr : Frame) (w : World σ)

@[simp] theorem exec_skip : exec env .skip F fr w = (.normal, fr, w) := rfl
@[simp] theorem exec_seq (a b : Stmt) : exec env (.seq a b) F fr w =
    match exec env a F fr w with
    | (.normal, fr', w') => exec env b F fr' w'
    | r => r := rfl
@[simp] theorem exec_assign (v : Var) (e : Expr) : exec env (.assign v e) F fr w =
    match evalE env fr e with
    | some x => (.normal, { fr with n := upd fr.n v.id x }, w)
    | none => (.stuck .fault, fr, w) := rfl
@[simp] theorem exec_assignL (l : Var) (e : LExpr) : exec env (.assignL l e) F fr w =
    (.normal, { fr with l := upd fr.l l.id (evalL fr e) }, w) := rfl
@[simp] theorem exec_assignF (f : Var) (e : FExpr) : exec env (.assignF f e) F fr w =
    (.normal, { (evalF fr e).2 with f := upd (evalF fr e).2.f f.id (evalF fr e).1 }, w) := rfl
@[simp] theorem exec_assignIo (io : Var) (e : IoExpr) : exec env (.assignIo io e) F fr w =
    match evalIo env fr e with
    | some v => (.normal, { fr with io := upd fr.io io.id v }, w)
    | none => (.stuck .fault, fr, w) := rfl
@[simp] theorem exec_allocIo (io : Var) (ps : List Piece) : exec env (.allocIo io ps) F fr w =
    match evalPieces env fr ps with
    | some ps =>
      (.normal, { fr with io := upd fr.io io.id { store := w.mem.length, start := 0, lens := ps.map (·.length) } },
       { w with mem := w.mem ++ [ps.flatten] })
    | none => (.stuck .fault, fr, w) := rfl
@[simp] theorem exec_dropF (f : Var) : exec env (.dropF f) F fr w =
    (.normal, { fr with f := upd fr.f f.id none }, { w with closed := w.closed ++ (fr.f f.id).getD [] }) := rfl
@[simp] theorem exec_ite (c : BExpr) (t e : Stmt) : exec env (.ite c t e) F fr w =
    match evalB env fr w.mem c with
    | some true => exec env t F fr w
    | some false => exec env e F fr w
    | none => (.stuck .fault, fr, w) := rfl
theorem exec_while (c : BExpr) (body : Stmt) : exec env (.while c body) F fr w =
    loop (fun fr w => evalB env fr w.mem c) (fun fr w => exec env body F fr w) F fr w := rfl
theorem exec_forIn (x l : Var) (body : Stmt) : exec env (.forIn x l body) F fr w =
    forLoop x.id (fun fr w => exec env body F fr w) (fr.l l.id) fr w := rfl
@[simp] theorem exec_brk : exec env .brk F fr w = (.brk, fr, w) := rfl
@[simp] theorem exec_ret (nats : List Expr) (fd : FExpr) (bufs : List BufExpr) : exec env (.ret nats fd bufs) F fr w =
    match evalEs env fr nats with
    | some ns => (.done (.ok { nats := ns, fds := (evalF fr fd).1, bufs := bufs.map (evalBuf fr w.mem) }), (evalF fr fd).2, w)
    | none => (.stuck .fault, fr, w) := rfl
@[simp] theorem exec_retErr (e : ErrExpr) : exec env (.retErr e) F fr w = (.done (.err (evalErr env fr e)), fr, w) := rfl
@[simp] theorem exec_fault : exec env .fault F fr w = (.stuck .fault, fr, w) := rfl
@[simp] theorem exec_callSend (io fds res : Var) : exec env (.callSend io fds res) F fr w =
    match primSend w (fr.io io.id) ((fr.f fds.id).getD []) with
    | some (rv, w') => (.normal, { fr with r := upd fr.r res.id rv }, w')
    | none => (.stuck .outOfScript, fr, w) := rfl
@[simp] theorem exec_callRecv (io : Var) (cap : Expr) (res : Var) : exec env (.callRecv io cap res) F fr w =
    match evalE env fr cap with
    | none => (.stuck .fault, fr, w)
    | some c =>
      match primRecv env w (fr.io io.id).store (fr.io io.id).start (fr.io io.id).lens.sum c with
      | some (rv, w') => (.normal, { fr with r := upd fr.r res.id rv }, w')
      | none => (.stuck .blocked, fr, w) := rfl
@[simp] theorem exec_mapErrInto (res : Var) : exec env (.mapErrInto res) F fr w =
    (.normal, { fr with r := upd fr.r res.id ((fr.r res.id).into env.classify) }, w) := rfl
theorem exec_matchResult (res : Var) (okN : List Var) (okF : Option Var) (okS errS : Stmt) :
    exec env (.matchResult res okN okF okS errS) F fr w =
    match fr.r res.id with
    | .ok v =>
      exec env okS F (match okF with
        | some f => { fr with n := bindN fr.n okN v.nats, f := upd fr.f f.id v.fds }
        | none => { fr with n := bindN fr.n okN v.nats }) w
    | .err _ => exec env errS F fr w := by
  cases okF <;> rfl
theorem exec_matchErr (res : Var) (c : ErrClass) (t e : Stmt) : exec env (.matchErr res c t e) F fr w =
    match fr.r res.id with
    | .err (.sock c' _) => if c' = c then exec env t F fr w else exec env e F fr w
    | _ => exec env e F fr w := by
  simp only [exec]
  split <;> simp_all
theorem exec_call (nm : String) (body : Stmt) nA lA fA ioA (res : Var) :
    exec env (.call nm body nA lA fA ioA res) F fr w =
    match bindArgsN env fr nA (fun _ => 0), bindArgsIo env fr ioA (fun _ => {}) with
    | some σn, some σio =>
      match exec env body F { n := σn, l := bindArgsL fr lA (fun _ => []), f := bindArgsF fr fA (fun _ => none), io := σio } w with
      | (.done rv, _, w') => (.normal, { fr with r := upd fr.r res.id rv }, w')
      | (.stuck s, fr', w') => (.stuck s, fr', w')
      | (_, _, w') => (.stuck .fault, fr, w')
    | _, _ => (.stuck .fault, fr, w) := rfl

theorem exec_call_of (nm : String) (body : Stmt) nA lA fA ioA (res : Var) {σn : Nat → Nat} {σio : Nat → IoVal}
    (hn : bindArgsN env fr nA (fun _ => 0) = some σn) (hio : bindArgsIo env fr ioA (fun _ => {}) = some σio)
    {c : Ctl} {fr' : Frame} {w' : World σ} :
    exec env body F { n := σn, l := bindArgsL fr lA (fun _ => []), f := bindArgsF fr fA (fun _ => none), io := σio } w
      = (c, fr', w') →
    exec env (.call nm body nA lA fA ioA res) F fr w =
      match c with
      | .done rv => (.normal, { fr with r := upd fr.r res.id rv }, w')
      | .stuck s => (.stuck s, fr', w')
      | _ => (.stuck .fault, fr, w') := by
  intro hx
  rw [exec_call, hn, hio]
  simp only []
  rw [hx]
  cases c <;> rfl

/-- `while` rule.  `P fr w r`: "`r` is a right result for the loop entered in `fr`, `w`" — shown where the loop stops,
inherited backwards over an iteration that continues (which keeps `Inv` and lowers `m`). -/
theorem loop_rule {cond : Frame → World σ → Option Bool} {body : Frame → World σ → Res σ}
    (Inv : Frame → World σ → Prop) (t : Frame → World σ → Bool) (m : Frame → World σ → Nat)
    (P : Frame → World σ → Res σ → Prop)
    (hc : ∀ fr w, Inv fr w → cond fr w = some (t fr w))
    (hstop : ∀ fr w, Inv fr w → t fr w = false → P fr w (.normal, fr, w))
    (hstep : ∀ fr w, Inv fr w → t fr w = true → ∀ c fr' w', body fr w = (c, fr', w') →
      match c with
      | .normal => Inv fr' w' ∧ m fr' w' < m fr w ∧ ∀ r, P fr' w' r → P fr w r
      | .brk => P fr w (.normal, fr', w')
      | c => P fr w (c, fr', w')) :
    ∀ (k : Nat) (fr : Frame) (w : World σ), Inv fr w → m fr w < k → P fr w (loop cond body k fr w) := by
  intro k
  induction k with
  | zero => intro fr w _ hk; omega
  | succ k ih =>
    intro fr w hI hk
    rw [loop, hc fr w hI]
    cases ht : t fr w with
    | false => exact hstop fr w hI ht
    | true =>
      rcases hx : body fr w with ⟨c, fr', w'⟩
      have := hstep fr w hI ht c fr' w' hx
      cases c with
      | normal => exact this.2.2 _ (ih fr' w' this.1 (by omega))
      | _ => exact this

@[simp] theorem bindN_nil (s : Nat → Nat) (vs : List Nat) : bindN s [] vs = s := by cases vs <;> rfl
@[simp] theorem bindN_cons (s : Nat → Nat) (x : Var) (xs : List Var) (v : Nat) (vs : List Nat) :
    bindN s (x :: xs) (v :: vs) = bindN (upd s x.id v) xs vs := rfl

/-! ### `writeAt` -/

theorem writeAt_nil (buf : Bytes) (p : Nat) : writeAt buf p [] = buf := by
  simp [writeAt]

theorem length_writeAt (buf : Bytes) (p : Nat) (c : Bytes) (h : p + c.length ≤ buf.length) :
    (writeAt buf p c).length = buf.length := by
  simp [writeAt]; omega

theorem writeAt_writeAt (buf : Bytes) (p : Nat) (c1 c2 : Bytes) (h : p + c1.length ≤ buf.length) :
    writeAt (writeAt buf p c1) (p + c1.length) c2 = writeAt buf p (c1 ++ c2) := by
  have hp : (buf.take p).length = p := by simp; omega
  have h1 : (buf.take p ++ c1).length = p + c1.length := by simp; omega
  unfold writeAt
  have e1 : (List.take p buf ++ c1 ++ List.drop (p + c1.length) buf).take (p + c1.length) = List.take p buf ++ c1 := by
    rw [← h1, List.take_left']
    rfl
  have e2 : (List.take p buf ++ c1 ++ List.drop (p + c1.length) buf).drop (p + c1.length + c2.length)
      = List.drop (p + (c1 ++ c2).length) buf := by
    rw [show p + c1.length + c2.length = (List.take p buf ++ c1).length + c2.length by omega, ← List.drop_drop, List.drop_left', List.drop_drop]
    · congr 1; simp; omega
    · rfl
  rw [e1, e2]
  simp

theorem writeAt_zeros (n : Nat) (b : Bytes) :
    writeAt (List.replicate n 0) 0 b = b ++ List.replicate (n - b.length) 0 := by
  simp [writeAt]

theorem getD_set_self (mem : List Bytes) (i : Nat) (x : Bytes) (h : i < mem.length) : (mem.set i x).getD i [] = x := by
  simp [List.getD_eq_getElem?_getD, h]

theorem set_getD_self (mem : List Bytes) (i : Nat) (h : i < mem.length) : mem.set i (mem.getD i []) = mem := by
  simp [List.getD_eq_getElem?_getD, h]

theorem set_writeAt_nil (mem : List Bytes) (i p : Nat) (h : i < mem.length) : mem.set i (writeAt (mem.getD i []) p []) = mem := by
  rw [writeAt_nil, set_getD_self mem i h]

theorem set_writeAt_append (mem : List Bytes) (i p : Nat) (c1 c2 : Bytes) {k : Nat} (hk : c1.length = k) (hi : i < mem.length)
    (h : p + k ≤ (mem.getD i []).length) :
    (mem.set i (writeAt (mem.getD i []) p c1)).set i (writeAt ((mem.set i (writeAt (mem.getD i []) p c1)).getD i []) (p + k) c2)
      = mem.set i (writeAt (mem.getD i []) p (c1 ++ c2)) := by
  subst hk
  rw [getD_set_self mem i _ hi, List.set_set, writeAt_writeAt _ _ _ _ h]

/-- `recvmsg` is `Lemmas.Stream.read` followed by the test on the number of descriptors -/
theorem primRecv_read {σ : Type} (env : Env σ) (w : World σ) (store start cap : Nat) {want : Nat} (hw : want ≠ 0) :
    primRecv env w store start want cap =
      match Lemmas.Stream.read env.ch env.isClosed want w.cst w.stream with
      | .blocked => none
      | .eof => some (.ok { nats := [0] }, w)
      | .got chunk rest st' =>
        if (chunk.flatMap (·.fds)).length > cap then
          some (.err (.errno ENOBUFS), { w with stream := rest, cst := st', closed := w.closed ++ chunk.flatMap (·.fds) })
        else
          some (.ok { nats := [chunk.length], fds := if (chunk.flatMap (·.fds)).isEmpty then none else some (chunk.flatMap (·.fds)) },
            { w with stream := rest, cst := st', mem := w.mem.set store (writeAt (w.mem.getD store []) start (chunk.map (·.b))) }) := by
  obtain ⟨n, rfl⟩ := Nat.exists_eq_succ_of_ne_zero hw
  unfold primRecv
  rw [if_neg hw]
  cases w.stream with
  | nil => cases env.isClosed <;> rfl
  | cons c s => simp only [Lemmas.Stream.read, (Lemmas.Stream.Chunk.clamp _ n c s).length_take]

end Imp
