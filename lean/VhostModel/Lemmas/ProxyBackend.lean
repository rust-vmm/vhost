import VhostModel.Lemmas.ProxyBase
import VhostModel.Gen.Consts
/-!
# The backend proxy model is the generated `backend_req.rs` programs (equations over all states, calls and streams)

* `proxy_gate_iff`: the translated gate condition of a method's row is the negation of the model's `Kind.gate`;
* `proxy_request_table`: `Model.BackendProxy.request` = gate, then the generated `send_message` program run on the inputs
  read off the model state: its first firing check is the refusal, otherwise header (code, flags, size) and descriptor
  are the program's;
* `callRecv_table`: what follows the write = the generated `wait_for_ack` program (`awaitOut`).
-/
namespace Lemmas.Proxy
open Base ProxySig Model.ProxyTable Model.Msgs Model.Stream Model.RecvBody
open Model.BackendSrv (Err Hdr encHdr hdrNewFlags)
open Model.Frontend (Reply RecvRes RecvOut)
open Model.BackendProxy

theorem proxy_gate_iff (st : PSt) (k : Kind) :
    (methodOf k).gateFails (pinOf st k) = !k.gate st ∧ (methodOf k).gateErr = .notNegotiated := by
  cases k <;> exact ⟨rfl, rfl⟩

theorem send_message_run (st : PSt) (k : Kind) (he : st.error = none) :
    run (pinOf st k) Gen.ProxyOps.Backend.send_message.stmts none =
      .sent k.code (if st.replyAck then 9 else 1) (rowOf k).size "send_message" true false true [.tailCall "wait_for_ack"] := by
  have hmod : (rowOf k).size % 4294967296 = (rowOf k).size := Nat.mod_eq_of_lt (by have := (rowOf_size k).1; omega)
  simp only [run, Gen.ProxyOps.Backend.send_message.stmts, pinOf, he, rowOf] at hmod ⊢
  cases st.replyAck <;> simp [hmod]

theorem proxy_request_table (st : PSt) (c : Call) (hlen : c.body.length = (rowOf c.kind).size) :
    request st c =
      (if (methodOf c.kind).gateFails (pinOf st c.kind) then .error (perrOf (methodOf c.kind).gateErr)
       else match run (pinOf st c.kind) Gen.ProxyOps.Backend.send_message.stmts none with
         | .err e => .error (perrOf e)
         | .sent code flags size _ _ _ fds _ =>
           .ok ⟨⟨code, flags, size⟩, c.body, if (methodOf c.kind).row.fd && fds then c.fds else []⟩
         | _ => .error (.proto .other)) := by
  obtain ⟨hg, he⟩ := proxy_gate_iff st c.kind
  obtain ⟨hle, hs⟩ := rowOf_size c.kind
  have hmax : Gen.Consts.MAX_MSG_SIZE = 4096 := by decide
  rw [hg, he]
  unfold request
  cases hgate : c.kind.gate st
  · simp [perrOf]
  · cases herr : st.error with
    | some e => simp [run, Gen.ProxyOps.Backend.send_message.stmts, pinOf, herr, perrOf]
    | none =>
      rw [send_message_run st c.kind herr, methodOf_row]
      have hfd : (rowOf c.kind).fd = c.kind.hasFd := rfl
      simp only [hs, hlen, hmax, reqFlags, hdrNewFlags, Nat.not_lt.2 (by omega : (rowOf c.kind).size ≤ 4096), hfd]
      cases st.replyAck <;> simp

theorem callRecv_table {σ : Type} (ch : Chooser σ) (cl : Bool) (st : PSt) (req : Req) (cst : σ) (str : List Cell) :
    callRecv ch cl st req cst str = awaitOut ch cl (pinOfSt st) Gen.ProxyOps.Backend.wait_for_ack.stmts req cst str := by
  unfold callRecv waitAck awaitOut
  cases herr : st.error with
  | some e => simp [run, Gen.ProxyOps.Backend.wait_for_ack.stmts, pinOfSt, herr, perrOf]
  | none =>
    cases hra : st.replyAck with
    | false => simp [run, Gen.ProxyOps.Backend.wait_for_ack.stmts, pinOfSt, herr, hra, leVal8_zero]
    | true =>
      have hsz : (Model.GpuProxy.sizeOfTy "VhostUserU64").getD 0 = 8 := by decide
      have hv : Model.GpuProxy.replyBodyOk "VhostUserU64" = u64Ok := by funext b; simp [Model.GpuProxy.replyBodyOk]
      simp only [run, Gen.ProxyOps.Backend.wait_for_ack.stmts, pinOfSt, herr, hra, replyIn, afterRecv,
        Option.isSome_none, Bool.false_eq_true, if_false, Bool.not_true, hsz, hv]
      generalize recvBody ch cl hdrValidB 8 u64Ok cst str = o
      rcases o with ⟨res, rest, cst', closed⟩
      cases res with
      | blocked => simp
      | err e => simp
      | ok r =>
        -- the three tests behind the read: model and program agree in each of the eight cases by evaluation;
        -- what remains is the accepted reply, where only the value decides
        cases h1 : isReplyFor backendCodes r.hdr req.hdr <;> cases h2 : r.files.isSome <;> cases h3 : u64Ok r.body <;>
          simp [h1, h2, h3, perrOf]
        have hf : r.files = none := by cases hh : r.files <;> simp_all
        by_cases hz : leVal r.body = 0 <;> simp [hz, hf]

end Lemmas.Proxy
