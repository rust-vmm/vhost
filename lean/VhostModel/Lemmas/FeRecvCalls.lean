import VhostModel.Lemmas.FeRecvBase

/-!
# The calls the reply readers make, each as one step

* `callFe_checkState`: `self.check_state()` with `error = None` (`check_state_spec` gives both cases);
* `callConn_recvBody`: `self.main_sock.recv_body::<T>()` against `Model.Frontend.recvBody` — by
  `Lemmas.ConnFrameRecv.recv_body_exec` both are functions of `Model.Stream.recvAll` over `12 + size_of::<T>()` bytes;
* `callConn_recvData`: `self.main_sock.recv_data(len)` against `Model.Stream.recvData`: `ImpFe.exec_callConn_of` applied to
  `Lemmas.ConnData.recv_data_run`.
-/
namespace Lemmas.FeRecv
open Imp ImpFe
open Model.Stream (Cell Chooser recvAll recvData RecvAll RecvData)
open Model.Frontend (RecvOut parseHdr hdrValid sizeOfTy bodyValidTy recvBody)
open Lemmas.ConnRecv (optOf)
open Lemmas.ConnData (dataCtl dataWorld recv_data_run)

/-- the statement never changes the descriptor variables of its activation -/
def KeepsF (s : Stmt) : Prop :=
  ∀ {σ : Type} (env : Env σ) (F : Nat) (fr : Frame) (w : World σ), (Imp.exec env s F fr w).2.1.f = fr.f

theorem keepsF_brk : KeepsF .brk := fun _ _ _ _ => rfl
theorem keepsF_retErr (e) : KeepsF (.retErr e) := fun _ _ _ _ => rfl

theorem callFe_checkState {σ : Type} (env : FEnv σ) (nm : String) (res : Var) (F : Nat) (fr : FFrame) (sf : Self) (w : World σ)
    (he : sf.error = none) :
    ImpFe.exec env (.callFe nm Gen.FeRecv.CheckState.fnBody [] [] [] res) F fr sf w =
      (.normal, { fr with r := upd fr.r res.id (.ok {}) }, sf, w) := by
  simp [exec_callFe, argsN, argsB, argsF, movedF, Gen.FeRecv.CheckState.fnBody, exec_matchSelfError, he, evalXs, evalFd]

/-- `check_state` itself: `Err(SocketBroken(from_raw_os_error(e)))` iff `self.error` is `Some(e)` -/
theorem check_state_spec {σ : Type} (env : FEnv σ) (F : Nat) (fr : FFrame) (sf : Self) (w : World σ) :
    (ImpFe.exec env Gen.FeRecv.checkState F fr sf w).1 =
      (match sf.error with
       | none => .done (.ok {})
       | some e => .done (.err (.conn (.sock .broken e)))) ∧
    (ImpFe.exec env Gen.FeRecv.checkState F fr sf w).2.2 = (sf, w) := by
  cases he : sf.error <;>
    simp [Gen.FeRecv.checkState, Gen.FeRecv.CheckState.fnBody, exec_matchSelfError, he, evalXs, evalFd, ImpFe.evalErr, evalX]

theorem callConn_recvBody {σ : Type} (ch : Chooser σ) (cl : Bool) (T : String) (n : Nat) (hn : sizeOfTy T = some n)
    (nm : String) (res : Var) (F : Nat) (fr : FFrame) (sf : Self) (w : World σ) (hF : w.stream.length + 1 ≤ F)
    (o : RecvOut σ) (ho : recvBody ch cl T w.cst w.stream = o)
    (out : FRes σ) (hout : ImpFe.exec (stdEnv ch cl) (.callConn nm T Gen.ConnLoops.RecvBody.fnBody [] res) F fr sf w = out) :
    out.2.2.2.stream = o.rest ∧ out.2.2.2.cst = o.cst ∧ out.2.2.1 = sf ∧
    match o.res with
    | .blocked => ∃ inner, out.1 = .stuck .blocked inner ∧ out.2.2.2.closed ++ (inner.f 0).getD [] = w.closed ++ o.closed
    | .err e => out.2.2.2.closed = w.closed ++ o.closed ∧
        ∃ fe, errMap (.conn fe) = e ∧ out.1 = .normal ∧ out.2.1 = { fr with r := upd fr.r res.id (.err (.conn fe)) }
    | .ok r => out.2.2.2.closed = w.closed ++ o.closed ∧
        ∃ hb, hb.length = 12 ∧ parseHdr hb = r.hdr ∧ r.body.length = n ∧ bodyValidTy T r.body = some true ∧ out.1 = .normal ∧
          out.2.1 = { fr with r := upd fr.r res.id (.ok { fds := r.files, bufs := [hb, r.body] }) } := by
  have h := Lemmas.ConnFrameRecv.recv_body_exec ((stdEnv ch cl).conn T) F { n := fun _ => 0 } w (std_classify ch cl T) hF
  have hs : ((stdEnv ch cl).conn T).sizeT = n := congrArg (·.getD 0) hn
  simp only [Lemmas.ConnFrameRecv.BodySpec, hs, show ((stdEnv ch cl).conn T).ch = ch from rfl,
    show ((stdEnv ch cl).conn T).isClosed = cl from rfl, show ((stdEnv ch cl).conn T).sizeH = 12 from rfl,
    show ((stdEnv ch cl).conn T).validH = hdrValid from rfl,
    show ((stdEnv ch cl).conn T).validT = (fun b => bodyValidTy T b == some true) from rfl] at h
  rw [exec_callConn] at hout
  simp only [argsN] at hout
  unfold recvBody at ho
  rw [hn] at ho
  simp only [] at ho
  generalize recvAll ch 32 cl (12 + n) w.cst w.stream true = R at h ho
  generalize Imp.exec ((stdEnv ch cl).conn T) Gen.ConnLoops.RecvBody.fnBody F { n := fun _ => 0 } w = X at h hout
  obtain ⟨c, fr', w'⟩ := X
  obtain ⟨t1, t2, t3⟩ := h
  subst hout
  split at ho
  · rename_i hb
    rw [if_pos hb] at t3
    obtain ⟨rfl, u2, u3⟩ := t3
    subst ho
    exact ⟨t1, t2, rfl, fr', rfl, by rw [u2, u3, Lemmas.ConnRecv.optOf_getD, List.append_assoc]⟩
  · rename_i hb
    rw [if_neg (fun e => hb e)] at t3
    split at ho
    · rename_i h1
      rw [if_pos (by simpa using h1)] at t3
      obtain ⟨rfl, u2⟩ := t3
      subst ho
      exact ⟨t1, t2, rfl, by rw [u2, List.append_assoc], _, rfl, rfl, rfl⟩
    · rename_i h1
      rw [if_neg (by simpa using h1)] at t3
      split at ho
      · rename_i h2
        rw [if_pos (by simpa using h2)] at t3
        obtain ⟨rfl, u2⟩ := t3
        subst ho
        exact ⟨t1, t2, rfl, by rw [u2, List.append_assoc], _, rfl, rfl, rfl⟩
      · rename_i h2
        rw [if_neg (by simpa using h2)] at t3
        obtain ⟨rfl, u2⟩ := t3
        subst ho
        simp only [bne_iff_ne, ne_eq, Classical.not_not, Bool.or_eq_true, Bool.not_eq_true', not_or, Bool.not_eq_false] at h1 h2
        exact ⟨t1, t2, rfl, u2, _, by simp [h1], rfl, by simp [h1], h2.2, rfl, rfl⟩

/-- `self.main_sock.recv_data(len)`: the call rule applied to `Lemmas.ConnData.recv_data_run`.  `recv_data` touches no
descriptor variable, so a call blocked inside it holds no descriptor. -/
theorem callConn_recvData {σ : Type} (ch : Chooser σ) (cl : Bool) (nm T : String) (e : FExp) (res : Var) (len : Nat)
    (F : Nat) (fr : FFrame) (sf : Self) (w : World σ) (he : evalX (stdEnv ch cl) fr sf e = some len)
    (hF : w.stream.length + 1 ≤ F) (D : RecvData σ) (hD : recvData ch cl len w.cst w.stream = D) :
    ∃ inner : Frame, inner.f 0 = none ∧
      ImpFe.exec (stdEnv ch cl) (.callConn nm T Gen.ConnLoops.RecvData.fnBody [(Gen.ConnLoops.RecvData.len, e)] res) F fr sf w =
        match dataCtl len D with
        | .done rv => (.normal, { fr with r := upd fr.r res.id (liftR rv) }, sf, dataWorld len w D)
        | .stuck s => (.stuck s inner, fr, sf, dataWorld len w D)
        | _ => (.stuck .fault {}, fr, sf, dataWorld len w D) := by
  obtain ⟨_, fr', hx, _, hf⟩ := recv_data_run ((stdEnv ch cl).conn T) F { n := upd (fun _ => 0) 0 len } w (std_classify ch cl T) hF
    len rfl D hD.symm
  exact ⟨fr', congrFun hf 0, exec_callConn_of _ F fr sf w nm T _ _ res (σn := upd (fun _ => 0) 0 len) (by simp only [argsN, he]) hx⟩

end Lemmas.FeRecv
