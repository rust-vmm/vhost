import VhostModel.Model.Shutdown
import VhostModel.Lemmas.Fair
import VhostModel.Lemmas.Runs
/-!
# Lemmas for `Model.Shutdown` (C16)

* `DStep`, `EStep` — `step` read as rules: the steps of the daemon thread (indexed by the program counter they start
  from) and those of its environment (callers, peer, owner of the daemon object).  Every fact below about a step is
  proved by cases on these rules.
* `Inv` — state invariant of the connection transition system and its preservation (`inv_init`, `inv_step`,
  `inv_run`): program-counter side conditions, "a caller between its two steps has stored the flag",
  "a completed shutdown request ⇒ flag ∧ socket shut down", "thread gone ⇒ socket shut down",
  "`ECONNRESET` pending ⇒ peer closed", "`join` returned ⇒ the thread is gone".
* monotonicity: the flag and the socket shutdown are never undone within a connection, nor is the thread's result.
* the measure `mu`: every step of the daemon thread decreases it, on a shut-down socket no other step changes it,
  and the daemon thread is never blocked there (`daemon_enabled`); `Exec`, `WeakFair`, `fair_terminates`: in a weakly
  fair infinite schedule the thread therefore ends.
* `namespace TD`, the teardown system: `TInv` (which exit events are raised and which workers are gone, per program
  counter of the handler's drop and of the tail of `serve()`) is monotone in both (`TInv.mono`), so a step only has to
  add the clause of the program counter it moves to (`tinv_step`); every step decreases `TD.mu` (`td_mu_step`).
-/
namespace Lemmas.Shutdown
open Model.Shutdown

structure Inv (s : St) : Prop where
  hdrLt : ∀ got, s.d = .hdr got → got < hdrLen
  bodyPos : ∀ r need, s.d = .body r need → 0 < need
  stored : ∀ i, s.callers i = .stored → s.flag = true
  compl : 0 < s.completed → s.flag = true ∧ s.shut = true
  exitedShut : ∀ e, s.d = .exited e → s.shut = true
  resetClosed : s.reset = true → s.peerClosed = true
  noThread : s.hasThread = false → ∃ e, s.d = .exited e
  joined : ∀ e, s.w = .joined e → s.d = .exited e ∧ s.hasThread = false ∧ s.dropped = false
  shutCause : s.shut = true → s.flag = true ∨ s.dropped = true ∨ ∃ e, s.d = .exited e
  exitCause : ∀ e, (s.d = .fin e ∨ s.d = .exited e) →
    s.flag = true ∨ s.peerClosed = true ∨ s.dropped = true ∨ e = .invalidMsg ∨ e = .reqErr

theorem inv_init (reqs : List Req) (prev : List WRes) : Inv (init reqs prev) := by
  constructor <;> simp [init]

/-- `DStep s d l s'`: from program counter `d` the daemon thread takes `l` to `s'`.  Of the guards of `step`, the
rules of `DStep` and `EStep` keep those that some proof below uses. -/
inductive DStep (s : St) : DPc → Lbl → St → Prop
  | enter : DStep s .pre .dEnter { s with d := .hdr 0 }
  | hdrStray {got n} : 0 < n ∧ n ≤ s.inQ ∧ got + n ≤ hdrLen →
      DStep s (.hdr got) (.dRead n) { s with inQ := s.inQ - n, d := .fin .invalidMsg }
  | hdrDone {got n r rest} : 0 < n ∧ n ≤ s.inQ ∧ got + n ≤ hdrLen →
      DStep s (.hdr got) (.dRead n) { s with inQ := s.inQ - n, d := afterHdr r, reqs := rest }
  | hdrMore {got n} : 0 < n ∧ n ≤ s.inQ ∧ got + n ≤ hdrLen → ¬got + n = hdrLen →
      DStep s (.hdr got) (.dRead n) { s with inQ := s.inQ - n, d := .hdr (got + n) }
  | bodyDone {r need n} : 0 < n ∧ n ≤ s.inQ ∧ n ≤ need →
      DStep s (.body r need) (.dRead n) { s with inQ := s.inQ - n, d := .handler r }
  | bodyBad {r need n} : 0 < n ∧ n ≤ s.inQ ∧ n ≤ need →
      DStep s (.body r need) (.dRead n) { s with inQ := s.inQ - n, d := .fin .invalidMsg }
  | bodyMore {r need n} : 0 < n ∧ n ≤ s.inQ ∧ n ≤ need → ¬n = need →
      DStep s (.body r need) (.dRead n) { s with inQ := s.inQ - n, d := .body r (need - n) }
  | eofHdr {got e} : s.inQ = 0 ∧ s.reset = false ∧ (s.shut = true ∨ s.peerClosed = true) →
      DStep s (.hdr got) .dEof { s with d := .fin e }
  | eofBody {r need} : s.inQ = 0 ∧ s.reset = false ∧ (s.shut = true ∨ s.peerClosed = true) →
      DStep s (.body r need) .dEof { s with d := .fin .shortBody }
  | resetHdr {got} : s.inQ = 0 ∧ s.reset = true →
      DStep s (.hdr got) .dReset { s with d := .fin .sockBroken, reset := false }
  | resetBody {r need} : s.inQ = 0 ∧ s.reset = true →
      DStep s (.body r need) .dReset { s with d := .fin .sockBroken, reset := false }
  | handle {r} : DStep s (.handler r) .dHandle { s with d := afterHandler r }
  | handleReply {r} : DStep s (.handler r) .dHandle { s with d := .reply r }
  | replyFail {r} : s.shut = true ∨ s.peerClosed = true → DStep s (.reply r) .dReply { s with d := .fin .sockBroken }
  | reply {r} : DStep s (.reply r) .dReply { s with outQ := s.outQ + r.reply, d := afterHandler r }
  | loop : DStep s .post .dLoop { s with d := .pre }
  | final {e} : DStep s (.fin e) .dFinal { s with d := .exited e, shut := true }

inductive EStep (s : St) : Lbl → St → Prop
  | store {i} : EStep s (.cStore i) { s with callers := upd s.callers i .stored, flag := true }
  | shut {i} : s.callers i = .stored →
      EStep s (.cShut i) { s with callers := upd s.callers i .idle, shut := true, completed := s.completed + 1 }
  | writeFail {n} : EStep s (.pWrite n) s
  | write {n} : ¬s.shut = true → EStep s (.pWrite n) { s with inQ := s.inQ + n, toSend := s.toSend - n }
  | read : EStep s .pRead { s with outQ := 0 }
  | close : EStep s .pClose { s with peerClosed := true, reset := decide (0 < s.outQ), outQ := 0 }
  | join {e} : s.hasThread = true ∧ s.w = .idle ∧ s.dropped = false → s.d = .exited e →
      EStep s .wJoin { s with w := .joined e, hasThread := false }
  | classify {e} : s.w = .joined e →
      EStep s .wClassify { s with w := .idle, results := s.results ++ [classifyWait (.err e) s.flag], hasConn := false }
  | noThread : s.hasThread = false ∧ s.w = .idle ∧ s.dropped = false →
      EStep s .wNoThread { s with results := s.results ++ [.ok], hasConn := false }
  | drop : s.dropped = false ∧ s.w = .idle →
      EStep s .drop { s with dropped := true, shut := s.shut || s.hasConn, hasConn := false }

variable {s s' : St} {l : Lbl} {d : DPc}

/- Every enabled branch of `step` is a rule: after `repeat' split at h` each surviving branch of `step s l` has the
tests it passed as hypotheses, and `constructor` picks the one rule whose label, starting program counter and resulting
state are those of the branch (`hdrStray` / `hdrDone`: `s.reqs` empty or not; `handle` / `handleReply`: `r.reply = 0` or
not; `eofHdr`: `e` is `disconnected` or `partialMsg`).  The rules are weaker than `step`: no converse is claimed. -/
theorem DStep.of_step (hd : l.isDaemon = true) (h : step s l = some s') : DStep s s.d l s' := by
  cases l <;> cases hd <;> simp only [step] at h <;> (repeat' split at h) <;> cases h <;> rw [‹s.d = _›] <;>
    constructor <;> assumption

theorem EStep.of_step (hd : l.isDaemon = false) (h : step s l = some s') : EStep s l s' := by
  cases l <;> cases hd <;> simp only [step] at h <;> (repeat' split at h) <;> cases h <;> constructor <;> assumption

theorem DStep.live (h : DStep s d l s') (hp : s.d = d) (e : Err) : s.d ≠ .exited e := by
  cases h <;> (rw [hp]; nofun)

/-- The daemon thread touches nothing but its program counter, the queues and the socket, which it never reopens. -/
theorem DStep.frame (h : DStep s d l s') :
    s'.flag = s.flag ∧ s'.results = s.results ∧ (s.shut = true → s'.shut = true) := by
  cases h with
  | final => exact ⟨rfl, rfl, fun _ => rfl⟩
  | _ => exact ⟨rfl, rfl, id⟩

/-- Its environment never moves the daemon thread, and neither clears the flag nor reopens the socket. -/
theorem EStep.mono (h : EStep s l s') :
    s'.d = s.d ∧ (s.flag = true → s'.flag = true) ∧ (s.shut = true → s'.shut = true) := by
  cases h with
  | store => exact ⟨rfl, fun _ => rfl, id⟩
  | shut _ => exact ⟨rfl, id, fun _ => rfl⟩
  | drop _ => exact ⟨rfl, id, fun h => by simp [h]⟩
  | _ => exact ⟨rfl, id, id⟩

theorem flag_step (s s' : St) (l : Lbl) (hf : s.flag = true) (h : step s l = some s') : s'.flag = true := by
  cases hd : l.isDaemon
  · exact (EStep.of_step hd h).mono.2.1 hf
  · exact (DStep.of_step hd h).frame.1.trans hf

theorem shut_step (s s' : St) (l : Lbl) (hs : s.shut = true) (h : step s l = some s') : s'.shut = true := by
  cases hd : l.isDaemon
  · exact (EStep.of_step hd h).mono.2.2 hs
  · exact (DStep.of_step hd h).frame.2.2 hs

theorem isRun : Lemmas.Runs.IsRun step run :=
  ⟨fun _ => rfl, fun s l ls => by rw [run]; cases step s l <;> rfl⟩

theorem step_exit {e : Err} (hx : s.d = .fin e ∨ s.d = .exited e) (h : step s l = some s') :
    s'.d = .fin e ∨ s'.d = .exited e := by
  cases hd : l.isDaemon
  · rwa [(EStep.of_step hd h).mono.1]
  · have h' := DStep.of_step hd h
    rcases hx with hx | hx
    · rw [hx] at h'
      cases h'
      exact .inr rfl
    · exact absurd hx (h'.live rfl e)

/-- What `Inv` asks of the program counter that a step leaves the daemon thread at, short of `exited`: the counters
are in range, and if the loop has been left the state holds a cause. -/
def PcOk (s : St) : DPc → Prop
  | .hdr got => got < hdrLen
  | .body _ need => 0 < need
  | .fin e => (s.shut = true ∨ s.peerClosed = true) ∨ e = .invalidMsg ∨ e = .reqErr
  | .exited _ => False
  | _ => True

theorem pcOk_afterHdr (r : Req) : PcOk s (afterHdr r) := by
  unfold afterHdr
  split
  · exact .inr (.inl rfl)
  · split
    · split
      · trivial
      · exact .inr (.inl rfl)
    · exact Nat.pos_of_ne_zero ‹_›

theorem pcOk_afterHandler (r : Req) : PcOk s (afterHandler r) := by
  unfold afterHandler
  split
  · trivial
  · exact .inr (.inr rfl)

theorem of_upd_ne {α : Type} {f : Nat → α} {i j : Nat} {v w : α} (h : upd f i v j = w) (hv : v ≠ w) : f j = w := by
  unfold upd at h
  split at h
  · exact absurd h hv
  · exact h

/-- A step that leaves the thread, alive before, at a program counter that is `PcOk`, and otherwise only moves
queued bytes or consumes a pending `ECONNRESET`. -/
theorem Inv.daemon (hi : Inv s) (live : ∀ e, s.d ≠ .exited e) (d' : DPc) (ok : PcOk s d') {rs : List Req} {q o : Nat}
    {r : Bool} (hr : r = true → s.peerClosed = true) :
    Inv { s with d := d', reqs := rs, inQ := q, outQ := o, reset := r } where
  hdrLt _ h := by cases h; exact ok
  bodyPos _ _ h := by cases h; exact ok
  stored := hi.stored
  compl := hi.compl
  exitedShut _ h := by cases h; exact ok.elim
  resetClosed := hr
  noThread h := (hi.noThread h).elim fun e he => absurd he (live e)
  joined e h := absurd (hi.joined e h).1 (live e)
  shutCause h := (hi.shutCause h).imp_right (.imp_right fun ⟨e, he⟩ => absurd he (live e))
  exitCause e h := by
    rcases h with h | h <;> cases h
    · rcases ok with (hs | hc) | he
      · rcases hi.shutCause hs with hf | hd | ⟨e', he'⟩
        · exact .inl hf
        · exact .inr (.inr (.inl hd))
        · exact absurd he' (live e')
      · exact .inr (.inl hc)
      · exact .inr (.inr (.inr he))
    · exact ok.elim

theorem Inv.dstep (hi : Inv s) (h : DStep s d l s') (hp : s.d = d) : Inv s' := by
  have live := h.live hp
  cases h with
  | enter => exact hi.daemon live (.hdr 0) (by decide : 0 < hdrLen) hi.resetClosed
  | hdrStray | bodyBad => exact hi.daemon live (.fin _) (.inr (.inl rfl)) hi.resetClosed
  | hdrDone => exact hi.daemon live _ (pcOk_afterHdr _) hi.resetClosed
  | hdrMore hc hne => exact hi.daemon live (.hdr _) (Nat.lt_of_le_of_ne hc.2.2 hne) hi.resetClosed
  | bodyDone => exact hi.daemon live (.handler _) trivial hi.resetClosed
  | bodyMore hc hne =>
    exact hi.daemon live (.body _ _) (Nat.sub_pos_of_lt (Nat.lt_of_le_of_ne hc.2.2 hne)) hi.resetClosed
  | eofHdr hc | eofBody hc => exact hi.daemon live (.fin _) (.inl hc.2.2) hi.resetClosed
  | resetHdr hc | resetBody hc => exact hi.daemon live (.fin _) (.inl (.inr (hi.resetClosed hc.2))) nofun
  | handle | reply => exact hi.daemon live _ (pcOk_afterHandler _) hi.resetClosed
  | handleReply => exact hi.daemon live (.reply _) trivial hi.resetClosed
  | replyFail hc => exact hi.daemon live (.fin _) (.inl hc) hi.resetClosed
  | loop => exact hi.daemon live .pre trivial hi.resetClosed
  | @final e => exact { hi with
      hdrLt := nofun
      bodyPos := nofun
      compl := fun h => ⟨(hi.compl h).1, rfl⟩
      exitedShut := fun _ _ => rfl
      noThread := fun _ => ⟨e, rfl⟩
      joined := fun e' h => absurd (hi.joined e' h).1 (live e')
      shutCause := fun _ => .inr (.inr ⟨e, rfl⟩)
      exitCause := fun e' h => hi.exitCause e' (.inl (by rcases h with h | h <;> cases h <;> exact hp)) }

theorem Inv.estep (hi : Inv s) (h : EStep s l s') : Inv s' := by
  cases h with
  | store => exact { hi with
      stored := fun _ _ => rfl
      compl := fun h => ⟨rfl, (hi.compl h).2⟩
      shutCause := fun _ => .inl rfl
      exitCause := fun _ _ => .inl rfl }
  | @shut i hc => exact { hi with
      stored := fun j hj => hi.stored j (of_upd_ne hj nofun)
      compl := fun _ => ⟨hi.stored i hc, rfl⟩
      exitedShut := fun _ _ => rfl
      shutCause := fun _ => .inl (hi.stored i hc) }
  | writeFail => exact hi
  | write | read | noThread _ => exact { hi with }
  | close => exact { hi with
      resetClosed := fun _ => rfl
      exitCause := fun _ _ => .inr (.inl rfl) }
  | @join e hc hp => exact { hi with
      noThread := fun _ => ⟨e, hp⟩
      joined := fun _ h => by cases h; exact ⟨hp, rfl, hc.2.2⟩ }
  | classify _ => exact { hi with joined := nofun }
  | drop hc => exact { hi with
      compl := fun h => ⟨(hi.compl h).1, by simp [(hi.compl h).2]⟩
      exitedShut := fun e h => by simp [hi.exitedShut e h]
      joined := fun e h => by rw [hc.2] at h; cases h
      shutCause := fun _ => .inr (.inl rfl)
      exitCause := fun _ _ => .inr (.inr (.inl rfl)) }

theorem inv_step (s s' : St) (l : Lbl) (hi : Inv s) (h : step s l = some s') : Inv s' := by
  cases hd : l.isDaemon
  · exact hi.estep (EStep.of_step hd h)
  · exact hi.dstep (DStep.of_step hd h) rfl

theorem inv_run (s s' : St) (ls : List Lbl) (hi : Inv s) (h : run s ls = some s') : Inv s' :=
  isRun.inv inv_step hi h

theorem inv_reachable (reqs : List Req) (prev : List WRes) (ls : List Lbl) (s : St)
    (h : run (init reqs prev) ls = some s) : Inv s :=
  inv_run _ _ ls (inv_init reqs prev) h

theorem rank_le (d : DPc) : rank d ≤ 13 := by cases d <;> simp [rank]

theorem rank_afterHandler (r : Req) : rank (afterHandler r) ≤ 10 := by
  unfold afterHandler; split <;> simp [rank]

/-- Every step of the daemon thread strictly decreases `mu`: it moves towards `exited` or consumes queued bytes. -/
theorem DStep.mu_lt (h : DStep s d l s') (hp : s.d = d) : mu s' < mu s := by
  cases h with
  | @hdrDone got _ r =>
    have := rank_le (afterHdr r)
    have : rank (.hdr got) = 8 := rfl
    simp only [mu, hp]; omega
  | @handle r =>
    have := rank_afterHandler r
    have : rank (.handler r) = 12 := rfl
    simp only [mu, hp]; omega
  | @reply r =>
    have := rank_afterHandler r
    have : rank (.reply r) = 11 := rfl
    simp only [mu, hp]; omega
  | _ => simp only [mu, hp, rank]; omega

/-- On a shut-down socket the peer's writes fail, so nothing the environment does changes `mu`. -/
theorem EStep.mu_eq (h : EStep s l s') (hs : s.shut = true) : mu s' = mu s := by
  cases h with
  | write hn => exact absurd hs hn
  | _ => rfl

theorem mu_step (hs : s.shut = true) (h : step s l = some s') :
    (l.isDaemon = true → mu s' < mu s) ∧ (l.isDaemon = false → mu s' = mu s) :=
  ⟨fun hd => (DStep.of_step hd h).mu_lt rfl, fun hd => (EStep.of_step hd h).mu_eq hs⟩

theorem mu_step_le (hs : s.shut = true) (h : step s l = some s') : mu s' ≤ mu s := by
  cases hd : l.isDaemon
  · exact Nat.le_of_eq ((mu_step hs h).2 hd)
  · exact Nat.le_of_lt ((mu_step hs h).1 hd)

/-- on a shut-down socket the daemon thread is never blocked: until it is gone, `nextDaemon` names a step of
the daemon thread and that step is enabled -/
theorem daemon_enabled (s : St) (hi : Inv s) (hs : s.shut = true) (hne : s.d.isExited = false) :
    ∃ l, nextDaemon s = some l ∧ l.isDaemon = true ∧ (step s l).isSome = true := by
  cases hd : s.d
  case exited e => simp [hd, DPc.isExited] at hne
  case hdr got =>
    have hg := hi.hdrLt got hd
    by_cases hq : 0 < s.inQ
    · refine ⟨.dRead (min (hdrLen - got) s.inQ), by simp [nextDaemon, hd, hq], rfl, ?_⟩
      have : 0 < min (hdrLen - got) s.inQ ∧ min (hdrLen - got) s.inQ ≤ s.inQ ∧ got + min (hdrLen - got) s.inQ ≤ hdrLen := by
        omega
      simp only [step, hd, this, and_self, if_true]
      (repeat' split) <;> rfl
    · refine ⟨if s.reset then .dReset else .dEof, ?_, ?_, ?_⟩ <;> cases hr : s.reset <;>
        simp [nextDaemon, step, Lbl.isDaemon, hd, hr, hs, Nat.eq_zero_of_not_pos hq]
  case body r need =>
    have hg := hi.bodyPos r need hd
    by_cases hq : 0 < s.inQ
    · refine ⟨.dRead (min need s.inQ), by simp [nextDaemon, hd, hq], rfl, ?_⟩
      have : 0 < min need s.inQ ∧ min need s.inQ ≤ s.inQ ∧ min need s.inQ ≤ need := by omega
      simp only [step, hd, this, and_self, if_true]
      (repeat' split) <;> rfl
    · refine ⟨if s.reset then .dReset else .dEof, ?_, ?_, ?_⟩ <;> cases hr : s.reset <;>
        simp [nextDaemon, step, Lbl.isDaemon, hd, hr, hs, Nat.eq_zero_of_not_pos hq]
  all_goals exact ⟨_, by rw [nextDaemon, hd], by rfl, by simp [step, hd, hs]⟩

theorem classifyWait_flag (r : TRes) : classifyWait r true = .ok := by
  cases r with
  | ok => rfl
  | err e => cases e <;> rfl

theorem step_results (hf : s.flag = true) (h : step s l = some s') :
    s'.results = s.results ∨ s'.results = s.results ++ [.ok] := by
  cases hd : l.isDaemon
  · cases EStep.of_step hd h with
    | classify _ => exact .inr (by rw [hf, classifyWait_flag])
    | noThread _ => exact .inr rfl
    | _ => exact .inl rfl
  · exact .inl (DStep.of_step hd h).frame.2.1

/-- while the flag is set every `wait()` that returns, returns `Ok` -/
theorem results_ok {ls : List Lbl} (hf : s.flag = true) (h : run s ls = some s') :
    ∃ k, s'.results = s.results ++ List.replicate k WRes.ok := by
  refine (isRun.inv (P := fun t => t.flag = true ∧ ∃ k, t.results = s.results ++ List.replicate k WRes.ok)
    (fun t t' l ⟨hf, k, hk⟩ h => ⟨flag_step _ _ _ hf h, ?_⟩) ⟨hf, 0, by simp⟩ h).2
  rcases step_results hf h with e | e
  · exact ⟨k, e.trans hk⟩
  · exact ⟨k + 1, by rw [e, hk, List.append_assoc, List.replicate_succ']⟩

/-- an infinite schedule: a sequence of states and labels in which every label is enabled -/
structure Exec where
  st : Nat → St
  lbl : Nat → Lbl
  ok : ∀ k, step (st k) (lbl k) = some (st (k + 1))

/-- some step of the daemon thread is enabled -/
def DaemonEnabled (s : St) : Prop := ∃ l, l.isDaemon = true ∧ (step s l).isSome = true

/-- weak fairness for the daemon thread: if from some point on it is always enabled, it eventually steps -/
def WeakFair (x : Exec) : Prop :=
  ∀ k, (∀ j, k ≤ j → DaemonEnabled (x.st j)) → ∃ j, k ≤ j ∧ (x.lbl j).isDaemon = true

/-- Liveness: in every weakly fair infinite schedule, once the socket has been shut down the daemon thread
terminates. -/
theorem fair_terminates (x : Exec) (hf : WeakFair x) (k0 : Nat) (hi : Inv (x.st k0)) (hs : (x.st k0).shut = true) :
    ∃ k, k0 ≤ k ∧ (x.st k).d.isExited = true :=
  Lemmas.Fair.fair_reach hf (fun j => Inv (x.st j) ∧ (x.st j).shut = true) (fun j => (x.st j).d.isExited = true)
    (fun j => mu (x.st j)) k0 ⟨hi, hs⟩ fun j _ ⟨i1, s1⟩ => by
      cases hne : (x.st j).d.isExited
      · obtain ⟨l, _, hl, hsome⟩ := daemon_enabled _ i1 s1 hne
        have hstep := x.ok j
        exact .inr ⟨⟨l, hl, hsome⟩, ⟨inv_step _ _ _ i1 hstep, shut_step _ _ _ s1 hstep⟩, mu_step_le s1 hstep,
          (mu_step s1 hstep).1⟩
      · exact .inl rfl

end Lemmas.Shutdown

namespace Lemmas.Shutdown.TD
open Model.Shutdown.TD
open Model.Shutdown (upd classifyServe WRes)

structure TInv (c : Cfg) (t : St) : Prop where
  sig : ∀ k, t.h = .signalling k → c.supplied = true → ∀ i, i < k → i < c.n → t.evt i = true
  join : ∀ k, t.h = .joining k → (c.supplied = true → ∀ i, i < c.n → t.evt i = true) ∧ (∀ i, i < k → i < c.n → t.gone i = true)
  dropped : t.h = .dropped → ∀ i, i < c.n → t.gone i = true
  svSig : ∀ k w, t.sv = .signalling k w → c.supplied = true → ∀ i, i < k → i < c.n → t.evt i = true
  svDone : ∀ w r, t.sv = .done w r → r = classifyServe w ∧ (c.supplied = true → ∀ i, i < c.n → t.evt i = true)

theorem tinv_init (c : Cfg) (b : Bool) : TInv c (Model.Shutdown.TD.init b) := by
  constructor <;> simp [Model.Shutdown.TD.init] <;> cases b <;> simp

theorem upd_same {α : Type} (f : Nat → α) (i : Nat) (v : α) : upd f i v i = v := by simp [upd]
theorem upd_other {α : Type} (f : Nat → α) (i j : Nat) (v : α) (h : j ≠ i) : upd f i v j = f j := by simp [upd, h]

/-- the invariant only asks for exit events raised and workers gone: raising more and losing more workers keeps it -/
theorem TInv.mono {c : Cfg} {t : St} (hi : TInv c t) {evt gone : Nat → Bool} (he : ∀ i, t.evt i = true → evt i = true)
    (hg : ∀ i, t.gone i = true → gone i = true) : TInv c { t with evt := evt, gone := gone } where
  sig k hk hs i a b := he i (hi.sig k hk hs i a b)
  join k hk := ⟨fun hs i a => he i ((hi.join k hk).1 hs i a), fun i a b => hg i ((hi.join k hk).2 i a b)⟩
  dropped hd i a := hg i (hi.dropped hd i a)
  svSig k w hk hs i a b := he i (hi.svSig k w hk hs i a b)
  svDone w r hd := ⟨(hi.svDone w r hd).1, fun hs i a => he i ((hi.svDone w r hd).2 hs i a)⟩

theorem upd_keeps (f : Nat → Bool) (k : Nat) (v : Bool) (hv : f k = true → v = true) (i : Nat) (h : f i = true) :
    upd f k v i = true := by
  unfold upd; split
  · subst_vars; exact hv h
  · exact h

theorem raised_succ {f : Nat → Bool} {k n : Nat} {b : Bool} (h : ∀ i, i < k → i < n → f i = true) (hb : b = true) :
    ∀ i, i < k + 1 → i < n → upd f k (f k || b) i = true := by
  intro i hi hn
  by_cases e : i = k
  · subst e; simp [upd, hb]
  · exact upd_keeps f k _ (fun h => by simp [h]) i (h i (by omega) hn)

theorem tinv_step (c : Cfg) (t t' : St) (l : Lbl) (hi : TInv c t) (h : Model.Shutdown.TD.step c t l = some t') : TInv c t' := by
  cases l <;> simp only [Model.Shutdown.TD.step] at h <;> (repeat' split at h) <;> cases h
  next => exact hi.mono (fun _ => id) (upd_keeps _ _ _ fun _ => rfl)
  iterate 2 exact { hi with sig := by rintro _ ⟨⟩ _ i hi'; omega, join := nofun, dropped := nofun }
  next k hk _ =>
    exact { hi.mono (upd_keeps _ k _ fun h => by simp [h]) fun _ => id with
      sig := by rintro _ ⟨⟩ hs; exact raised_succ (hi.sig k hk hs) hs
      join := nofun
      dropped := nofun }
  next k hk hge =>
    exact { hi with
      sig := nofun
      join := by rintro _ ⟨⟩; exact ⟨fun hs i hn => hi.sig k hk hs i (by omega) hn, by intros; omega⟩
      dropped := nofun }
  next k hk _ hg =>
    exact { hi with
      sig := nofun
      join := by
        rintro _ ⟨⟩
        refine ⟨(hi.join k hk).1, fun i hi' hn => ?_⟩
        by_cases e : i = k
        · exact e ▸ hg
        · exact (hi.join k hk).2 i (by omega) hn
      dropped := nofun }
  next k hk hge => exact { hi with sig := nofun, join := nofun, dropped := fun _ i hn => (hi.join k hk).2 i (by omega) hn }
  next => exact { hi with svSig := by rintro _ _ ⟨⟩ _ i hi'; omega, svDone := nofun }
  next k w hk _ =>
    exact { hi.mono (upd_keeps _ k _ fun h => by simp [h]) fun _ => id with
      svSig := by rintro _ _ ⟨⟩ hs; exact raised_succ (hi.svSig k w hk hs) hs
      svDone := nofun }
  next k w hk hge =>
    exact { hi with
      svSig := nofun
      svDone := by rintro _ _ ⟨⟩; exact ⟨rfl, fun hs i hn => hi.svSig k w hk hs i (by omega) hn⟩ }

theorem isRun (c : Cfg) : Lemmas.Runs.IsRun (Model.Shutdown.TD.step c) (Model.Shutdown.TD.run c) :=
  ⟨fun _ => rfl, fun t l ls => by rw [Model.Shutdown.TD.run]; cases Model.Shutdown.TD.step c t l <;> rfl⟩

theorem tinv_run (c : Cfg) (t t' : St) (ls : List Lbl) (hi : TInv c t) (h : Model.Shutdown.TD.run c t ls = some t') :
    TInv c t' :=
  (isRun c).inv (tinv_step c) hi h

theorem alive_upd_ge (gone : Nat → Bool) (i n : Nat) (h : n ≤ i) :
    alive (upd gone i true) n = alive gone n := by
  induction n with
  | zero => rfl
  | succ k ih =>
    have : k ≠ i := by omega
    simp [alive, ih (by omega), upd, this]

theorem alive_upd_lt (gone : Nat → Bool) (i n : Nat) (h : i < n) (hg : gone i = false) :
    alive (upd gone i true) n + 1 = alive gone n := by
  induction n with
  | zero => omega
  | succ k ih =>
    by_cases e : i = k
    · subst e
      simp [alive, alive_upd_ge gone i i (Nat.le_refl _), upd, hg]
    · have hk : k ≠ i := fun x => e x.symm
      have := ih (by omega)
      simp only [alive, upd, hk, if_false] at *
      omega

theorem alive_zero (gone : Nat → Bool) (n : Nat) (h : alive gone n = 0) : ∀ i, i < n → gone i = true := by
  induction n with
  | zero => intro i hi; omega
  | succ k ih =>
    intro i hi
    simp only [alive] at h
    by_cases e : i = k
    · subst e
      cases hg : gone i
      · simp [hg] at h
      · rfl
    · exact ih (by omega) i (by omega)

/-- every step of the teardown system strictly decreases the measure: all its runs are finite -/
theorem td_mu_step (c : Cfg) (t t' : St) (l : Lbl) (h : Model.Shutdown.TD.step c t l = some t') :
    Model.Shutdown.TD.mu c t' < Model.Shutdown.TD.mu c t := by
  cases l <;> simp only [Model.Shutdown.TD.step] at h <;> (repeat' split at h) <;> cases h
  next i hc =>
    have := alive_upd_lt t.gone i c.n hc.1 hc.2.2
    simp only [Model.Shutdown.TD.mu]; omega
  all_goals simp only [Model.Shutdown.TD.mu, hrank, svrank, *]; omega

theorem td_run_len (c : Cfg) (t t' : St) (ls : List Lbl) (h : Model.Shutdown.TD.run c t ls = some t') :
    ls.length + Model.Shutdown.TD.mu c t' ≤ Model.Shutdown.TD.mu c t :=
  (isRun c).length_le (P := fun _ => True) _ (fun t t' l _ h => ⟨trivial, td_mu_step c t t' l h⟩) trivial h

/-- Progress of `Drop for VhostUserHandler` when the backend supplies exit events: once the drop has begun and
until it is finished, some step is enabled (the drop itself, or the worker it is waiting for). -/
theorem td_progress (c : Cfg) (t : St) (hi : TInv c t) (hs : c.supplied = true)
    (hb : t.h ≠ .alive) (hd : t.h ≠ .dropped) :
    ∃ l, (Model.Shutdown.TD.step c t l).isSome = true := by
  cases hh : t.h with
  | alive => exact absurd hh hb
  | dropped => exact absurd hh hd
  | signalling k =>
    refine ⟨.hSignal, ?_⟩
    simp only [Model.Shutdown.TD.step, hh]
    split <;> simp
  | joining k =>
    by_cases hk : k < c.n
    · cases hg : t.gone k
      · exact ⟨.wkExit k, by simp [Model.Shutdown.TD.step, hk, hg, (hi.join k hh).1 hs k hk]⟩
      · exact ⟨.hJoin, by simp [Model.Shutdown.TD.step, hh, hk, hg]⟩
    · exact ⟨.hJoin, by simp [Model.Shutdown.TD.step, hh, hk]⟩

end Lemmas.Shutdown.TD
