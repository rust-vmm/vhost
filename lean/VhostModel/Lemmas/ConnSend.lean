import VhostModel.Lemmas.ConnSub

/-!
# `send_iovec_all`: the interpreted loop against `Model.Endpoint.sendAll`

`toEv` maps a primitive outcome (`accept k` / `errno e`) to the model's kernel event through the generated errno
classification; `wireOf` keeps the successful non-empty `sendmsg` calls of the log (the model's `Wire`); `sendResOf`
reads the interpreter's control result as the model's `SendRes`, `SendRuns` is the same relation read from the model's side.
First the model's loop, one step at a time.
-/
namespace Lemmas.ConnSend
open Imp Gen.ConnLoops Model.Endpoint Lemmas.ConnSub

theorem sendAll_nil (fds : List Fd) (sent : Nat) (evs : List SendEv) (w : Wire) : sendAll fds [] sent evs w = (w, .ok sent) := by
  rw [sendAll]

theorem sendAll_out (fds : List Fd) {rem : Bytes} (h : rem ≠ []) (sent : Nat) (w : Wire) :
    sendAll fds rem sent [] w = (w, .outOfScript) := by
  cases rem with
  | nil => exact absurd rfl h
  | cons b bs => rw [sendAll]

theorem sendAll_cons (fds : List Fd) {rem : Bytes} (h : rem ≠ []) (sent : Nat) (ev : SendEv) (evs : List SendEv) (w : Wire) :
    sendAll fds rem sent (ev :: evs) w =
      match ev with
      | .retry => sendAll fds rem sent evs w
      | .broken => (w, .broken)
      | .other => (w, .other)
      | .accept 0 => (w, .ok sent)
      | .accept (k + 1) =>
        sendAll fds (rem.drop (min (k + 1) rem.length)) (sent + min (k + 1) rem.length) evs
          (w ++ [(rem.take (min (k + 1) rem.length), if sent == 0 then fds else [])]) := by
  cases rem with
  | nil => exact absurd rfl h
  | cons b bs =>
    cases ev with
    | accept k =>
      cases k with
      | zero => rw [sendAll]
      | succ k => rw [sendAll]; rfl
    | _ => rw [sendAll]

/-- a primitive send outcome as an event of the model's kernel script -/
def toEv (cl : Nat → ErrClass) : SendOut → SendEv
  | .accept k => .accept k
  | .errno e => match cl e with
    | .retry => .retry
    | .broken => .broken
    | _ => .other

/-- what went onto the socket: the successful non-empty `sendmsg` calls, with the bytes the kernel took -/
def wireOf : List SendCall → Wire
  | [] => []
  | ⟨offered, fds, .accept (k + 1)⟩ :: rest => (offered.take (accepted (k + 1) offered.length), fds) :: wireOf rest
  | _ :: rest => wireOf rest

theorem wireOf_append (a b : List SendCall) : wireOf (a ++ b) = wireOf a ++ wireOf b := by
  induction a with
  | nil => rfl
  | cons c a ih =>
    obtain ⟨o, f, ev⟩ := c
    cases ev with
    | accept k => cases k <;> simp [wireOf, ih]
    | errno e => simp [wireOf, ih]

/-- the result of `send_iovec_all` as the model's `SendRes` -/
def sendResOf : Ctl → Option SendRes
  | .done (.ok ⟨[n], _, _⟩) => some (.ok n)
  | .done (.err (.sock .broken _)) => some .broken
  | .done (.err (.sock .connect _)) => some .other
  | .done (.err (.sock .other _)) => some .other
  | .stuck .outOfScript => some .outOfScript
  | _ => none

/-- the control results of `send_iovec_all` that stand for the model's result `r`: `sendResOf` in the direction of the model
(which forgets the errno, and the class of an error that is neither `SocketBroken` nor retried) -/
def SendRuns (r : SendRes) (c : Ctl) : Prop :=
  match r with
  | .ok n => ∃ fo bufs, c = .done (.ok ⟨[n], fo, bufs⟩)
  | .broken => ∃ e, c = .done (.err (.sock .broken e))
  | .other => ∃ cl e, (cl = .connect ∨ cl = .other) ∧ c = .done (.err (.sock cl e))
  | .outOfScript => c = .stuck .outOfScript

theorem SendRuns.sendResOf {r : SendRes} {c : Ctl} (h : SendRuns r c) : sendResOf c = some r := by
  cases r with
  | ok n => obtain ⟨_, _, rfl⟩ := h; rfl
  | broken => obtain ⟨_, rfl⟩ := h; rfl
  | other => obtain ⟨_, _, rfl | rfl, rfl⟩ := h <;> rfl
  | outOfScript => cases h; rfl

theorem SendRuns.ne_normal {r : SendRes} {c : Ctl} (h : SendRuns r c) : c ≠ .normal := by
  rintro rfl
  cases r <;> simp [SendRuns] at h

/-- what an iteration leaves alone: `data_total`, `iov_lens`, `iovs`, `fds` -/
def Keep (fr fr' : Frame) : Prop := fr'.n 1 = fr.n 1 ∧ fr'.l 0 = fr.l 0 ∧ fr'.io 0 = fr.io 0 ∧ fr'.f 0 = fr.f 0

section body
variable {σ : Type} (env : Env σ) (F : Nat) (fr : Frame) (w : World σ)

/-- one iteration, by the head of the send script: the unsent bytes are offered, the descriptors only while nothing was sent -/
theorem body_spec (hl : fr.l 0 = (fr.io 0).lens) (hp : fr.n 0 < (fr.io 0).lens.sum) {c : Ctl} {fr' : Frame} {w' : World σ}
    (hx : exec env SendIovecAll.whileBody F fr w = (c, fr', w')) :
    match w.script with
    | [] => c = .stuck .outOfScript ∧ w' = w
    | ev :: rest =>
      w' = { w with script := rest, sent := w.sent ++
              [⟨((fr.io 0).bytes w.mem).drop (fr.n 0), if fr.n 0 = 0 then (fr.f 0).getD [] else [], ev⟩] } ∧
      Keep fr fr' ∧
      match ev with
      | .accept k =>
        c = (if accepted k (((fr.io 0).bytes w.mem).drop (fr.n 0)).length = 0 then .done (.ok { nats := [fr.n 0] }) else .normal) ∧
        fr'.n 0 = fr.n 0 + accepted k (((fr.io 0).bytes w.mem).drop (fr.n 0)).length
      | .errno e =>
        c = (if env.classify e = .retry then .normal else .done (.err (.sock (env.classify e) e))) ∧ fr'.n 0 = fr.n 0 := by
  obtain ⟨q1, q2, v, _, _, _, hvb, hex⟩ := exec_suffix env "get_sub_iovs_offset" SendIovecAll.data_sent SendIovecAll.nr_skip
    SendIovecAll.offset SendIovecAll.iov_lens SendIovecAll.r_nr_skip SendIovecAll.iovs SendIovecAll.data (by decide) _ F fr w hl hp
  rw [SendIovecAll.whileBody, hex] at hx
  have hvb := hvb w.mem
  generalize ((fr.io 0).bytes w.mem).drop (fr.n 0) = rem at *
  cases hs : w.script with
  | nil =>
    by_cases h0 : fr.n 0 = 0 <;> simp [evalE, evalB, evalF, primSend, hs, h0] at hx <;> exact ⟨hx.1.symm, hx.2.2.symm⟩
  | cons ev rest =>
    cases ev with
    | accept k =>
      by_cases h0 : fr.n 0 = 0 <;> by_cases hm : accepted k rem.length = 0 <;>
        simp [exec_matchResult, evalE, evalB, evalF, primSend, hs, evalEs, RVal.into, h0, hm, hvb] at hx <;>
        obtain ⟨rfl, rfl, rfl⟩ := hx <;> simp [Keep, h0, hm]
    | errno e =>
      by_cases h0 : fr.n 0 = 0 <;> by_cases hm : env.classify e = .retry <;>
        simp [exec_matchResult, exec_matchErr, evalE, evalB, evalF, primSend, hs, RVal.into, Err.into, evalErr, errOf, h0, hm, hvb] at hx <;>
        obtain ⟨rfl, rfl, rfl⟩ := hx <;> simp [Keep, h0, hm]

end body

section loop
variable {σ : Type} (env : Env σ) (F : Nat)

/-- `v` = `iovs`, whose bytes lie in the heap `mem` -/
def LoopInv (v : IoVal) (fds : Option (List Fd)) (mem : List Bytes) (fr : Frame) (w : World σ) : Prop :=
  fr.l 0 = v.lens ∧ fr.io 0 = v ∧ fr.f 0 = fds ∧ fr.n 1 = v.lens.sum ∧ fr.n 0 ≤ v.lens.sum ∧ w.mem = mem ∧
  (v.bytes mem).length = v.lens.sum

/-- the loop ends having sent everything (the count is in `data_sent`), or returns from inside as the model's result says -/
def LoopPost (w : World σ) (M : Wire × SendRes) (res : Res σ) : Prop :=
  wireOf res.2.2.sent = M.1 ∧ res.2.2.mem = w.mem ∧
  (res.1 = .normal ∧ M.2 = .ok (res.2.1.n 0) ∨ SendRuns M.2 res.1)

theorem send_loop (v : IoVal) (fds : Option (List Fd)) (mem : List Bytes) :
    ∀ (k : Nat) (fr : Frame) (w : World σ), LoopInv v fds mem fr w → w.script.length < k →
      LoopPost w (sendAll (fds.getD []) ((v.bytes mem).drop (fr.n 0)) (fr.n 0) (w.script.map (toEv env.classify)) (wireOf w.sent))
        (loop (fun fr w => evalB env fr w.mem (.gt (.sub (.var SendIovecAll.data_total) (.var SendIovecAll.data_sent)) (.lit 0)))
          (fun fr w => exec env SendIovecAll.whileBody F fr w) k fr w) := by
  apply loop_rule (LoopInv v fds mem) (fun fr _ => decide (fr.n 1 - fr.n 0 > 0)) (fun _ w => w.script.length)
    (fun fr w r => LoopPost w
      (sendAll (fds.getD []) ((v.bytes mem).drop (fr.n 0)) (fr.n 0) (w.script.map (toEv env.classify)) (wireOf w.sent)) r)
  · intro fr w ⟨_, _, _, ht, hle, _⟩
    simp only [evalB, evalE, ht, hle, if_true]
  · intro fr w ⟨hl, hio, hf, ht, hle, hmem, hlen⟩ hz
    have : v.lens.sum ≤ fr.n 0 := by have := of_decide_eq_false hz; omega
    rw [List.drop_eq_nil_of_le (by rw [hlen]; exact this), sendAll_nil]
    exact ⟨rfl, rfl, Or.inl ⟨rfl, rfl⟩⟩
  · intro fr w ⟨hl, hio, hf, ht, hle, hmem, hlen⟩ hz c fr' w' hx
    subst hmem
    have hp : fr.n 0 < v.lens.sum := by have := of_decide_eq_true hz; omega
    have hspec := body_spec env F fr w (by rw [hl, hio]) (by rw [hio]; exact hp) hx
    rw [hio, hf] at hspec
    have hne : (v.bytes w.mem).drop (fr.n 0) ≠ [] := by
      intro h; have := congrArg List.length h; rw [List.length_drop, hlen] at this; simp at this; omega
    generalize hrem : (v.bytes w.mem).drop (fr.n 0) = rem at hspec hne ⊢
    cases hs : w.script with
    | nil =>
      rw [hs] at hspec
      obtain ⟨rfl, rfl⟩ := hspec
      rw [List.map_nil, sendAll_out _ hne]
      exact ⟨rfl, rfl, Or.inr rfl⟩
    | cons ev rest =>
      rw [hs] at hspec
      obtain ⟨rfl, ⟨k1, k2, k3, k4⟩, hev⟩ := hspec
      rw [List.map_cons, sendAll_cons _ hne]
      have hI : ∀ n, fr'.n 0 = n → n ≤ v.lens.sum → LoopInv v fds w.mem fr'
          { w with script := rest, sent := w.sent ++ [⟨rem, if fr.n 0 = 0 then fds.getD [] else [], ev⟩] } :=
        fun n h1 h2 => ⟨by rw [k2, hl], by rw [k3, hio], by rw [k4, hf], by rw [k1, ht], by rw [h1]; exact h2, rfl, hlen⟩
      cases ev with
      | accept kk =>
        obtain ⟨rfl, b4⟩ := hev
        cases kk with
        | zero =>
          -- `Ok(0)`: the loop returns what has been sent so far
          rw [show accepted 0 rem.length = 0 from Nat.zero_min _, if_pos rfl]
          simp only [LoopPost, toEv, wireOf_append, wireOf, List.append_nil]
          exact ⟨trivial, trivial, Or.inr ⟨_, _, rfl⟩⟩
        | succ kk =>
          have hrl : rem.length = v.lens.sum - fr.n 0 := by rw [← hrem, List.length_drop, hlen]
          have ha : accepted (kk + 1) rem.length ≠ 0 := by show min _ _ ≠ 0; omega
          rw [if_neg ha]
          refine ⟨hI _ b4 (by show _ + min _ _ ≤ _; omega), Nat.lt_succ_self _, fun r => ?_⟩
          simp only [b4, toEv, wireOf_append, wireOf, ← List.drop_drop, hrem, accepted, beq_iff_eq]
          exact id
      | errno e =>
        obtain ⟨rfl, b4⟩ := hev
        by_cases hcl : env.classify e = .retry
        · rw [if_pos hcl]
          refine ⟨hI _ b4 hle, Nat.lt_succ_self _, fun r => ?_⟩
          simp only [b4, hrem, toEv, hcl, wireOf_append, wireOf, List.append_nil]
          exact id
        · -- the error is returned with its class; the model keeps `broken` and merges the other two
          rw [if_neg hcl]
          cases hcc : env.classify e <;> simp only [LoopPost, toEv, hcc, wireOf_append, wireOf, List.append_nil]
          · exact absurd hcc hcl
          · exact ⟨trivial, trivial, Or.inr ⟨_, rfl⟩⟩
          · exact ⟨trivial, trivial, Or.inr ⟨_, _, Or.inl rfl, rfl⟩⟩
          · exact ⟨trivial, trivial, Or.inr ⟨_, _, Or.inr rfl, rfl⟩⟩
end loop

/-- the whole of `send_iovec_all` (`iovs` = iovec slot 0, `fds` = descriptor slot 0): the run ends as the model's result says and
has put the model's wire on the socket; fuel: more than the script is long -/
theorem send_iovec_all_run {σ : Type} (env : Env σ) (F : Nat) (fr : Frame) (w : World σ)
    (hF : w.script.length < F) (hlen : ((fr.io 0).bytes w.mem).length = (fr.io 0).lens.sum)
    (m : Wire × SendRes) (hm : m = sendAll ((fr.f 0).getD []) ((fr.io 0).bytes w.mem) 0 (w.script.map (toEv env.classify)) (wireOf w.sent)) :
    ∃ c fr' w', exec env SendIovecAll.fnBody F fr w = (c, fr', w') ∧ SendRuns m.2 c ∧ wireOf w'.sent = m.1 ∧ w'.mem = w.mem := by
  obtain ⟨fr2, hfl, g1, g2, g3, g4, g5, g6, g7⟩ := forLoop_sum env F SendIovecAll.len SendIovecAll.data_total (by decide) SendIovecAll.forBody rfl w
    (fr.io 0).lens { fr with n := upd (upd fr.n 0 0) 1 0, l := upd fr.l 0 (fr.io 0).lens }
  simp only [SendIovecAll.fnBody, exec_seq, exec_assign, exec_assignL, evalE, evalL, exec_forIn, exec_while, upd_apply, reduceIte, hfl]
  have h0 : fr2.n 0 = 0 := by rw [g2 0 (by decide) (by decide)]; simp
  have hI : LoopInv (fr.io 0) (fr.f 0) w.mem fr2 w :=
    ⟨by rw [g3]; simp, by rw [g5], by rw [g4], by rw [g1]; simp, by omega, rfl, hlen⟩
  have h := send_loop env F _ _ _ F fr2 w hI hF
  rw [h0, List.drop_zero, ← hm] at h
  generalize loop _ _ F fr2 w = r at h ⊢
  obtain ⟨c, fr3, w3⟩ := r
  obtain ⟨t1, t2, ⟨rfl, t3⟩ | t3⟩ := h
  · exact ⟨_, _, _, rfl, by rw [t3]; exact ⟨_, _, rfl⟩, t1, t2⟩
  · cases c with
    | normal => exact absurd rfl t3.ne_normal
    | _ => exact ⟨_, _, _, rfl, t3, t1, t2⟩

/-- `send_iovec_all_run` read through `sendResOf` -/
theorem send_iovec_all_exec {σ : Type} (env : Env σ) (F : Nat) (fr : Frame) (w : World σ)
    (hF : w.script.length < F) (hlen : ((fr.io 0).bytes w.mem).length = (fr.io 0).lens.sum) :
    wireOf (exec env SendIovecAll.fnBody F fr w).2.2.sent =
      (sendAll ((fr.f 0).getD []) ((fr.io 0).bytes w.mem) 0 (w.script.map (toEv env.classify)) (wireOf w.sent)).1 ∧
    (exec env SendIovecAll.fnBody F fr w).2.2.mem = w.mem ∧
    sendResOf (exec env SendIovecAll.fnBody F fr w).1 =
      some (sendAll ((fr.f 0).getD []) ((fr.io 0).bytes w.mem) 0 (w.script.map (toEv env.classify)) (wireOf w.sent)).2 := by
  obtain ⟨c, fr', w', hx, hc, t1, t2⟩ := send_iovec_all_run env F fr w hF hlen _ rfl
  rw [hx]
  exact ⟨t1, t2, hc.sendResOf⟩

end Lemmas.ConnSend
