import VhostModel.Model.BackendSrv
import VhostModel.Spec.Proto
import VhostModel.Lemmas.Layouts
/-!
# The interpreter of the dispatch table (`Model.BackendSrv.runGuard`, `runGuards`, `runAct`, `dispatch`, `step`), characterised

* guards: the condition under which a guard passes and the context it leaves (`holds`, `after`, `runGuard_eq_ok`),
  lifted to the guard list of an arm (`runGuards_foldl`, `runGuards_eq_ok`, `runGuards_leftover`);
* actions: the three actions that validate their body themselves as one condition and two outcomes
  (`runAct_getConfig`, `runAct_setConfig`, `runAct_memTable`), and for every action the handler invocation it makes
  (`runAct_calls`) and what it does to the negotiation state (`runAct_st`);
* `step_cases`: the ways one `handle_request` ends.
-/
namespace Lemmas.BackendSrv
open Base Model.Stream Model.Msgs Model.BackendSrv Lemmas.Layouts

theorem find_arm {c : Nat} {a : Arm} (h : arms.find? (·.code == c) = some a) : a ∈ arms ∧ a.code = c :=
  ⟨List.mem_of_find?_eq_some h, by simpa using List.find?_some h⟩

/-- every arm of a gated request checks the gating protocol feature before anything else can reach the handler -/
theorem arms_gate : ∀ a ∈ arms, ∀ b, Spec.Proto.gate a.code = some b → Guard.proto b ∈ a.guards := by
  decide +kernel

theorem arms_enable : ∀ a ∈ arms, a.code = 18 → Guard.virtio 30 ∈ a.guards := by
  decide +kernel

/-- the only arm whose method is `set_protocol_features` is the SET_PROTOCOL_FEATURES action -/
theorem arms_spf : ∀ a ∈ arms, a.act.method = "set_protocol_features" → a.act = .setProtocolFeatures := by
  decide +kernel

/-- `take_single_file`: exactly one received descriptor is taken; otherwise all of them are dropped -/
theorem takeSingle_cases (files : Option (List Fd)) :
    (∃ f, files = some [f] ∧ takeSingle files = (some f, [])) ∨
      ((files.getD []).length ≠ 1 ∧ takeSingle files = (none, files.getD [])) := by
  rcases files with _ | (_ | ⟨f, _ | _⟩) <;> simp [takeSingle]

theorem one_file {files : Option (List Fd)} (h : (files.getD []).length = 1) : ∃ f, files = some [f] := by
  rcases takeSingle_cases files with ⟨f, hf, -⟩ | ⟨hn, -⟩
  · exact ⟨f, hf⟩
  · exact absurd h hn

theorem takeSingle_isSome {files : Option (List Fd)} : (takeSingle files).1.isSome = true ↔ (files.getD []).length = 1 := by
  rcases takeSingle_cases files with ⟨f, rfl, -⟩ | ⟨hn, ht⟩
  · exact ⟨fun _ => rfl, fun _ => rfl⟩
  · rw [ht]; exact ⟨nofun, fun h => absurd h hn⟩

/-- the file a file guard took, as the list the handler is given -/
theorem taken_files {files : Option (List Fd)} (h : (files.getD []).length ≤ 1) :
    (match (takeSingle files).1 with | some x => [x] | none => []) = files.getD [] := by
  rcases takeSingle_cases files with ⟨f, rfl, ht⟩ | ⟨hn, ht⟩ <;> rw [ht]
  · rfl
  · exact (List.eq_nil_of_length_eq_zero (by omega)).symm

/-- guards that move a descriptor from `files` to `file` -/
def takesFile : Guard → Bool
  | .oneFile _ | .vringFd => true
  | _ => false

def takers (gs : List Guard) : Nat := gs.countP takesFile

theorem arms_takers : ∀ a ∈ arms, takers a.guards ≤ 1 := by decide +kernel

/-- the condition under which a guard lets the request pass (`runGuard_eq_ok`) -/
def holds (st : BSt) (hdr : Hdr) (buf : Bytes) (files : Option (List Fd)) : Guard → Prop
  | .proto b => bitSet st.ackedProto b = true
  | .virtio b => bitSet st.acked b = true
  | .sizeIs .zero => checkSize hdr buf.length 0 = true
  | .sizeIs .any => checkSize hdr buf.length hdr.size = true
  | .sizeIs (.ofT ty) => ∃ n, structSize ty = some n ∧ checkSize hdr buf.length n = true
  | .body ty => ∃ n, structSize ty = some n ∧ checkSize hdr buf.length n = true ∧ bodyValid ty buf = some true
  | .oneFile _ => (files.getD []).length = 1
  | .vringFd => 8 ≤ buf.length ∧ (files.getD []).length = if bitSet (leVal (buf.take 8)) 8 then 0 else 1
  | .enable01 => g buf "VhostUserVringState" ["num"] ≤ 1

/-- the context a guard that passed leaves behind: the two file guards take the request's files -/
def after (c : Ctx) : Guard → Ctx
  | .oneFile _ => { c with file := (takeSingle c.files).1, files := none }
  | .vringFd => { c with file := (takeSingle c.files).1, files := none, index8 := leVal (c.buf.take 8) % 256 }
  | _ => c

theorem after_of_not_takesFile {gd : Guard} (c : Ctx) (h : takesFile gd = false) : after c gd = c := by
  cases gd <;> first | rfl | cases h

theorem after_hdr_buf (gd : Guard) (c : Ctx) : (after c gd).hdr = c.hdr ∧ (after c gd).buf = c.buf := by
  cases gd <;> exact ⟨rfl, rfl⟩

theorem foldl_after_hdr_buf : ∀ (gs : List Guard) (c : Ctx), (gs.foldl after c).hdr = c.hdr ∧ (gs.foldl after c).buf = c.buf
  | [], _ => ⟨rfl, rfl⟩
  | gd :: gs, c =>
    ⟨(foldl_after_hdr_buf gs _).1.trans (after_hdr_buf gd c).1, (foldl_after_hdr_buf gs _).2.trans (after_hdr_buf gd c).2⟩

theorem checkSize_len {h : Hdr} {l n : Nat} (hc : checkSize h l n = true) : l = n := by
  simp only [checkSize, Bool.and_eq_true, beq_iff_eq] at hc; exact hc.2

/-- a body guard that holds has seen a body of the struct's size -/
theorem body_len {st : BSt} {hdr : Hdr} {buf : Bytes} {files : Option (List Fd)} {ty : String} {n : Nat}
    (hs : structSize ty = some n) (hh : holds st hdr buf files (.body ty)) : buf.length = n := by
  obtain ⟨m, hm, hc, -⟩ := hh
  exact (checkSize_len hc).trans (Option.some.inj (hm.symm.trans hs))

/-- only the two file guards look at the files -/
theorem holds_files {gd : Guard} (h : takesFile gd = false) (st : BSt) (hdr : Hdr) (buf : Bytes)
    (fs fs' : Option (List Fd)) : holds st hdr buf fs gd → holds st hdr buf fs' gd := by
  cases gd with
  | sizeIs s => cases s <;> exact id
  | oneFile _ | vringFd => cases h
  | _ => exact id

theorem runGuard_eq_ok {st : BSt} {c c' : Ctx} {gd : Guard} :
    runGuard st c gd = .ok c' ↔ holds st c.hdr c.buf c.files gd ∧ after c gd = c' := by
  cases gd with
  | proto b | virtio b => simp only [runGuard, holds, after]; split <;> simp [*]
  | sizeIs s =>
    cases s with
    | zero | any => simp only [runGuard, holds, after]; split <;> simp [*]
    | ofT ty =>
      simp only [runGuard, holds, after]
      split
      · split <;> simp [*]
      · simp [*]
  | body ty =>
    -- unknown type: `.other`; wrong size: `invalidMsg`; then the validator's verdict decides
    simp only [runGuard, holds, after]
    split
    · simp [*]
    · split
      · simp_all
      · split <;> simp_all
  | oneFile e =>
    rcases takeSingle_cases c.files with ⟨f, hf, -⟩ | ⟨hn, ht⟩
    · simp [runGuard, holds, after, takeSingle, hf]
    · simp [runGuard, holds, after, ht, hn]
  | vringFd =>
    -- fewer than 8 bytes fail; bit 8 set ("no fd") demands no file at all, bit 8 clear exactly one, which is what
    -- `takeSingle` yields a file for
    simp only [runGuard, holds, after]
    split
    · simp; omega
    · rcases takeSingle_cases c.files with ⟨f, hf, -⟩ | ⟨hn, ht⟩
      · cases hb : bitSet (leVal (c.buf.take 8)) 8 <;> simp [takeSingle, hf] <;> omega
      · cases hb : bitSet (leVal (c.buf.take 8)) 8 <;> simp [ht, hn]
        split <;> simp [*] <;> omega
  | enable01 =>
    have hn : (g c.buf "VhostUserVringState" ["num"] == 0 || g c.buf "VhostUserVringState" ["num"] == 1) = true ↔
        g c.buf "VhostUserVringState" ["num"] ≤ 1 := by
      simp only [Bool.or_eq_true, beq_iff_eq]; omega
    simp only [runGuard, holds, after, hn]
    split <;> simp [*]

theorem runGuard_error {st : BSt} {c : Ctx} {gd : Guard} (h : ¬ holds st c.hdr c.buf c.files gd) :
    ∃ e, runGuard st c gd = .error e := by
  cases hr : runGuard st c gd with
  | error e => exact ⟨e, rfl⟩
  | ok c' => exact absurd (runGuard_eq_ok.1 hr).1 h

theorem runGuards_cons_ok {st : BSt} {c c' : Ctx} {gd : Guard} {gs : List Guard} :
    runGuards st c (gd :: gs) = .ok c' ↔ ∃ c1, runGuard st c gd = .ok c1 ∧ runGuards st c1 gs = .ok c' := by
  simp only [runGuards]
  cases runGuard st c gd <;> simp

theorem runGuards_foldl {st : BSt} {c' : Ctx} : ∀ (gs : List Guard) (c : Ctx), runGuards st c gs = .ok c' →
    gs.foldl after c = c'
  | [], _, h => Except.ok.inj h
  | gd :: gs, c, h => by
    obtain ⟨c1, h1, h2⟩ := runGuards_cons_ok.1 h
    rw [List.foldl_cons, (runGuard_eq_ok.1 h1).2]
    exact runGuards_foldl gs c1 h2

theorem runGuards_hdr_buf {st : BSt} (gs : List Guard) {c c' : Ctx} (h : runGuards st c gs = .ok c') :
    c'.hdr = c.hdr ∧ c'.buf = c.buf :=
  runGuards_foldl gs c h ▸ foldl_after_hdr_buf gs c

theorem holds_after {st : BSt} {c : Ctx} {gd gd' : Guard} (hn : takesFile gd = false ∨ takesFile gd' = false) :
    holds st (after c gd).hdr (after c gd).buf (after c gd).files gd' ↔ holds st c.hdr c.buf c.files gd' := by
  rcases hn with hn | hn
  · rw [after_of_not_takesFile c hn]
  · rw [(after_hdr_buf gd c).1, (after_hdr_buf gd c).2]
    exact ⟨holds_files hn st _ _ _ _, holds_files hn st _ _ _ _⟩

theorem takers_cons {gd : Guard} {gs : List Guard} (h : takers (gd :: gs) ≤ 1) :
    takers gs ≤ 1 ∧ (takesFile gd = false ∨ ∀ gd' ∈ gs, takesFile gd' = false) := by
  cases ht : takesFile gd <;> simp only [takers, List.countP_cons, ht, if_true, Bool.false_eq_true, if_false] at h
  · exact ⟨h, .inl rfl⟩
  · have h0 : takers gs = 0 := by simp only [takers]; omega
    exact ⟨by omega, .inr fun gd' hm => by simpa using List.countP_eq_zero.1 h0 gd' hm⟩

theorem runGuards_eq_ok {st : BSt} {c' : Ctx} : ∀ (gs : List Guard) (c : Ctx), takers gs ≤ 1 →
    (runGuards st c gs = .ok c' ↔ (∀ gd ∈ gs, holds st c.hdr c.buf c.files gd) ∧ gs.foldl after c = c')
  | [], c, _ => by simp [runGuards]
  | gd :: gs, c, h1 => by
    obtain ⟨ht, h1⟩ := takers_cons h1
    by_cases hh : holds st c.hdr c.buf c.files gd
    · have hrest : (∀ gd' ∈ gs, holds st (after c gd).hdr (after c gd).buf (after c gd).files gd') ↔
          ∀ gd' ∈ gs, holds st c.hdr c.buf c.files gd' :=
        forall_congr' fun gd' => imp_congr_right fun hm => holds_after (h1.imp_right fun hall => hall gd' hm)
      simp only [runGuards, runGuard_eq_ok.2 ⟨hh, rfl⟩, runGuards_eq_ok gs (after c gd) ht, hrest, List.forall_mem_cons, hh,
        true_and, List.foldl_cons]
    · obtain ⟨e, he⟩ := runGuard_error hh
      simp [runGuards, he, hh]

theorem runGuards_ok {st : BSt} {gs : List Guard} {c : Ctx} (h1 : takers gs ≤ 1)
    (h : ∀ gd ∈ gs, holds st c.hdr c.buf c.files gd) : runGuards st c gs = .ok (gs.foldl after c) :=
  (runGuards_eq_ok gs c h1).2 ⟨h, rfl⟩

theorem runGuards_error {st : BSt} {gs : List Guard} {c : Ctx} {gd : Guard} (h1 : takers gs ≤ 1) (hm : gd ∈ gs)
    (hn : ¬ holds st c.hdr c.buf c.files gd) : ∃ e, runGuards st c gs = .error e := by
  cases hr : runGuards st c gs with
  | error e => exact ⟨e, rfl⟩
  | ok c' => exact absurd (((runGuards_eq_ok gs c h1).1 hr).1 gd hm) hn

theorem foldl_after_of_no_taker : ∀ (gs : List Guard) (c : Ctx), (∀ gd ∈ gs, takesFile gd = false) →
    gs.foldl after c = c
  | [], _, _ => rfl
  | gd :: gs, c, h => by
    rw [List.foldl_cons, after_of_not_takesFile c (h gd (.head _))]
    exact foldl_after_of_no_taker gs c fun x hx => h x (.tail _ hx)

theorem after_leftover {st : BSt} {c : Ctx} {gd : Guard} (hf : c.file = none) (hh : holds st c.hdr c.buf c.files gd) :
    (after c gd).leftover = c.leftover := by
  cases ht : takesFile gd with
  | false => rw [after_of_not_takesFile c ht]
  | true =>
    have hl : (c.files.getD []).length ≤ 1 := by
      cases gd with
      | oneFile _ => exact Nat.le_of_eq hh
      | vringFd => rw [hh.2]; split <;> omega
      | _ => cases ht
    have e : (after c gd).leftover = match (takeSingle c.files).1 with | some x => [x] | none => [] := by
      cases gd with
      | oneFile _ | vringFd => rfl
      | _ => cases ht
    rw [e, taken_files hl, Ctx.leftover, hf, List.append_nil]

/-- **What the guards of an arm do with the received descriptors**, when at most one of them takes a file and none
was taken before: the context holds the same descriptors, and `file` stays `none` without a file-taking guard. -/
theorem runGuards_leftover {st : BSt} : ∀ (gs : List Guard) (c c' : Ctx), takers gs ≤ 1 → c.file = none →
    runGuards st c gs = .ok c' → c'.leftover = c.leftover ∧ (takers gs = 0 → c'.file = none)
  | [], c, c', _, hf, h => by cases h; exact ⟨rfl, fun _ => hf⟩
  | gd :: gs, c, c', h1, hf, h => by
    obtain ⟨c1, hg, h2⟩ := runGuards_cons_ok.1 h
    obtain ⟨hh, rfl⟩ := runGuard_eq_ok.1 hg
    obtain ⟨ht, hno⟩ := takers_cons h1
    cases htk : takesFile gd with
    | false =>
      rw [after_of_not_takesFile c htk] at h2
      obtain ⟨hl, h0⟩ := runGuards_leftover gs c c' ht hf h2
      exact ⟨hl, fun hz => h0 (by simpa [takers, htk] using hz)⟩
    | true =>
      -- no later guard takes a file, so the context is the one this guard leaves
      have hrest := hno.resolve_left (by rw [htk]; nofun)
      obtain rfl := (foldl_after_of_no_taker gs _ hrest).symm.trans (runGuards_foldl gs _ h2)
      exact ⟨after_leftover hf hh, fun hz => by simp [takers, htk] at hz⟩

/-- the checks GET_CONFIG and SET_CONFIG make themselves: at most `MAX_MSG_SIZE` bytes, a valid 12-byte head, then
exactly `size` bytes of payload -/
def cfgOk (buf : Bytes) : Bool :=
  buf.length ≤ 0x1000 && 12 ≤ buf.length && bodyValid "VhostUserConfig" (buf.take 12) == some true &&
    buf.length - 12 == g buf "VhostUserConfig" ["size"]

theorem cfgOk_iff {buf : Bytes} : cfgOk buf = true ↔ buf.length ≤ 0x1000 ∧ 12 ≤ buf.length ∧
    bodyValid "VhostUserConfig" (buf.take 12) = some true ∧ buf.length - 12 = g buf "VhostUserConfig" ["size"] := by
  simp only [cfgOk, Bool.and_eq_true, decide_eq_true_eq, beq_iff_eq, and_assoc]

/-- the chain of checks both configuration actions run, with `good` after it and `fail` at every exit -/
theorem cfg_chain {α : Type} (good fail : α) (buf : Bytes) :
    (if buf.length > 0x1000 || buf.length < 12 then fail else
      match bodyValid "VhostUserConfig" (buf.take 12) with
      | some true => if buf.length - 12 != g buf "VhostUserConfig" ["size"] then fail else good
      | _ => fail) = if cfgOk buf then good else fail := by
  by_cases hc : cfgOk buf = true
  · obtain ⟨h1, h2, h3, h4⟩ := cfgOk_iff.1 hc
    rw [if_pos hc, if_neg (by simp only [Bool.or_eq_true, decide_eq_true_eq]; omega), h3]
    exact if_neg (by simp only [h4, bne_self_eq_false, Bool.false_eq_true, not_false_eq_true])
  · rw [if_neg hc]
    by_cases h1 : (decide (buf.length > 0x1000) || decide (buf.length < 12)) = true
    · exact if_pos h1
    rw [if_neg h1]
    split
    next h3 =>
      refine if_pos (Decidable.by_contra fun h4 => hc (cfgOk_iff.2 ?_))
      simp only [Bool.or_eq_true, decide_eq_true_eq, bne_iff_ne, ne_eq, Decidable.not_not] at h1 h4
      exact ⟨by omega, by omega, h3, h4⟩
    · rfl

theorem runAct_getConfig (st : BSt) (c : Ctx) (h : HOut) : runAct st c h .getConfig =
    if cfgOk c.buf then
      let off := g c.buf "VhostUserConfig" ["offset"]
      let sz := g c.buf "VhostUserConfig" ["size"]
      let fl := g c.buf "VhostUserConfig" ["flags"]
      if h.ok && h.b.length == sz then
        { st := st, calls := [⟨"get_config", [off, sz, fl], [], []⟩],
          out := replyHdr c.hdr (12 + sz) ++ leBytes 4 off ++ leBytes 4 sz ++ leBytes 4 fl ++ h.b, closed := c.leftover }
      else
        { st := st, calls := [⟨"get_config", [off, sz, fl], [], []⟩],
          out := replyHdr c.hdr 12 ++ leBytes 4 off ++ leBytes 4 0 ++ leBytes 4 fl, closed := c.leftover }
    else { st := st, res := .err .invalidMsg, closed := c.leftover } := by
  rw [← cfg_chain]
  simp only [runAct, lay_config.1]
  rfl

theorem runAct_setConfig (st : BSt) (c : Ctx) (h : HOut) : runAct st c h .setConfig =
    if cfgOk c.buf then
      { st := st,
        calls := [⟨"set_config", [g c.buf "VhostUserConfig" ["offset"], g c.buf "VhostUserConfig" ["flags"]],
          c.buf.drop 12, []⟩],
        out := ackOf st c.hdr h.ok, closed := c.leftover, res := if h.ok then .ok else .err .handlerErr }
    else { st := st, out := ackOf st c.hdr false, res := .err .invalidMsg, closed := c.leftover } := by
  rw [← cfg_chain]
  simp only [runAct, lay_config.1]
  rfl

/-- the four values of a 32-byte memory-region slice -/
def regTuple (r : Bytes) : Nat × Nat × Nat × Nat :=
  (g r "VhostUserMemoryRegion" ["guest_phys_addr"], g r "VhostUserMemoryRegion" ["memory_size"],
   g r "VhostUserMemoryRegion" ["user_addr"], g r "VhostUserMemoryRegion" ["mmap_offset"])

theorem regionsOf_within (buf : Bytes) : ∀ (n off : Nat), off + n * 32 ≤ buf.length →
    ∀ r ∈ regionsOf buf n off, r.length = 32 := by
  intro n
  induction n with
  | zero => intro off _ r hr; simp [regionsOf] at hr
  | succ n ih =>
    intro off hlen r hr
    simp only [regionsOf, List.mem_cons] at hr
    rcases hr with hr | hr
    · subst hr; simp [List.length_take, List.length_drop]; omega
    · exact ih (off + 32) (by omega) r hr

/-- the checks SET_MEM_TABLE makes itself, in the order of the source -/
def memTableOk (c : Ctx) : Bool :=
  let n := g c.buf "VhostUserMemory" ["num_regions"]
  checkSize c.hdr c.buf.length c.hdr.size && 8 ≤ c.buf.length &&
    bodyValid "VhostUserMemory" (c.buf.take 8) == some true && c.buf.length == 8 + n * 32 &&
    c.files.map List.length == some n &&
    (regionsOf c.buf n 8).all fun r => bodyValid "VhostUserMemoryRegion" r == some true

theorem memTableOk_iff {c : Ctx} : memTableOk c = true ↔
    checkSize c.hdr c.buf.length c.hdr.size = true ∧ 8 ≤ c.buf.length ∧
    bodyValid "VhostUserMemory" (c.buf.take 8) = some true ∧
    c.buf.length = 8 + g c.buf "VhostUserMemory" ["num_regions"] * 32 ∧
    (∃ fs, c.files = some fs ∧ fs.length = g c.buf "VhostUserMemory" ["num_regions"]) ∧
    ∀ r ∈ regionsOf c.buf (g c.buf "VhostUserMemory" ["num_regions"]) 8, bodyValid "VhostUserMemoryRegion" r = some true := by
  simp only [memTableOk, Bool.and_eq_true, decide_eq_true_eq, beq_iff_eq, Option.map_eq_some_iff, List.all_eq_true,
    and_assoc]

theorem runAct_memTable (st : BSt) (c : Ctx) (h : HOut) : runAct st c h .memTable =
    if memTableOk c then
      { st := st,
        calls := [⟨"set_mem_table",
          (regionsOf c.buf (g c.buf "VhostUserMemory" ["num_regions"]) 8).flatMap fun r =>
            [g r "VhostUserMemoryRegion" ["guest_phys_addr"], g r "VhostUserMemoryRegion" ["memory_size"],
             g r "VhostUserMemoryRegion" ["user_addr"], g r "VhostUserMemoryRegion" ["mmap_offset"]],
          [], c.files.getD []⟩],
        out := ackOf st c.hdr h.ok, res := if h.ok then .ok else .err .handlerErr }
    else { st := st, out := ackOf st c.hdr false, res := .err .invalidMsg, closed := c.leftover } := by
  simp only [runAct, lay_memory.1, lay_region.1]
  by_cases hc : memTableOk c = true
  · obtain ⟨h1, h2, h3, h4, ⟨fs, h5, h6⟩, h7⟩ := memTableOk_iff.1 hc
    rw [if_pos hc, if_neg (by rw [h1]; decide), if_neg (Nat.not_lt.2 h2), h3]
    simp only [h5, h6, List.all_eq_true.2 fun r hr => beq_iff_eq.2 (h7 r hr), h4, bne_self_eq_false,
      Bool.false_eq_true, if_false, if_true, Option.getD_some]
  · rw [if_neg hc]
    by_cases h1 : (!checkSize c.hdr c.buf.length c.hdr.size) = true
    · exact if_pos h1
    rw [if_neg h1]
    by_cases h2 : c.buf.length < 8
    · exact if_pos h2
    rw [if_neg h2]
    split
    next h3 =>
      by_cases h4 : (c.buf.length != 8 + g c.buf "VhostUserMemory" ["num_regions"] * 32) = true
      · exact if_pos h4
      rw [if_neg h4]
      split
      · rfl
      next fs h5 =>
      by_cases h6 : (fs.length != g c.buf "VhostUserMemory" ["num_regions"]) = true
      · exact if_pos h6
      rw [if_neg h6]
      refine if_neg fun h7 => hc (memTableOk_iff.2 ?_)
      simp only [Bool.not_eq_true', Bool.not_eq_false, bne_iff_ne, ne_eq, Decidable.not_not] at h1 h4 h6
      exact ⟨h1, Nat.not_lt.1 h2, h3, h4, ⟨fs, h5, h6⟩, fun r hr => beq_iff_eq.1 (List.all_eq_true.1 h7 r hr)⟩
    · rfl

theorem runAct_backendReqFd (st : BSt) (c : Ctx) (h : HOut) : runAct st c h .backendReqFd =
    if (takeSingle c.files).1.isSome then
      { st := st, calls := [⟨"set_backend_req_fd", [], [], c.files.getD []⟩], out := ackOf st c.hdr true }
    else { st := st, out := ackOf st c.hdr false, res := .err .invalidMsg, closed := c.files.getD [] } := by
  simp only [runAct]
  rcases takeSingle_cases c.files with ⟨f, hf, ht⟩ | ⟨-, ht⟩ <;> rw [ht]
  · rw [hf]; rfl
  · rfl

theorem runAct_gpuSocket (st : BSt) (c : Ctx) (h : HOut) : runAct st c h .gpuSocket =
    if (takeSingle c.files).1.isSome then
      { st := st, calls := [⟨"set_gpu_socket", [], [], c.files.getD []⟩], out := ackOf st c.hdr h.ok,
        res := if h.ok then .ok else .err .handlerErr }
    else { st := st, out := ackOf st c.hdr false, res := .err .invalidMsg, closed := c.files.getD [] } := by
  simp only [runAct]
  rcases takeSingle_cases c.files with ⟨f, hf, ht⟩ | ⟨-, ht⟩ <;> rw [ht]
  · rw [hf]; rfl
  · rfl

/-- whether the checks an action makes itself pass (the five actions that are helper functions in the source) -/
def actOk (c : Ctx) : Act → Bool
  | .getConfig | .setConfig => cfgOk c.buf
  | .memTable => memTableOk c
  | .backendReqFd | .gpuSocket => (takeSingle c.files).1.isSome
  | _ => true

/-- arguments, payload and descriptors of the handler invocation an action makes -/
def actArgs (c : Ctx) : Act → List Nat × Bytes × List Fd
  | .ack m => argsOf m c
  | .setFeatures | .setProtocolFeatures => ([g c.buf "VhostUserU64" ["value"]], [], [])
  | .getVringBase => ([g c.buf "VhostUserVringState" ["index"]], [], [])
  | .getInflight =>
    ([g c.buf "VhostUserInflight" ["mmap_size"], g c.buf "VhostUserInflight" ["mmap_offset"],
      g c.buf "VhostUserInflight" ["num_queues"], g c.buf "VhostUserInflight" ["queue_size"]], [], [])
  | .setLogBase => ([g c.buf "VhostUserLog" ["mmap_size"], g c.buf "VhostUserLog" ["mmap_offset"]], [], c.file.toList)
  | .fdOrEmpty m => (if m == "get_shared_object" then [g c.buf "VhostUserSharedMsg" ["uuid"]] else [], [], [])
  | .deviceStateFd =>
    ([g c.buf "VhostUserTransferDeviceState" ["direction"], g c.buf "VhostUserTransferDeviceState" ["phase"]], [],
      c.file.toList)
  | .getConfig =>
    ([g c.buf "VhostUserConfig" ["offset"], g c.buf "VhostUserConfig" ["size"], g c.buf "VhostUserConfig" ["flags"]],
      [], [])
  | .setConfig => ([g c.buf "VhostUserConfig" ["offset"], g c.buf "VhostUserConfig" ["flags"]], c.buf.drop 12, [])
  | .memTable =>
    ((regionsOf c.buf (g c.buf "VhostUserMemory" ["num_regions"]) 8).flatMap fun r =>
      [g r "VhostUserMemoryRegion" ["guest_phys_addr"], g r "VhostUserMemoryRegion" ["memory_size"],
       g r "VhostUserMemoryRegion" ["user_addr"], g r "VhostUserMemoryRegion" ["mmap_offset"]], [], c.files.getD [])
  | .backendReqFd | .gpuSocket => ([], [], c.files.getD [])
  | _ => ([], [], [])

theorem runAct_calls (st : BSt) (c : Ctx) (h : HOut) (act : Act) : (runAct st c h act).calls =
    if actOk c act then [⟨act.method, (actArgs c act).1, (actArgs c act).2.1, (actArgs c act).2.2⟩] else [] := by
  cases act with
  | ack m => rfl
  | getConfig | setConfig | memTable | backendReqFd | gpuSocket =>
    simp only [runAct_getConfig, runAct_setConfig, runAct_memTable, runAct_backendReqFd, runAct_gpuSocket,
      apply_ite Out.calls, ite_self] <;> rfl
  | setLogBase | deviceStateFd => rcases c with ⟨_, _, _, _ | _, _, _⟩ <;> rcases h with ⟨_ | _, _, _, _⟩ <;> rfl
  | _ => rcases h with ⟨_ | _, _, _, _⟩ <;> rfl

theorem runAct_st (st : BSt) (c : Ctx) (h : HOut) (act : Act) : (runAct st c h act).st =
    match act with
    | .getFeatures => if h.ok then ({ st with virtio := h.v % 2^64 }).updateFlag else st
    | .getProtocolFeatures => if h.ok then st.updateFlag else st
    | .setFeatures => ({ st with acked := g c.buf "VhostUserU64" ["value"] }).updateFlag
    | .setProtocolFeatures => ({ st with ackedProto := g c.buf "VhostUserU64" ["value"] }).updateFlag
    | _ => st := by
  cases act with
  | ack m => rfl
  | getConfig | setConfig | memTable | backendReqFd | gpuSocket =>
    simp only [runAct_getConfig, runAct_setConfig, runAct_memTable, runAct_backendReqFd, runAct_gpuSocket,
      apply_ite Out.st, ite_self]
  | _ => rcases h with ⟨_ | _, _, _, _⟩ <;> rfl

/-- every handler invocation an action makes is the method of that action -/
theorem runAct_calls_name (st : BSt) (c : Ctx) (h : HOut) (act : Act) :
    ∀ cl ∈ (runAct st c h act).calls, cl.name = act.method := by
  rw [runAct_calls]
  split
  · intro cl hcl; rw [List.mem_singleton.1 hcl]
  · intro cl hcl; cases hcl

/-- at most one handler invocation per request -/
theorem runAct_calls_length (st : BSt) (c : Ctx) (h : HOut) (act : Act) :
    (runAct st c h act).calls.length ≤ 1 := by
  rw [runAct_calls]
  split <;> simp

/-- only SET_PROTOCOL_FEATURES changes the acknowledged protocol features, to the value the handler is told -/
theorem runAct_ackedProto (st : BSt) (c : Ctx) (h : HOut) (act : Act) :
    (runAct st c h act).st.ackedProto =
      if act = .setProtocolFeatures then g c.buf "VhostUserU64" ["value"] else st.ackedProto := by
  rw [runAct_st]
  cases act with
  | getFeatures | getProtocolFeatures => dsimp only; split <;> rfl
  | _ => rfl

theorem runAct_spf_call (st : BSt) (c : Ctx) (h : HOut) :
    (runAct st c h .setProtocolFeatures).calls = [⟨"set_protocol_features", [g c.buf "VhostUserU64" ["value"]], [], []⟩] :=
  rfl

theorem replyHdr_ne_nil (hdr : Hdr) (n : Nat) (p : Bytes) : replyHdr hdr n ++ p ≠ [] := by
  intro h; have := congrArg List.length h; simp [replyHdr, encHdr] at this

theorem dispatch_of_guard_error {st : BSt} {hdr : Hdr} {buf : Bytes} {files : Option (List Fd)} {h : HOut}
    {a : Arm} (ha : arms.find? (·.code == hdr.code) = some a)
    {e : Err} (he : runGuards st { hdr := hdr, buf := buf, files := files } a.guards = .error e) :
    dispatch st hdr buf files h = { st := st, res := .err e, closed := files.getD [] } := by
  simp [dispatch, ha, he]

theorem dispatch_unknown {st : BSt} {hdr : Hdr} {buf : Bytes} {files : Option (List Fd)} {h : HOut}
    (ha : arms.find? (·.code == hdr.code) = none) :
    dispatch st hdr buf files h = { st := st, res := .err .invalidMsg, closed := files.getD [] } := by
  simp [dispatch, ha]

theorem dispatch_of_holds {st : BSt} {hdr : Hdr} {buf : Bytes} {files : Option (List Fd)} {a : Arm}
    (ha : arms.find? (·.code == hdr.code) = some a) (hh : ∀ gd ∈ a.guards, holds st hdr buf files gd) (h : HOut) :
    dispatch st hdr buf files h =
      runAct st (a.guards.foldl after { hdr := hdr, buf := buf, files := files }) h a.act := by
  simp only [dispatch, ha, runGuards_ok (c := { hdr := hdr, buf := buf, files := files }) (arms_takers a (find_arm ha).1) hh]

/-- refusal: unknown code (`invalidMsg`) or the error of the first guard that fails -/
theorem dispatch_cases {P : Out → Prop} (st : BSt) (hdr : Hdr) (buf : Bytes) (files : Option (List Fd)) (h : HOut)
    (refuse : ∀ e, P { st := st, res := .err e, closed := files.getD [] })
    (run : ∀ a ∈ arms, a.code = hdr.code → (∀ gd ∈ a.guards, holds st hdr buf files gd) →
      P (runAct st (a.guards.foldl after { hdr := hdr, buf := buf, files := files }) h a.act)) :
    P (dispatch st hdr buf files h) := by
  cases ha : arms.find? (·.code == hdr.code) with
  | none => rw [dispatch_unknown ha]; exact refuse _
  | some a =>
    obtain ⟨hm, hc⟩ := find_arm ha
    cases hg : runGuards st { hdr := hdr, buf := buf, files := files } a.guards with
    | error e => rw [dispatch_of_guard_error ha hg]; exact refuse e
    | ok c' =>
      have hh := ((runGuards_eq_ok a.guards _ (arms_takers a hm)).1 hg).1
      rw [dispatch_of_holds ha hh]; exact run a hm hc hh

/-- The ways one `handle_request` ends: before the body is read (header not read, incomplete, invalid, or files on
a request that takes none); while the body is read (`recv_data` blocked or short; `ENOBUFS`, which alone loses
descriptors); or in `dispatch`, of a request without or with a body, once a 12-byte header passed the generated
validator and the attached-file policy (`framed`). -/
theorem step_cases {σ : Type} {P : StepOut σ → Prop} (ch : Chooser σ) (cl : Bool) (st : BSt) (cst : σ) (s : List Cell)
    (h : HOut) :
    let r := recvAll ch 32 cl 12 cst s true
    let hdr : Hdr := ⟨leVal (r.bytes.take 4), leVal ((r.bytes.drop 4).take 4), leVal ((r.bytes.drop 8).take 4)⟩
    let files : Option (List Fd) := if r.fds.isEmpty then none else some r.fds
    let d := recvData ch cl hdr.size r.st r.rest
    let framed := r.bytes.length = 12 ∧
      (decHeader r.bytes).map (·.isValid (Gen.Codes.FrontendReq.table.map (·.2))) = some true ∧
      (files.isSome && !fdCodes.contains hdr.code) = false
    (∀ res, P ⟨{ st := st, res := res, closed := r.closed ++ r.fds }, r.rest, r.st⟩) →
    (∀ res, d.outcome ≠ .enobufs → P ⟨{ st := st, res := res, closed := r.closed ++ r.fds }, d.rest, d.st⟩) →
    P ⟨{ st := st, res := .err .sockRetry, closed := r.closed ++ r.fds ++ d.lost }, d.rest, d.st⟩ →
    (∀ o, o = dispatch st hdr [] files h → framed → P ⟨{ o with closed := r.closed ++ o.closed }, r.rest, r.st⟩) →
    (∀ o, o = dispatch st hdr d.bytes files h → framed → d.outcome = .full →
      P ⟨{ o with closed := r.closed ++ o.closed }, d.rest, d.st⟩) →
    P (step ch cl st cst s h) := by
  intro r hdr files d framed early body enobufs disp0 disp
  unfold step
  simp only []
  split
  · exact early _
  by_cases h0 : (r.bytes.length == 0) = true
  · rw [if_pos h0]; exact early _
  rw [if_neg h0]
  by_cases h12 : (r.bytes.length != 12) = true
  · rw [if_pos h12]; exact early _
  rw [if_neg h12]
  split
  next hv =>
    by_cases hf : (files.isSome && !fdCodes.contains hdr.code) = true
    · rw [if_pos hf]; exact early _
    rw [if_neg hf]
    have hfr : framed := ⟨by simpa using h12, hv, Bool.not_eq_true _ ▸ hf⟩
    by_cases hz : (hdr.size == 0) = true
    · rw [if_pos hz]; exact disp0 _ rfl hfr
    rw [if_neg hz]
    split
    · next hd => exact body _ (by rw [hd]; decide)
    · next hd => exact body _ (by rw [hd]; decide)
    · exact enobufs
    · next hd => exact disp _ rfl hfr hd
  · exact early _

end Lemmas.BackendSrv
