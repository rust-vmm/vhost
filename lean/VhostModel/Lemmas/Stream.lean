import VhostModel.Model.Stream
/-!
# The receive loops of `Model.Stream` (`recvAll`, `recvData`), characterised

One-step equations of both loops (`read` is the one `recvmsg` each iteration performs), and what they deliver for every
chooser.
-/
namespace Lemmas.Stream
open Base Model.Stream

theorem recvAll_zero {σ : Type} (ch : Chooser σ) (cap : Nat) (cl : Bool) (st : σ) (s : List Cell) (first : Bool) :
    recvAll ch cap cl 0 st s first = ⟨[], [], [], s, st, .done⟩ := by rw [recvAll]

theorem recvData_zero {σ : Type} (ch : Chooser σ) (cl : Bool) (st : σ) (s : List Cell) :
    recvData ch cl 0 st s = ⟨[], [], s, st, .full⟩ := by rw [recvData]

theorem take_eq_take_append (s : List Cell) {k n : Nat} (h : k ≤ n) : s.take n = s.take k ++ (s.drop k).take (n - k) := by
  rw [← List.take_add]; congr 1; omega

theorem flatMap_fds_take_le (s : List Cell) (k n : Nat) (h : k ≤ n) :
    ((s.take k).flatMap (·.fds)).length ≤ ((s.take n).flatMap (·.fds)).length := by
  rw [take_eq_take_append s h, List.flatMap_append, List.length_append]; omega

theorem mem_tail_of_mem_tail_take {α : Type} {s : List α} {n : Nat} {c : α} (hc : c ∈ (s.take n).tail) : c ∈ s.tail := by
  rw [← List.drop_one, List.drop_take] at hc
  exact List.drop_one ▸ List.mem_of_mem_take hc

theorem flatMap_fds_take_of_tail (s : List Cell) {k n : Nat} (htail : ∀ c ∈ (s.take n).tail, c.fds = []) (hk : 0 < k)
    (hkn : k ≤ n) : (s.take k).flatMap (·.fds) = (s.head?.map (·.fds)).getD [] := by
  obtain ⟨k, rfl⟩ := Nat.exists_eq_succ_of_ne_zero (Nat.ne_of_gt hk)
  obtain ⟨n, rfl⟩ := Nat.exists_eq_succ_of_ne_zero (Nat.ne_of_gt (Nat.lt_of_lt_of_le hk hkn))
  cases s with
  | nil => rfl
  | cons c t =>
    have : (t.take k).flatMap (·.fds) = [] :=
      List.flatMap_eq_nil_iff.2 fun x hx => htail x (by
        rw [List.take_succ_cons, List.tail_cons, take_eq_take_append t (Nat.le_of_succ_le_succ hkn)]
        exact List.mem_append_left _ hx)
    rw [List.take_succ_cons, List.flatMap_cons, this, List.append_nil]
    rfl

/-- `k` bytes can be what one `recvmsg` for `want` bytes returns from `s` -/
structure Chunk (want : Nat) (s : List Cell) (k : Nat) : Prop where
  pos : 0 < k
  le_want : k ≤ want
  le_len : k ≤ s.length

theorem Chunk.clamp (k0 want : Nat) (c : Cell) (s : List Cell) :
    Chunk (want + 1) (c :: s) (clampK k0 (want + 1) (s.length + 1)) :=
  ⟨clampK_pos (by omega) (by omega), clampK_le_want _ _ _, clampK_le_avail _ _ _⟩

namespace Chunk
variable {want k : Nat} {s : List Cell} (h : Chunk want s k)
include h

theorem length_take : (s.take k).length = k := by rw [List.length_take]; have := h.le_len; omega
theorem length_drop_lt : (s.drop k).length < s.length := by rw [List.length_drop]; have := h.pos; have := h.le_len; omega
theorem take_want : s.take want = s.take k ++ (s.drop k).take (want - k) := take_eq_take_append s h.le_want
theorem drop_want : (s.drop k).drop (want - k) = s.drop want := by
  rw [List.drop_drop]; congr 1; have := h.le_want; omega
theorem le_drop_iff : want - k ≤ (s.drop k).length ↔ want ≤ s.length := by
  rw [List.length_drop]; have := h.le_want; have := h.le_len; omega
end Chunk

/-- what one `recvmsg` takes off the stream -/
inductive Read (σ : Type) where
  | blocked
  | eof
  | got (chunk rest : List Cell) (st : σ)

/-- one `recvmsg` for `want` bytes: the block that `recvAll`, `recvData` and `Imp.primRecv` each contain -/
def read {σ : Type} (ch : Chooser σ) (cl : Bool) (want : Nat) (st : σ) : List Cell → Read σ
  | [] => if cl then .eof else .blocked
  | c :: s => .got ((c :: s).take (clampK (ch.next st want (c :: s)).1 want (s.length + 1)))
                   ((c :: s).drop (clampK (ch.next st want (c :: s)).1 want (s.length + 1))) (ch.next st want (c :: s)).2

/-- a chunk is a non-empty prefix of at most `want` cells; the rest is what follows it -/
theorem read_got {σ : Type} {ch : Chooser σ} {cl : Bool} {want : Nat} {st st' : σ} {s chunk rest : List Cell} (hw : want ≠ 0)
    (h : read ch cl want st s = .got chunk rest st') :
    chunk ++ rest = s ∧ 0 < chunk.length ∧ chunk.length ≤ want ∧ rest.length < s.length := by
  obtain ⟨n, rfl⟩ := Nat.exists_eq_succ_of_ne_zero hw
  cases s with
  | nil => simp only [read] at h; split at h <;> cases h
  | cons c s =>
    have hk := Chunk.clamp (ch.next st (n + 1) (c :: s)).1 n c s
    simp only [read, Read.got.injEq] at h
    obtain ⟨rfl, rfl, _⟩ := h
    rw [hk.length_take]
    exact ⟨List.take_append_drop _ _, hk.pos, hk.le_want, hk.length_drop_lt⟩

theorem recvData_read {σ : Type} (ch : Chooser σ) (cl : Bool) (st : σ) (s : List Cell) {want : Nat} (hw : want ≠ 0) :
    recvData ch cl want st s =
      match read ch cl want st s with
      | .blocked => ⟨[], [], s, st, .blocked⟩
      | .eof => ⟨[], [], s, st, .short⟩
      | .got chunk rest st' =>
        if chunk.flatMap (·.fds) ≠ [] then ⟨[], chunk.flatMap (·.fds), rest, st', .enobufs⟩
        else { recvData ch cl (want - chunk.length) st' rest with bytes := chunk.map (·.b) ++ (recvData ch cl (want - chunk.length) st' rest).bytes } := by
  obtain ⟨n, rfl⟩ := Nat.exists_eq_succ_of_ne_zero hw
  cases s with
  | nil => rw [recvData]; cases cl <;> rfl
  | cons c s =>
    rw [recvData]
    simp only [read, (Chunk.clamp _ n c s).length_take]

theorem recvAll_read {σ : Type} (ch : Chooser σ) (cap : Nat) (cl : Bool) (st : σ) (s : List Cell) (first : Bool) {want : Nat}
    (hw : want ≠ 0) :
    recvAll ch cap cl want st s first =
      match read ch cl want st s with
      | .blocked => ⟨[], [], [], s, st, .blocked⟩
      | .eof => ⟨[], [], [], s, st, .eof⟩
      | .got chunk rest st' =>
        let cf := chunk.flatMap (·.fds)
        if cf.length > cap then
          let r := recvAll ch cap cl want st' rest first
          { r with closed := cf ++ r.closed }
        else
          let r := recvAll ch cap cl (want - chunk.length) st' rest false
          { r with bytes := chunk.map (·.b) ++ r.bytes, fds := if first then cf else r.fds
                   closed := (if first then [] else cf) ++ r.closed } := by
  obtain ⟨n, rfl⟩ := Nat.exists_eq_succ_of_ne_zero hw
  cases s with
  | nil => rw [recvAll]; cases cl <;> rfl
  | cons c s =>
    rw [recvAll]
    simp only [read, (Chunk.clamp _ n c s).length_take]

/-- **reassembly and truncation**: whatever the chooser does, if the first `want` cells carry no more descriptors than fit
the receive limit, the loop delivers exactly those cells in order and leaves the rest untouched; it reports completion iff
there were `want` of them, and otherwise end-of-stream (closed) or waits (open) -/
theorem recvAll_prefix {σ : Type} (ch : Chooser σ) (cap : Nat) (cl : Bool) :
    ∀ (want : Nat) (st : σ) (s : List Cell) (first : Bool), ((s.take want).flatMap (·.fds)).length ≤ cap →
      (recvAll ch cap cl want st s first).bytes = (s.take want).map (·.b) ∧
      (recvAll ch cap cl want st s first).rest = s.drop want ∧
      (recvAll ch cap cl want st s first).outcome = (if want ≤ s.length then .done else if cl then .eof else .blocked) := by
  intro want st s first
  fun_induction recvAll ch cap cl want st s first with
  | case1 first st s => intro _; simp
  | case2 first n st => intro _; simp
  | case3 want st c s first k0 st' hnext k chunk rest cf hgt r ih =>
    intro hfd
    -- the chunk's descriptors are among the first `want+1` cells' descriptors: this branch is impossible
    have := flatMap_fds_take_le (c :: s) k (want + 1) (Chunk.clamp k0 want c s).le_want
    simp only [chunk, cf, Nat.succ_eq_add_one] at hgt hfd this
    omega
  | case4 want st c s first k0 st' hnext k chunk rest cf hle r ih =>
    intro hfd
    have hk : Chunk (want + 1) (c :: s) k := Chunk.clamp k0 want c s
    rw [hk.take_want, List.flatMap_append, List.length_append] at hfd
    obtain ⟨b1, b2, b3⟩ := ih (Nat.le_trans (Nat.le_add_left _ _) hfd)
    refine ⟨by rw [b1, hk.take_want, List.map_append], by rw [b2, hk.drop_want], b3.trans ?_⟩
    simp only [rest, hk.le_drop_iff]

/-- **reassembly**: whatever the chooser does, if the stream holds `want` bytes whose descriptors fit the receive
limit, the loop delivers exactly those bytes in order, leaves the rest untouched and does not block -/
theorem recvAll_complete {σ : Type} (ch : Chooser σ) (cap : Nat) (cl : Bool) :
    ∀ (want : Nat) (st : σ) (s : List Cell) (first : Bool), want ≤ s.length →
      ((s.take want).flatMap (·.fds)).length ≤ cap →
      (recvAll ch cap cl want st s first).bytes = (s.take want).map (·.b) ∧
      (recvAll ch cap cl want st s first).rest = s.drop want ∧
      (recvAll ch cap cl want st s first).outcome = .done := by
  intro want st s first h hfd
  simpa only [if_pos h] using recvAll_prefix ch cap cl want st s first hfd

/-- the model's outcome against the number of bytes delivered -/
theorem recvAll_outcome_len {σ : Type} (ch : Chooser σ) (cap : Nat) (cl : Bool) :
    ∀ (want : Nat) (st : σ) (s : List Cell) (first : Bool),
      ((recvAll ch cap cl want st s first).outcome = .done → (recvAll ch cap cl want st s first).bytes.length = want) ∧
      ((recvAll ch cap cl want st s first).outcome ≠ .done → (recvAll ch cap cl want st s first).bytes.length < want) := by
  intro want st s first
  fun_induction recvAll ch cap cl want st s first with
  | case1 first st s => simp
  | case2 first n st => cases cl <;> simp
  | case3 want st c s first k0 st' hnext k chunk rest cf hgt r ih => exact ih
  | case4 want st c s first k0 st' hnext k chunk rest cf hle r ih =>
    have hk : Chunk (want + 1) (c :: s) k := Chunk.clamp k0 want c s
    have hk2 := hk.le_want
    simp only [List.length_append, List.length_map, chunk, hk.length_take, r]
    constructor
    · intro h; have := ih.1 h; omega
    · intro h; have := ih.2 h; omega

/-- a closed stream never makes the receive loop wait -/
theorem recvAll_closed_not_blocked {σ : Type} (ch : Chooser σ) (cap : Nat) :
    ∀ (want : Nat) (st : σ) (s : List Cell) (first : Bool), (recvAll ch cap true want st s first).outcome ≠ .blocked := by
  intro want st s first
  fun_induction recvAll ch cap true want st s first with
  | case1 first st s => simp
  | case2 first n st => simp
  | case3 want st c s first k0 st' hnext k chunk rest cf hgt r ih => exact ih
  | case4 want st c s first k0 st' hnext k chunk rest cf hle r ih => exact ih

/-- **truncation**: fewer bytes than requested ⇒ everything there is delivered and the loop reports end-of-stream
(closed) or waits (open) — it never reports completion -/
theorem recvAll_short {σ : Type} (ch : Chooser σ) (cap : Nat) (cl : Bool) :
    ∀ (want : Nat) (st : σ) (s : List Cell) (first : Bool), s.length < want →
      (s.flatMap (·.fds)).length ≤ cap →
      (recvAll ch cap cl want st s first).bytes = s.map (·.b) ∧
      (recvAll ch cap cl want st s first).rest = [] ∧
      (recvAll ch cap cl want st s first).outcome = (if cl then .eof else .blocked) := by
  intro want st s first h hfd
  have ht : s.take want = s := List.take_of_length_le (Nat.le_of_lt h)
  simpa only [ht, List.drop_eq_nil_of_le (Nat.le_of_lt h), if_neg (Nat.not_le_of_lt h)] using
    recvAll_prefix ch cap cl want st s first (by rwa [ht])

/-- descriptors riding on the first of the bytes read (and within the limit) are returned to the caller, none is dropped -/
theorem recvAll_fds_of_read {σ : Type} (ch : Chooser σ) (cap : Nat) (cl : Bool) :
    ∀ (want : Nat) (st : σ) (s : List Cell) (first : Bool), (∀ c ∈ (s.take want).tail, c.fds = []) →
      ((s.head?.map (·.fds)).getD []).length ≤ cap → 0 < want →
      (recvAll ch cap cl want st s first).closed = (if first then [] else (s.head?.map (·.fds)).getD []) ∧
      (first = true → (recvAll ch cap cl want st s first).fds = (s.head?.map (·.fds)).getD []) := by
  intro want st s first
  fun_induction recvAll ch cap cl want st s first with
  | case1 first st s => intro _ _ h; simp at h
  | case2 first n st => intro _ _ _; cases first <;> simp
  | case3 want st c s first k0 st' hnext k chunk rest cf hgt r ih =>
    intro htail hcap _
    have hcf : cf = c.fds := flatMap_fds_take_of_tail (c :: s) htail (Chunk.clamp k0 want c s).pos (Chunk.clamp k0 want c s).le_want
    simp only [List.head?_cons, Option.map_some, Option.getD_some] at hcap
    rw [hcf] at hgt; omega
  | case4 want st c s first k0 st' hnext k chunk rest cf hle r ih =>
    intro htail hcap _
    have hk : Chunk (want + 1) (c :: s) k := Chunk.clamp k0 want c s
    have hcf : cf = c.fds := flatMap_fds_take_of_tail (c :: s) htail hk.pos hk.le_want
    -- what is read after the first chunk carries no descriptor at all
    have hrest : ∀ x ∈ rest.take (want + 1 - k), x.fds = [] := by
      intro x hx
      have hA : (c :: s).take k = c :: s.take (k - 1) := by
        obtain ⟨k', hk'⟩ := Nat.exists_eq_succ_of_ne_zero (Nat.ne_of_gt hk.pos)
        rw [hk']; rfl
      apply htail x
      rw [hk.take_want, hA, List.cons_append, List.tail_cons]
      exact List.mem_append_right _ hx
    have hr : r.closed = [] := by
      by_cases hw : want + 1 - k = 0
      · simp only [r]; rw [hw]; simp [recvAll]
      · have hh : ((rest.head?.map (·.fds)).getD []) = [] := by
          cases hrest' : rest with
          | nil => simp
          | cons x xs =>
            obtain ⟨m, hm⟩ := Nat.exists_eq_succ_of_ne_zero hw
            simp [hrest x (by rw [hrest', hm]; simp)]
        have := ih (fun x hx => hrest x (List.mem_of_mem_tail hx)) (by rw [hh]; simp) (by omega)
        simp only [hh, Bool.false_eq_true, if_false] at this
        exact this.1
    simp only [List.head?_cons, Option.map_some, Option.getD_some]
    refine ⟨?_, ?_⟩
    · show (if first then [] else cf) ++ r.closed = _
      rw [hr, hcf]; cases first <;> simp
    · intro hf
      show (if first then cf else r.fds) = _
      rw [hf, hcf]; simp

theorem recvAll_fds_first {σ : Type} (ch : Chooser σ) (cap : Nat) (cl : Bool) :
    ∀ (want : Nat) (st : σ) (s : List Cell) (first : Bool), (∀ c ∈ s.tail, c.fds = []) →
      ((s.head?.map (·.fds)).getD []).length ≤ cap → 0 < want →
      (recvAll ch cap cl want st s first).closed = (if first then [] else (s.head?.map (·.fds)).getD []) ∧
      (first = true → (recvAll ch cap cl want st s first).fds = (s.head?.map (·.fds)).getD []) :=
  fun want st s first htail =>
    recvAll_fds_of_read ch cap cl want st s first fun c hc => htail c (mem_tail_of_mem_tail_take hc)

/-- `recv_data`, reassembly and truncation: with no descriptor riding on the first `want` cells, exactly those are returned;
`full` iff there were `want` of them, otherwise `short` on a closed stream (the caller turns it into an error), waiting on
an open one -/
theorem recvData_prefix {σ : Type} (ch : Chooser σ) (cl : Bool) :
    ∀ (want : Nat) (st : σ) (s : List Cell), (∀ c ∈ s.take want, c.fds = []) →
      (recvData ch cl want st s).bytes = (s.take want).map (·.b) ∧
      (recvData ch cl want st s).rest = s.drop want ∧
      (recvData ch cl want st s).lost = [] ∧
      (recvData ch cl want st s).outcome = (if want ≤ s.length then .full else if cl then .short else .blocked) := by
  intro want st s
  fun_induction recvData ch cl want st s with
  | case1 st s => intro _; simp
  | case2 n st => intro _; simp
  | case3 want st c s k0 st' hnext k chunk rest cf hne =>
    intro hfd
    refine absurd (List.flatMap_eq_nil_iff.2 fun x hx => hfd x ?_) hne
    rw [(Chunk.clamp k0 want c s).take_want]
    exact List.mem_append_left _ hx
  | case4 want st c s k0 st' hnext k chunk rest cf he r ih =>
    intro hfd
    have hk : Chunk (want + 1) (c :: s) k := Chunk.clamp k0 want c s
    obtain ⟨b1, b2, b3, b4⟩ := ih fun x hx => hfd x (by rw [hk.take_want]; exact List.mem_append_right _ hx)
    refine ⟨?_, ?_, b3, ?_⟩
    · show chunk.map (·.b) ++ r.bytes = _
      rw [b1, hk.take_want, List.map_append]
    · show r.rest = _
      rw [b2, hk.drop_want]
    · show r.outcome = _
      rw [b4]; simp only [rest, hk.le_drop_iff]

/-- `recv_data`: with the bytes present and no descriptor riding on them, exactly those bytes are returned -/
theorem recvData_complete {σ : Type} (ch : Chooser σ) (cl : Bool) :
    ∀ (want : Nat) (st : σ) (s : List Cell), want ≤ s.length → (∀ c ∈ s.take want, c.fds = []) →
      (recvData ch cl want st s).bytes = (s.take want).map (·.b) ∧
      (recvData ch cl want st s).rest = s.drop want ∧
      (recvData ch cl want st s).lost = [] ∧
      (recvData ch cl want st s).outcome = .full := by
  intro want st s h hfd
  simpa only [if_pos h] using recvData_prefix ch cl want st s hfd

/-- the model's outcome against the number of bytes delivered -/
theorem recvData_outcome_len {σ : Type} (ch : Chooser σ) (cl : Bool) :
    ∀ (want : Nat) (st : σ) (s : List Cell),
      ((recvData ch cl want st s).outcome = .full → (recvData ch cl want st s).bytes.length = want) ∧
      ((recvData ch cl want st s).outcome = .short → (recvData ch cl want st s).bytes.length < want) := by
  intro want st s
  fun_induction recvData ch cl want st s with
  | case1 st s => simp
  | case2 n st => cases cl <;> simp
  | case3 want st c s k0 st' hnext k chunk rest cf hne => simp
  | case4 want st c s k0 st' hnext k chunk rest cf he r ih =>
    have hk : Chunk (want + 1) (c :: s) k := Chunk.clamp k0 want c s
    have hk2 := hk.le_want
    simp only [List.length_append, List.length_map, chunk, hk.length_take, r]
    constructor
    · intro h; have := ih.1 h; omega
    · intro h; have := ih.2 h; omega

/-- a closed stream never makes `recv_data` wait -/
theorem recvData_closed_not_blocked {σ : Type} (ch : Chooser σ) :
    ∀ (want : Nat) (st : σ) (s : List Cell), (recvData ch true want st s).outcome ≠ .blocked := by
  intro want st s
  fun_induction recvData ch true want st s with
  | case1 st s => simp
  | case2 n st => simp
  | case3 want st c s k0 st' hnext k chunk rest cf hne => simp
  | case4 want st c s k0 st' hnext k chunk rest cf he r ih => exact ih

/-- descriptors of later reads are never handed to the caller (`if data_read == 0 { rfds = fds }`) -/
theorem recvAll_fds_nil_of_not_first {σ : Type} (ch : Chooser σ) (cap : Nat) (cl : Bool) :
    ∀ (want : Nat) (st : σ) (s : List Cell) (first : Bool), first = false → (recvAll ch cap cl want st s first).fds = [] := by
  intro want st s first
  fun_induction recvAll ch cap cl want st s first with
  | case1 first st s => intro _; rfl
  | case2 first n st => intro _; rfl
  | case3 want st c s first k0 st' hnext k chunk rest cf hgt r ih => intro h; exact ih h
  | case4 want st c s first k0 st' hnext k chunk rest cf hle r ih => intro h; subst h; exact ih rfl

end Lemmas.Stream
