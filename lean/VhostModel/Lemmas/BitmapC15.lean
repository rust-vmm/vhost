import VhostModel.Lemmas.Bitmap
/-! helper lemmas for `Props.C15` (arithmetic cores, membership characterisations, list lemmas) -/
namespace Lemmas.BitmapC15
open Model.Bitmap Lemmas.Bitmap
open Spec.DirtyLog (Region touched covers LoggedExactly)

theorem satAdd_eq_min (a b : Nat) : satAdd a b = min (a + b) usizeMax := by
  unfold satAdd; split <;> omega

theorem new_eq_some_iff (start len logLen : Nat) (bm : AtomicBitmapMmap) :
    AtomicBitmapMmap.new start len logLen = some bm ↔
      (0 < len ∧ start + (len - 1) ≤ usizeMax ∧ (start + (len - 1)) / 4096 / 8 < logLen ∧
       bm = { logLen := logLen, pagesBeforeRegion := start / 4096, numberOfPages := len / 4096 }) := by
  unfold AtomicBitmapMmap.new checkedAdd pageWord pageNumber logPageSize logWordSize
  by_cases h0 : len = 0
  · simp [h0]
  · by_cases h1 : start + (len - 1) ≤ usizeMax
    · by_cases h2 : (start + (len - 1)) / 4096 / 8 ≥ logLen
      · simp [h0, h1, h2]; omega
      · simp [h0, h1, h2]
        exact ⟨fun h => ⟨by omega, by omega, h.symm⟩, fun h => h.2.2.symm⟩
    · simp [h0, h1]

theorem accept_region_iff (r : Region) (logLen : Nat) (hsz : 0 < r.size) (hfit : r.gpa + r.size - 1 ≤ usizeMax) :
    (AtomicBitmapMmap.new r.gpa r.size logLen).isSome = true ↔ covers logLen r := by
  have e : r.gpa + (r.size - 1) = r.gpa + r.size - 1 := by omega
  simp only [Option.isSome_iff_exists, new_eq_some_iff, covers, Region.lastPage, Spec.DirtyLog.pageSize, e]
  exact ⟨fun ⟨_, _, _, h, _⟩ => h, fun h => ⟨_, hsz, hfit, h, rfl⟩⟩

/-- the steps of `mark_dirty` through a (sliced) region bitmap whose inner bitmap is `bm`: none if `base + offset`
overflows, else one per region-relative page `p` of the window below `numberOfPages`, for absolute page
`pagesBeforeRegion + p` -/
theorem mem_region_markSteps (bm : AtomicBitmapMmap) (base offset len : Nat) (s : Step) :
    s ∈ ({ inner := some bm, base := base } : BitmapMmapRegion).markSteps offset len ↔
      ∃ p, (base + offset ≤ usizeMax ∧ 0 < len ∧ (base + offset) / 4096 ≤ p ∧
          p ≤ satAdd (base + offset) (len - 1) / 4096 ∧ p < bm.numberOfPages) ∧
        s = stepOf (bm.pagesBeforeRegion + p) := by
  simp only [BitmapMmapRegion.markSteps, checkedAdd, AtomicBitmapMmap.markSteps, pageNumber, logPageSize]
  by_cases h : base + offset ≤ usizeMax
  · by_cases h0 : len = 0
    · simp [h, h0]
    · simp only [h, h0, if_true, if_false, mem_markLoop, true_and]
      constructor
      · rintro ⟨p, h1, h2, h3, h4⟩; exact ⟨p, ⟨by omega, h1, by omega, h3⟩, h4⟩
      · rintro ⟨p, ⟨_, h1, h2, h3⟩, h4⟩; exact ⟨p, h1, by omega, h3, h4⟩
  · simp [h]

/-- a chain of `slice_at` calls keeps the inner bitmap and adds up the offsets, saturating -/
theorem slices_eq (inner : Option AtomicBitmapMmap) (base : Nat) (sl : List Nat) (hb : base ≤ usizeMax) :
    ({ inner := inner, base := base } : BitmapMmapRegion).slices sl =
      { inner := inner, base := min (base + sl.sum) usizeMax } := by
  induction sl generalizing base with
  | nil => simp [BitmapMmapRegion.slices, Nat.min_eq_left hb]
  | cons o os ih =>
    simp only [BitmapMmapRegion.slices, BitmapMmapRegion.sliceAt, List.sum_cons, satAdd_eq_min]
    rw [ih _ (Nat.min_le_right _ _)]
    congr 1; omega

/-- arithmetic core of `mark_exact`: the window of region-relative pages that `mark_dirty` walks through a slice whose
base is the saturated sum `min S usizeMax`, shifted to absolute pages, is the set of touched pages inside the region -/
theorem marked_iff_touched (start size S offset len P : Nat) (h1 : start % 4096 = 0) (h2 : size % 4096 = 0)
    (h3 : 0 < size) (hfit : start + (size - 1) ≤ usizeMax) (hsz : size ≤ usizeMax) :
    (∃ p, (min S usizeMax + offset ≤ usizeMax ∧ 0 < len ∧ (min S usizeMax + offset) / 4096 ≤ p ∧
        p ≤ satAdd (min S usizeMax + offset) (len - 1) / 4096 ∧ p < size / 4096) ∧ start / 4096 + p = P) ↔
    (touched (start + S + offset) len P ∧ (⟨start, size⟩ : Region).hasPage P) := by
  simp only [touched, Region.hasPage, Spec.DirtyLog.firstPage, Spec.DirtyLog.lastPage, Spec.DirtyLog.pageSize,
    satAdd_eq_min, usizeMax] at *
  by_cases hov : S + offset ≤ 2 ^ 64 - 1
  · -- no overflow: the slice's base is the true one
    simp only [Nat.min_eq_left (show S ≤ 2 ^ 64 - 1 by omega)]
    constructor
    · rintro ⟨p, ⟨_, h5, h6, h7, h8⟩, rfl⟩; omega
    · rintro ⟨⟨h5, h6, h7⟩, h8, h9⟩
      exact ⟨P - start / 4096, ⟨hov, h5, by omega, by omega, by omega⟩, by omega⟩
  · -- the true offset does not fit `usize`: nothing is marked, nothing in the region is touched
    constructor
    · rintro ⟨p, ⟨h, _, h6, _, h8⟩, _⟩; omega
    · rintro ⟨⟨_, h6, _⟩, _, h9⟩; omega

theorem arith_bounds (start size logLen p : Nat) (h : (start + (size - 1)) / 4096 / 8 < logLen) (hp : p < size / 4096) :
    (start / 4096 + p) / 8 < logLen := by
  omega

/-- an interleaving contains exactly the steps of the writers -/
theorem interleave_mem (ws : List (List Step)) (tr : List Step) (h : Interleave ws tr) (t : Step) :
    t ∈ tr ↔ ∃ w ∈ ws, t ∈ w := by
  induction h with
  | done ws hall =>
    simp only [List.not_mem_nil, false_iff]
    rintro ⟨w, hw, ht⟩
    rw [hall w hw] at ht; cases ht
  | pick ws i s rest tr hi _ ih =>
    obtain ⟨hil, hwi⟩ := List.getElem?_eq_some_iff.1 hi
    have hmem : s :: rest ∈ ws := hwi ▸ List.getElem_mem hil
    simp only [List.mem_cons, ih]
    constructor
    · rintro (rfl | ⟨w, hw, ht⟩)
      · exact ⟨_, hmem, List.mem_cons_self⟩
      · rcases List.mem_or_eq_of_mem_set hw with hw | rfl
        · exact ⟨w, hw, ht⟩
        · exact ⟨_, hmem, List.mem_cons_of_mem _ ht⟩
    · rintro ⟨w, hw, ht⟩
      obtain ⟨j, hj, rfl⟩ := List.getElem_of_mem hw
      by_cases hji : i = j
      · subst hji
        rw [hwi] at ht
        rcases List.mem_cons.1 ht with rfl | ht
        · exact Or.inl rfl
        · exact Or.inr ⟨rest, List.mem_set hil rest, ht⟩
      · refine Or.inr ⟨ws[j], ?_, ht⟩
        rw [← List.getElem_set_ne hji (by simpa using hj)]
        exact List.getElem_mem _

theorem buildAll_isSome_iff (logLen : Nat) (rs : List Reg) :
    (buildAll logLen rs).isSome = true ↔ ∀ r ∈ rs, (AtomicBitmapMmap.new r.start r.len logLen).isSome = true := by
  induction rs with
  | nil => simp [buildAll]
  | cons r rs ih =>
    unfold buildAll
    cases h : AtomicBitmapMmap.new r.start r.len logLen with
    | none => simp [h]
    | some bm => simp [h, ih]

theorem buildAll_zip (logLen id : Nat) (rs : List Reg) (bms : List AtomicBitmapMmap) (h : buildAll logLen rs = some bms) :
    ∀ r' ∈ (rs.zip bms).map (fun (r, bm) => ({ r with bitmap := some (id, bm) } : Reg)),
      ∃ bm, r'.bitmap = some (id, bm) ∧ AtomicBitmapMmap.new r'.start r'.len logLen = some bm := by
  induction rs generalizing bms with
  | nil => simp
  | cons r rs ih =>
    unfold buildAll at h
    cases hn : AtomicBitmapMmap.new r.start r.len logLen with
    | none => simp [hn] at h
    | some bm =>
      simp only [hn] at h
      cases hb : buildAll logLen rs with
      | none => simp [hb] at h
      | some bms' =>
        simp [hb] at h; subst h
        intro r' hr'
        simp only [List.zip_cons_cons, List.map_cons, List.mem_cons] at hr'
        rcases hr' with rfl | hr'
        · exact ⟨bm, rfl, hn⟩
        · exact ih bms' hb r' hr'

theorem mapOpt_mem {α β : Type} (f : α → Option β) (xs : List α) (ys : List β) (h : mapOpt f xs = some ys) :
    ∀ y ∈ ys, ∃ x ∈ xs, f x = some y := by
  induction xs generalizing ys with
  | nil => simp [mapOpt] at h; subst h; simp
  | cons x xs ih =>
    unfold mapOpt at h
    cases hf : f x with
    | none => simp [hf] at h
    | some b =>
      simp only [hf] at h
      cases hm : mapOpt f xs with
      | none => simp [hm] at h
      | some bs =>
        simp [hm] at h; subst h
        intro y hy
        rcases List.mem_cons.1 hy with rfl | hy
        · exact ⟨x, by simp, hf⟩
        · obtain ⟨x', hx', e⟩ := ih bs hm y hy
          exact ⟨x', by simp [hx'], e⟩

theorem logRegion_inv (s : HState) (a l : Nat) (r : Reg) (h : logRegion s a l = some r) :
    ∀ id logLen, s.logmem = some (id, logLen) →
      ∃ bm, r.bitmap = some (id, bm) ∧ AtomicBitmapMmap.new r.start r.len logLen = some bm := by
  intro id logLen hl
  unfold logRegion at h
  rw [hl] at h
  simp only at h
  cases hn : AtomicBitmapMmap.new a l logLen with
  | none => simp [hn] at h
  | some bm => simp [hn] at h; subst h; exact ⟨bm, rfl, hn⟩

theorem mem_insertSorted (r x : Reg) (rs : List Reg) : x ∈ insertSorted r rs ↔ x = r ∨ x ∈ rs := by
  induction rs with
  | nil => simp [insertSorted]
  | cons y ys ih =>
    unfold insertSorted
    split
    · simp
    · simp [ih]; constructor
      · rintro (h | h | h) <;> simp [h]
      · rintro (h | h | h) <;> simp [h]

theorem run_append (stp : HState → Op → Option HState) (s : HState) (a b : List Op) :
    run stp s (a ++ b) = run stp (run stp s a) b := by
  induction a generalizing s with
  | nil => rfl
  | cons op ops ih =>
    simp only [List.cons_append, run]
    cases stp s op <;> exact ih _

end Lemmas.BitmapC15
