import VhostModel.Model.Frontend
import VhostModel.Lemmas.HelpersBase
import VhostModel.Lemmas.ConnFrameRecv
import VhostModel.Lemmas.ConnData
import VhostModel.Lemmas.BackendChannel
import VhostModel.Gen.FeRecv
import VhostModel.Gen.Consts

/-!
# Basics for `Props.FeRecv`

* `stdEnv`: the environment in which the generated terms of `Gen/FeRecv.lean` are interpreted — header size 12 and the
  generated header validator (`Model.Frontend.hdrValid`), `size_of::<T>()` from the generated layout, `T::is_valid` from
  the generated validators (`Model.Frontend.bodyValidTy`), struct fields read through the generated layout
  (`Model.Frontend.g`), the values of `enum FrontendReq`, the generated errno classification;
* `so_*`: `size_of::<T>()` of the reply types;
* `recvH`: `Model.Frontend.recv` as a function of the request *header* (the only thing the source's readers see of the
  request);
* `errMap`: the errors of the source as the model's.
-/
namespace Lemmas.FeRecv
open Imp ImpFe
open Base (leVal)
open Model.Stream (Cell Chooser recvAll recvData RecvAll RecvData)
open Model.Msgs (fieldAt getField)
open Lemmas.Layouts
open Model.Frontend (FSt Req ReplyKind Reply RecvRes RecvOut parseHdr hdrValid sizeOfTy bodyValidTy isReplyFor recvBody recv reqHdr u64)
open Model.BackendSrv (Hdr bitSet Err)

/-- the environment of the frontend: `H = VhostUserMsgHeader<FrontendReq>` -/
def stdEnv {σ : Type} (ch : Chooser σ) (cl : Bool) : FEnv σ where
  base := { ch := ch, isClosed := cl, classify := Gen.ConnLoops.classify, sizeH := 12, validH := hdrValid,
            maxMsg := Gen.Consts.MAX_MSG_SIZE }
  tySize := fun T => (sizeOfTy T).getD 0
  tyValid := fun T b => bodyValidTy T b == some true
  fieldVal := Model.Frontend.g
  codes := Gen.Codes.FrontendReq.table.map (·.2)

theorem std_classify {σ : Type} (ch : Chooser σ) (cl : Bool) (T : String) :
    ((stdEnv ch cl).conn T).classify ENOBUFS = .retry := by
  show Gen.ConnLoops.classify ENOBUFS = .retry
  decide

/-- `vhost_user::Error` as the model's `Err`; the errno inside a socket error is forgotten -/
def errMap : FErr → Model.BackendSrv.Err
  | .conn .partialMessage => .partialMsg
  | .conn .invalidMessage => .invalidMsg
  | .conn .oversizedMsg => .oversized
  | .conn .incorrectFds => .incorrectFds
  | .conn .disconnected => .disconnected
  | .conn (.sock .retry _) => .sockRetry
  | .conn (.sock .broken _) => .sockBroken
  | .conn (.sock _ _) => .sockError
  | .conn (.errno _) => .other
  | .invalidParam => .invalidParam
  | .backendInternalError => .backendInternal
  | .inactiveFeature _ => .inactiveFeature
  | .inactiveOperation _ => .inactiveOperation

/-- `size_of::<T>()` of the reply types -/
theorem so_U64 : sizeOfTy "VhostUserU64" = some 8 := lay_u64.1
theorem so_VringState : sizeOfTy "VhostUserVringState" = some 8 := lay_vstate.1
theorem so_Log : sizeOfTy "VhostUserLog" = some 16 := lay_log.1
theorem so_ShMem : sizeOfTy "VhostUserShMemConfig" = some 2056 := by decide +kernel
theorem so_Empty : sizeOfTy "VhostUserEmpty" = some 0 := by decide +kernel
theorem so_Inflight : sizeOfTy "VhostUserInflight" = some 24 := lay_inflight.1
theorem so_Config : sizeOfTy "VhostUserConfig" = some 12 := lay_config.1

theorem g_hdr (hb : Bytes) (h : hb.length = 12) :
    Model.Frontend.g hb "VhostUserMsgHeader" ["request"] = (parseHdr hb).code ∧
    Model.Frontend.g hb "VhostUserMsgHeader" ["flags"] = (parseHdr hb).flags ∧
    Model.Frontend.g hb "VhostUserMsgHeader" ["size"] = (parseHdr hb).size := by
  simp [Model.Frontend.g, getField, fieldAt, layout_hdr, h, parseHdr]

theorem g_u64_value (b : Bytes) (h : b.length = 8) : Model.Frontend.g b "VhostUserU64" ["value"] = leVal b := by
  simp [Model.Frontend.g, getField, fieldAt, layout_u64, h]
  rw [List.take_of_length_le (by omega)]

theorem eq_dec (x y : Nat) : decide (x = y) = (x == y) := by
  cases h : x == y <;> simp_all

theorem ne_zero_dec (x : Nat) : decide (x ≠ 0) = (x != 0) := by
  cases h : x != 0 <;> simp_all

/-! ## `Model.Frontend.recv` by the request header -/

/-- `Model.Frontend.recv` with the request header, the acknowledged protocol features and the reader as arguments -/
def recvH {σ : Type} (ch : Chooser σ) (isClosed : Bool) (ackedProto : Nat) (rh : Hdr) (kind : ReplyKind) (cst : σ) (str : List Cell) :
    RecvOut σ :=
  match kind with
  | .noWait => ⟨.ok ⟨rh, [], [], none⟩, str, cst, []⟩
  | .ack =>
    if !bitSet ackedProto 3 || !rh.needReply then ⟨.ok ⟨rh, u64 0, [], none⟩, str, cst, []⟩
    else
      let o := recvBody ch isClosed "VhostUserU64" cst str
      match o.res with
      | .ok r =>
        if !isReplyFor r.hdr rh || r.files.isSome then ⟨.err .invalidMsg, o.rest, o.cst, o.closed ++ r.files.getD []⟩
        else if leVal r.body != 0 then ⟨.err .backendInternal, o.rest, o.cst, o.closed⟩
        else o
      | _ => o
  | .body ty =>
    if rh.isReply then ⟨.err .invalidParam, str, cst, []⟩ else
    let o := recvBody ch isClosed ty cst str
    match o.res with
    | .ok r =>
      if !isReplyFor r.hdr rh || r.files.isSome then ⟨.err .invalidMsg, o.rest, o.cst, o.closed ++ r.files.getD []⟩ else o
    | _ => o
  | .bodyOptFiles ty =>
    if rh.isReply then ⟨.err .invalidParam, str, cst, []⟩ else
    let o := recvBody ch isClosed ty cst str
    match o.res with
    | .ok r => if !isReplyFor r.hdr rh then ⟨.err .invalidMsg, o.rest, o.cst, o.closed ++ r.files.getD []⟩ else o
    | _ => o
  | .bodyFiles ty =>
    if rh.isReply then ⟨.err .invalidParam, str, cst, []⟩ else
    let o := recvBody ch isClosed ty cst str
    match o.res with
    | .ok r =>
      if !isReplyFor r.hdr rh then ⟨.err .invalidMsg, o.rest, o.cst, o.closed ++ r.files.getD []⟩
      else if r.files.isNone then ⟨.err .invalidMsg, o.rest, o.cst, o.closed⟩ else o
    | _ => o
  | .payload ty =>
    match sizeOfTy ty with
    | none => ⟨.err .other, str, cst, []⟩
    | some n =>
      if rh.size ≤ n || rh.size > 0x1000 || rh.isReply then ⟨.err .invalidParam, str, cst, []⟩ else
      let o := recvBody ch isClosed ty cst str
      match o.res with
      | .ok r =>
        if !isReplyFor r.hdr rh || r.files.isSome then ⟨.err .invalidMsg, o.rest, o.cst, o.closed ++ r.files.getD []⟩
        else if r.hdr.size < n then ⟨.err .invalidMsg, o.rest, o.cst, o.closed⟩
        else if r.hdr.size - n > rh.size - n then ⟨.err .invalidMsg, o.rest, o.cst, o.closed⟩
        else
          let d := recvData ch isClosed (r.hdr.size - n) o.cst o.rest
          match d.outcome with
          | .blocked => ⟨.blocked, d.rest, d.st, o.closed⟩
          | .enobufs => ⟨.err .sockRetry, d.rest, d.st, o.closed ++ d.lost⟩
          | .short => ⟨.err .partialMsg, d.rest, d.st, o.closed⟩
          | .full => ⟨.ok { r with payload := d.bytes }, d.rest, d.st, o.closed⟩
      | _ => o

/-- the readers of the model see of the state and the request exactly: `acked_protocol_features`, the request header,
the reader kind -/
theorem recv_eq_recvH {σ : Type} (ch : Chooser σ) (cl : Bool) (s : FSt) (req : Req) (cst : σ) (str : List Cell) :
    recv ch cl s req cst str = recvH ch cl s.ackedProto (reqHdr s req) req.kind cst str := rfl

end Lemmas.FeRecv
