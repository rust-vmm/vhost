import VhostModel.Lemmas.RingReg
/-! Abstraction from `Model.RingReg` to `Spec.RingAutomaton` and the commuting-step lemmas (used by Props/C11). -/
namespace Lemmas.RingReg
open Model.RingReg
open Spec.RingAutomaton (Evt Msg upd Ring)

def absRing (v : VRing) : Ring := ⟨v.ready, v.enabled, v.kick, v.call⟩

/-- the automaton state a model state stands for: started = `queue.ready`, negotiated = bit 30 of the handler's
acknowledged features, pending kicks = eventfd counters -/
def abs (s : St) : Spec.RingAutomaton.St :=
  { n := s.n, base := s.base, nego := s.ackedH, ring := fun r => absRing (s.ring r), pending := s.cnt,
    peerOpen := s.peerOpen, next := s.next }

def absReply : Reply → Option Spec.RingAutomaton.Reply
  | .ok => some .ok
  | .base r v => some (.base r v)
  | .noReply => some .noReply
  | .fail => none
  | .closed => none

theorem abs_of_sameBut {t s : St} (h : SameBut t s) : abs t = abs s := by
  simp only [abs, h.n, h.base, h.ackedH, h.ring, h.cnt, h.peerOpen, h.next]

theorem abs_setRing (s : St) (r : Nat) (v : VRing) :
    abs (setRing s r v) = Spec.RingAutomaton.setRing (abs s) r (absRing v) := by
  simp only [abs, setRing, Spec.RingAutomaton.setRing]
  congr 1
  funext j
  unfold upd
  split <;> rfl

theorem refines_of_same {s u : St} {r : Nat} {v : VRing} (h : SameBut u (setRing s r v)) (hc : s.conn = true) :
    abs u = Spec.RingAutomaton.setRing (abs s) r (absRing v) ∧ u.conn = true :=
  ⟨(abs_of_sameBut h).trans (abs_setRing s r v), h.conn.trans hc⟩

theorem refines_setAll (on : Bool) (s : St) (hc : s.conn = true) :
    abs (setAll on s s.n) =
      { abs s with ring := fun r => if r < s.n then { (abs s).ring r with enabled := on } else (abs s).ring r } ∧
    (setAll on s s.n).conn = true := by
  have h := setAll_same on s s.n
  refine ⟨(abs_of_sameBut h).trans ?_, h.conn.trans hc⟩
  simp only [abs]
  congr 1
  funext r
  split <;> rfl

/-- the control effect of one event commutes with the abstraction (inside the protocol's domain) -/
theorem control_refines {s : St} (h : Inv s) (hc : s.conn = true) (m : Msg)
    (t : Spec.RingAutomaton.St) (rep : Spec.RingAutomaton.Reply)
    (hs : Spec.RingAutomaton.control (abs s) m = some (t, rep)) :
    abs (Model.RingReg.control s m).1 = t ∧ absReply (Model.RingReg.control s m).2 = some rep ∧
      (Model.RingReg.control s m).1.conn = true := by
  have hg : ¬ (isControl m && !s.conn) = true := by simp [hc]
  unfold Model.RingReg.control
  rw [if_neg hg]
  cases m with
  | setFeatures proto =>
    cases hs
    cases proto with
    | true => exact ⟨rfl, rfl, hc⟩
    | false =>
      obtain ⟨h1, h2⟩ := refines_setAll true { s with ackedH := false, ackedC := false } hc
      refine ⟨h1.trans ?_, rfl, h2⟩
      simp only [abs]
      congr 1
      funext r
      by_cases hr : r < s.n <;> simp [hr]
  | reset =>
    cases hs
    obtain ⟨h1, h2⟩ := refines_setAll false s hc
    exact ⟨congrArg (fun a => { a with nego := false }) h1, rfl, h2⟩
  | guestKick d =>
    cases hs
    refine ⟨?_, rfl, ?_⟩
    · show abs (if d < s.next ∧ s.peerOpen d = true then _ else s) =
        if d < s.next ∧ s.peerOpen d = true then _ else abs s
      split <;> rfl
    · show (if d < s.next ∧ s.peerOpen d = true then _ else s).conn = true
      split <;> exact hc
  | peerClose d =>
    cases hs
    dsimp only
    split <;> exact ⟨rfl, rfl, hc⟩
  | setEnable r on =>
    simp only [Spec.RingAutomaton.control] at hs
    split at hs
    · rename_i hd
      cases hs
      have hH : s.ackedH = true := hd.2
      have hn : r < s.n := hd.1
      simp only [setVringEnable, hH, h.acked hH, hn, Bool.not_true, Bool.false_eq_true, if_false, if_true]
      obtain ⟨h1, h2⟩ := refines_of_same (setEnabled_same s r on) hc
      exact ⟨h1, rfl, h2⟩
    · cases hs
  | getBase r =>
    simp only [Spec.RingAutomaton.control] at hs
    split at hs
    · rename_i hn
      cases hs
      have hn : r < s.n := hn
      simp only [getVringBase, hn, if_true]
      obtain ⟨h1, h2⟩ := refines_of_same (stopRing_same s r) hc
      exact ⟨h1, rfl, h2⟩
    · cases hs
  | setCall r fd =>
    simp only [Spec.RingAutomaton.control] at hs
    split at hs
    · rename_i hn
      dsimp only
      rw [(setVringCall_eq_inv h r fd hn).1]
      cases fd <;> cases hs <;> exact ⟨abs_setRing .., rfl, hc⟩
    · cases hs
  | setKick r fd =>
    simp only [Spec.RingAutomaton.control] at hs
    split at hs
    · rename_i hn
      have hn : r < s.n := hn
      simp only [setVringKick]
      rw [if_pos (by rw [recv_n]; exact hn)]
      cases fd with
      | true =>
        cases hs
        obtain ⟨h1, h2⟩ := refines_of_same (installKick_same (alloc s) r (some s.next) h.repaired) hc
        exact ⟨h1.trans (by simp only [absRing, Option.isSome_some, Bool.or_true]; rfl), rfl, h2⟩
      | false =>
        cases hs
        obtain ⟨h1, h2⟩ := refines_of_same (installKick_same s r none h.repaired) hc
        exact ⟨h1.trans (by simp only [absRing, Option.isSome_none, Bool.or_false]; rfl), rfl, h2⟩
    · cases hs


theorem mem_batch_snd {c : St} (h : Inv c) (r : Nat) :
    r ∈ (batch c).map Prod.snd ↔ ∃ d, c.reg d = some r ∧ 0 < c.cnt d := by
  constructor
  · intro hm
    obtain ⟨⟨e, r'⟩, hp, rfl⟩ := List.mem_map.1 hm
    exact ⟨e, (h.mem_batch e r').1 hp⟩
  · rintro ⟨d, hd⟩
    exact List.mem_map.2 ⟨(d, r), (h.mem_batch d r).2 hd, rfl⟩

theorem due_iff {c : St} (h : Inv c) (r : Nat) :
    Spec.RingAutomaton.due (abs c) r = true ↔ ∃ d, c.reg d = some r ∧ 0 < c.cnt d := by
  unfold Spec.RingAutomaton.due Spec.RingAutomaton.St.active
  simp only [abs, absRing, Bool.and_eq_true]
  constructor
  · rintro ⟨⟨⟨h1, h2⟩, h3⟩, h4⟩
    cases hk : (c.ring r).kick with
    | none => simp [hk] at h4
    | some d =>
      simp only [hk] at h4
      exact ⟨d, (h.reg.reg_iff d r).2 ⟨of_decide_eq_true h1, hk, h2, h3⟩, of_decide_eq_true h4⟩
  · rintro ⟨d, hd, hc⟩
    have hcond := (h.reg.reg_iff d r).1 hd
    refine ⟨⟨⟨decide_eq_true hcond.1, hcond.2.2.1⟩, hcond.2.2.2⟩, ?_⟩
    simp [hcond.2.1, hc]

/-- the worker's drain is the automaton's delivery -/
theorem deliver_refines {c : St} (h : Inv c) {f : Nat} (hf : f ≠ 0) :
    abs (quiesce f c).1 = (Spec.RingAutomaton.deliver (abs c)).1 ∧
    (∀ r, r ∈ (quiesce f c).2 ↔ r ∈ (Spec.RingAutomaton.deliver (abs c)).2) ∧
    (quiesce f c).2.Nodup := by
  rw [quiesce_spec h hf]
  have hrs : ∀ r, r ∈ (List.range (abs c).n).filter (Spec.RingAutomaton.due (abs c)) ↔
      ∃ d, c.reg d = some r ∧ 0 < c.cnt d := by
    intro r
    rw [List.mem_filter, List.mem_range, due_iff h]
    constructor
    · exact fun h' => h'.2
    · rintro ⟨d, hd, hc⟩
      exact ⟨((h.reg.reg_iff d r).1 hd).1, d, hd, hc⟩
  refine ⟨?_, ?_, ?_⟩
  · simp only [Spec.RingAutomaton.deliver]
    refine congrArg (fun p => ({ abs c with pending := p } : Spec.RingAutomaton.St)) (funext fun d => ?_)
    show (if (c.reg d).isSome then 0 else c.cnt d) = _
    by_cases hany : ((List.range (abs c).n).filter (Spec.RingAutomaton.due (abs c))).any
        (fun r => ((abs c).ring r).kick == some d) = true
    · rw [if_pos hany]
      obtain ⟨r, hr, hk⟩ := List.any_eq_true.1 hany
      obtain ⟨d', hd', _⟩ := (hrs r).1 hr
      have hk' : (c.ring r).kick = some d := by simpa [abs, absRing] using hk
      have hc' := (h.reg.reg_iff d' r).1 hd'
      have : d' = d := by
        have := hc'.2.1; rw [hk'] at this; exact (Option.some.inj this).symm
      subst this
      simp [hd']
    · rw [if_neg hany]
      show _ = c.cnt d
      cases hreg : c.reg d with
      | none => simp
      | some r =>
        simp only [Option.isSome_some, if_true]
        cases hcnt : c.cnt d with
        | zero => rfl
        | succ k =>
          exfalso
          apply hany
          apply List.any_eq_true.2
          refine ⟨r, (hrs r).2 ⟨d, hreg, by omega⟩, ?_⟩
          have hc' := (h.reg.reg_iff d r).1 hreg
          simp [abs, absRing, hc'.2.1]
  · intro r
    simp only [Spec.RingAutomaton.deliver]
    rw [hrs, mem_batch_snd h]
  · -- two entries of a batch have different descriptors, and a ring is registered at its one kick descriptor
    have := batch_fst_nodup c
    rw [List.Nodup, List.pairwise_map] at this ⊢
    refine this.imp_of_mem ?_
    intro (e1, r1) (e2, r2) hp hq hne hr
    have h1 := (h.reg.reg_iff e1 r1).1 ((h.mem_batch e1 r1).1 hp).1
    have h2 := (h.reg.reg_iff e2 r2).1 ((h.mem_batch e2 r2).1 hq).1
    cases (show r1 = r2 from hr)
    exact hne (Option.some.inj (h1.2.1.symm.trans h2.2.1))

theorem quiesce_inv {c : St} (h : Inv c) {f : Nat} (hf : f ≠ 0) : Inv (quiesce f c).1 := by
  rw [quiesce_spec h hf]
  exact h.congr rfl rfl rfl rfl rfl rfl h.acked

theorem quiesce_conn {c : St} (h : Inv c) {f : Nat} (hf : f ≠ 0) : (quiesce f c).1.conn = c.conn := by
  rw [quiesce_spec h hf]

theorem quiesce_quiet {c : St} (h : Inv c) {f : Nat} (hf : f ≠ 0) :
    ∀ e r, (quiesce f c).1.reg e = some r → (quiesce f c).1.cnt e = 0 := by
  rw [quiesce_spec h hf]
  intro e r he
  simp only at he ⊢
  simp [he]


/-! ## counters and rings across one event -/

/-- under the invariant: no event other than a guest kick touches a counter; a guest kick adds one -/
theorem control_cnt {s : St} (h : Inv s) (m : Msg) (d : Evt) :
    (Model.RingReg.control s m).1.cnt d =
      if m = .guestKick d ∧ d < s.next ∧ s.peerOpen d = true then s.cnt d + 1 else s.cnt d := by
  by_cases hm : m = .guestKick d
  · subst hm
    simp only [Model.RingReg.control, isControl, Bool.false_and, Bool.false_eq_true, if_false, true_and]
    split
    · exact upd_same ..
    · rfl
  · rw [if_neg (fun h' => hm h'.1)]
    unfold Model.RingReg.control
    split
    · split <;> rfl
    · cases m with
      | setFeatures proto =>
        cases proto with
        | true => rfl
        | false => exact congrFun (setAll_same ..).cnt d
      | reset => exact congrFun (setAll_same ..).cnt d
      | setEnable r on =>
        simp only [setVringEnable]
        split
        · rfl
        · split
          · rfl
          · split
            · exact congrFun (setEnabled_same ..).cnt d
            · rfl
      | getBase r =>
        simp only [getVringBase]
        split
        · exact congrFun (stopRing_same ..).cnt d
        · rfl
      | setCall r fd =>
        dsimp only
        by_cases hr : r < s.n
        · rw [(setVringCall_eq_inv h r fd hr).1]; exact congrFun (recv_cnt s fd) d
        · simp only [setVringCall]; rw [if_neg (by rw [recv_n]; exact hr)]; exact congrFun (recv_cnt s fd) d
      | setKick r fd =>
        simp only [setVringKick]
        by_cases hr : r < (if fd then alloc s else s).n
        · rw [if_pos hr]; exact congrFun ((installKick_same _ r _ (recv_inv h fd).repaired).cnt.trans (recv_cnt s fd)) d
        · rw [if_neg hr]; exact congrFun (recv_cnt s fd) d
      | guestKick d' =>
        dsimp only
        split
        · exact upd_other _ _ (fun h' => hm (h' ▸ rfl))
        · rfl
      | peerClose d' =>
        dsimp only
        split <;> rfl

/-- one step under the invariant, spelled out: the state after the event's control effect `c`, with the counter of
every registered descriptor consumed; handler calls = rings registered in `c` with a readable descriptor -/
theorem step_spec {s : St} (h : Inv s) (m : Msg) :
    let c := (Model.RingReg.control s m).1
    (step s m).1 = { c with cnt := fun d => if (c.reg d).isSome then 0 else c.cnt d } ∧
    (∀ r, r ∈ (step s m).2.dispatched ↔ ∃ d, c.reg d = some r ∧ 0 < c.cnt d) := by
  have hci := control_inv h m
  simp only [step]
  rw [quiesce_spec hci passes_ne_zero]
  exact ⟨rfl, fun r => mem_batch_snd hci r⟩

theorem step_inv {s : St} (h : Inv s) (m : Msg) : Inv (step s m).1 :=
  quiesce_inv (control_inv h m) passes_ne_zero

/-- no registered descriptor is readable -/
def Quiet (s : St) : Prop := ∀ e r, s.reg e = some r → s.cnt e = 0

theorem step_quiet {s : St} (h : Inv s) (m : Msg) : Quiet (step s m).1 :=
  quiesce_quiet (control_inv h m) passes_ne_zero

/-- `Inv` and `Quiet` hold along every run of the repaired model -/
theorem run_inv {s : St} (h : Inv s) (hq : Quiet s) (ms : List Msg) : Inv (run s ms).1 ∧ Quiet (run s ms).1 := by
  induction ms generalizing s with
  | nil => exact ⟨h, hq⟩
  | cons m ms ih => exact ih (step_inv h m) (step_quiet h m)

end Lemmas.RingReg
