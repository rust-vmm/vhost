/-!
# Base definitions shared by generated, model, spec and property files

Core Lean only (no Mathlib, no Std tactics that add axioms), so everything here can be linked into
the native drivers.
-/

namespace Base

/-! ## Rust integer helpers -/

/-- Rust `a.checked_add(b)` on `uN`. -/
def checkedAdd {n : Nat} (a b : BitVec n) : Option (BitVec n) :=
  if BitVec.uaddOverflow a b then none else some (a + b)

/-- `T::try_from(v).is_ok()` for an `enum_value!` enum whose table is `codes`. -/
def codeOk (codes : List (String × Nat)) (v : Nat) : Bool :=
  codes.any (fun p => p.2 == v)

/-- membership in a plain list of codes (used for the generic header parameter). -/
def codeOkN (codes : List Nat) (v : Nat) : Bool := codes.contains v

/-! ## C struct layout (the algorithm rustc applies for `repr(C)`, `repr(C, packed)`, `repr(transparent)`) -/

inductive FieldTy where
  | int (bytes : Nat)
  | arr (elem : FieldTy) (n : Nat)
  | struct (name : String)
  deriving Repr, DecidableEq, Inhabited

inductive ReprKind where
  | c | packed | transparent
  | union   -- C19: `#[repr(C)] union` (all members at offset 0); laid out by `Base.layoutK` (Base/Ioctl.lean)
  deriving Repr, DecidableEq, Inhabited

structure StructDef where
  name : String
  repr : ReprKind
  fields : List (String × FieldTy)
  deriving Repr, Inhabited

structure SizeAlign where
  size : Nat
  align : Nat
  deriving Repr, DecidableEq, Inhabited

def alignUp (x a : Nat) : Nat := if a = 0 then x else (x + a - 1) / a * a

/-- layout result: total size, alignment, and `(field name, offset, size)` in declaration order -/
structure Layout where
  size : Nat
  align : Nat
  fields : List (String × Nat × Nat)
  deriving Repr, DecidableEq, Inhabited

/-- lay out fields in order, given the size/alignment of each field type -/
def layoutWith (sa : FieldTy → Option SizeAlign) (packed : Bool) :
    List (String × FieldTy) → Nat → Nat → List (String × Nat × Nat) → Option Layout
  | [], off, al, acc => some ⟨if packed then off else alignUp off al, if packed then 1 else al, acc.reverse⟩
  | (nm, ty) :: rest, off, al, acc =>
    match sa ty with
    | none => none
    | some s =>
      let a := if packed then 1 else s.align
      let o := alignUp off a
      layoutWith sa packed rest (o + s.size) (max al a) ((nm, o, s.size) :: acc)

/-- size and alignment of a field type; `fuel` bounds the nesting depth (none = unknown struct or too deep) -/
def fieldSA (tbl : List StructDef) : Nat → FieldTy → Option SizeAlign
  | 0, _ => none
  | _+1, .int b => some ⟨b, b⟩
  | fuel+1, .arr e n => (fieldSA tbl fuel e).map fun sa => ⟨sa.size * n, sa.align⟩
  | fuel+1, .struct nm =>
    match tbl.find? (·.name == nm) with
    | none => none
    | some sd =>
      (layoutWith (fieldSA tbl fuel) (sd.repr == .packed) sd.fields 0 1 []).map fun l => ⟨l.size, l.align⟩

def layoutOf (tbl : List StructDef) (fuel : Nat) (sd : StructDef) : Option Layout :=
  layoutWith (fieldSA tbl fuel) (sd.repr == .packed) sd.fields 0 1 []

def layoutByName (tbl : List StructDef) (nm : String) : Option Layout :=
  match tbl.find? (·.name == nm) with
  | none => none
  | some sd => layoutOf tbl 6 sd

/-! ## Signature of a dispatch arm (shared by the generated table and the model) -/

inductive Sig where
  | proto (bit : Nat) | virtio (bit : Nat)
  | sizeZero | sizeAny | sizeOf (ty : String)
  | body (ty : String) | file (err : String) | vringfd | enable01
  | frombits (ty : String) | convert
  | call (method : String) | helper (fn : String)
  deriving Repr, DecidableEq, Inhabited

/-- conversions that cannot fail once the body validator has passed -/
def Sig.redundant : Sig → Bool
  | .frombits _ | .convert => true
  | _ => false

/-! ## Bytes -/

abbrev Bytes := List UInt8

/-- little-endian encoding of `v` in `n` bytes -/
def leBytes : Nat → Nat → Bytes
  | 0, _ => []
  | n+1, v => UInt8.ofNat (v % 256) :: leBytes n (v / 256)

/-- little-endian decoding -/
def leVal : Bytes → Nat
  | [] => 0
  | b :: bs => b.toNat + 256 * leVal bs

@[simp] theorem leBytes_length (n v : Nat) : (leBytes n v).length = n := by
  induction n generalizing v with
  | zero => rfl
  | succ n ih => simp [leBytes, ih]

theorem leVal_leBytes (n v : Nat) (h : v < 256 ^ n) : leVal (leBytes n v) = v := by
  induction n generalizing v with
  | zero => simp [leBytes, leVal] at *; omega
  | succ n ih =>
    simp only [leBytes, leVal]
    have h2 : v / 256 < 256 ^ n := by
      rw [Nat.pow_succ] at h
      exact Nat.div_lt_of_lt_mul (by rw [Nat.mul_comm]; exact h)
    rw [ih _ h2]
    have : (UInt8.ofNat (v % 256)).toNat = v % 256 := by
      simp [UInt8.toNat_ofNat']
    rw [this]; omega

theorem leVal_lt (bs : Bytes) : leVal bs < 256 ^ bs.length := by
  induction bs with
  | nil => simp [leVal]
  | cons b bs ih =>
    simp only [leVal, List.length_cons, Nat.pow_succ]
    have : b.toNat < 256 := b.toNat_lt
    omega

theorem leBytes_leVal (bs : Bytes) : leBytes bs.length (leVal bs) = bs := by
  induction bs with
  | nil => rfl
  | cons b bs ih =>
    simp only [List.length_cons, leBytes, leVal]
    have hb : b.toNat < 256 := b.toNat_lt
    have h1 : (b.toNat + 256 * leVal bs) % 256 = b.toNat := by omega
    have h2 : (b.toNat + 256 * leVal bs) / 256 = leVal bs := by omega
    rw [h1, h2, ih]
    simp

def hexDigit (n : Nat) : Char :=
  if n < 10 then Char.ofNat (48 + n) else Char.ofNat (87 + n)

def hexOfNat (n : Nat) : String := String.ofList (Nat.toDigits 16 n)

def hexOfBytes (bs : Bytes) : String :=
  String.ofList (bs.flatMap fun b => [hexDigit (b.toNat / 16), hexDigit (b.toNat % 16)])

def hexVal? (c : Char) : Option Nat :=
  if '0' ≤ c ∧ c ≤ '9' then some (c.toNat - 48)
  else if 'a' ≤ c ∧ c ≤ 'f' then some (c.toNat - 87)
  else if 'A' ≤ c ∧ c ≤ 'F' then some (c.toNat - 55)
  else none

def natOfHex? (s : String) : Option Nat :=
  if s.isEmpty then none else
  s.toList.foldl (fun acc c => match acc, hexVal? c with
    | some a, some d => some (a * 16 + d)
    | _, _ => none) (some 0)

def bytesOfHex? (s : String) : Option Bytes :=
  let rec go : List Char → Bytes → Option Bytes
    | [], acc => some acc.reverse
    | [_], _ => none
    | a :: b :: rest, acc =>
      match hexVal? a, hexVal? b with
      | some x, some y => go rest (UInt8.ofNat (x * 16 + y) :: acc)
      | _, _ => none
  go s.toList []

end Base
