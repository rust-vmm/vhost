/-!
# Spec: kick delivery under concurrency (property C12)

Written from the property statement.  A *history* is the chronological list of the events of one ring that the
property talks about: guest kicks, the daemon beginning to handle a control message, the reply to a control
message being sent, the worker consuming a wake-up (reading the kick counter) and whether it goes on to call
the handler for it, the handler being entered, the worker thread ending.

* **P1 (`NoDispatchAfterReply`)** — "once the reply to a message that disables or stops a ring
  (SET_VRING_ENABLE 0, GET_VRING_BASE, RESET_DEVICE) has been sent, the backend's event handler is not entered
  for that ring until it is enabled or started again".  Resolved conservatively: the forbidden period of a
  disable/reset ends as soon as the daemon *begins* to handle a SET_VRING_ENABLE(1), that of a stop as soon as it
  begins to handle the SET_VRING_KICK that restarts the ring.  Only a SET_VRING_KICK that *carries a descriptor*
  restarts a ring: "client must start ring upon receiving a kick … on the descriptor specified by
  VHOST_USER_SET_VRING_KICK" — a SET_VRING_KICK with the no-descriptor flag (payload bit 8) specifies none, so it
  neither starts nor stops the ring (the same decision as D3 of `Spec.RingAutomaton`): the forbidden period opened by
  the reply of a GET_VRING_BASE stays open across such a message (`CMsg.nofd`, `period_nofd`).
* **P2 (`NoLostWakeup`)** — "every kick raised on a ring is eventually followed by an event-handler invocation
  … i.e. no wake-up is consumed without being processed": no wake-up is consumed by a read that does not lead to
  the handler, and the worker does not end while the daemon runs (a worker that is gone processes no later kick).
  (The liveness half — a retained kick is delivered once the ring is active — is `Props/C12Live.lean`, under
  fairness of the scheduler to the worker; its sequential version is C11's `delivered_on_activation`.)
-/
namespace Spec.KickDelivery

abbrev Evt := Nat

/-- the control messages of the scenarios -/
inductive CMsg where
  | disable      -- SET_VRING_ENABLE 0
  | enable       -- SET_VRING_ENABLE 1
  | stop         -- GET_VRING_BASE
  | restart      -- SET_VRING_KICK with a fresh descriptor
  | reset        -- RESET_DEVICE
  | nofd         -- SET_VRING_KICK with the no-descriptor flag: neither enables nor restarts (nor disables, nor stops)
deriving DecidableEq, Repr

def CMsg.disables : CMsg → Bool
  | .disable => true
  | .reset => true
  | _ => false

/-- the messages that end a forbidden period when the daemon begins to handle them -/
def CMsg.activates : CMsg → Bool
  | .enable => true
  | .restart => true
  | _ => false

inductive Ev where
  | kick (d : Evt)
  | start (m : CMsg)
  | reply (m : CMsg)
  | consumed (granted : Bool)
  | dispatch
  | workerExit
deriving DecidableEq, Repr

/-- the periods in which P1 forbids the handler -/
structure Period where
  forbD : Bool      -- disabled and the reply sent, no enable begun since
  forbS : Bool      -- stopped and the reply sent, no restart begun since
deriving DecidableEq, Repr

def Period.next (p : Period) : Ev → Period
  | .reply m => if m.disables then { p with forbD := true } else if m = .stop then { p with forbS := true } else p
  | .start .enable => { p with forbD := false }
  | .start .restart => { p with forbS := false }
  | _ => p

def period (tr : List Ev) : Period := tr.foldl Period.next ⟨false, false⟩

theorem period_append (tr : List Ev) (e : Ev) : period (tr ++ [e]) = (period tr).next e := by
  simp [period, List.foldl_append]

/-- a descriptor-less SET_VRING_KICK opens and closes nothing -/
theorem period_nofd (p : Period) : p.next (.start .nofd) = p ∧ p.next (.reply .nofd) = p := by
  constructor <;> simp [Period.next, CMsg.disables]

/-- only the begin of an activating message closes a period -/
theorem period_next_closes (p : Period) (e : Ev) (h : ∀ m, e = .start m → m.activates = false) :
    (p.forbD = true → (p.next e).forbD = true) ∧ (p.forbS = true → (p.next e).forbS = true) := by
  cases e with
  | start m => cases m <;> simp_all [Period.next, CMsg.activates]
  | reply m => cases m <;> simp [Period.next, CMsg.disables]
  | _ => simp [Period.next]

/-- P1 -/
def NoDispatchAfterReply (tr : List Ev) : Prop :=
  ∀ pre post, tr = pre ++ Ev.dispatch :: post → (period pre).forbD = false ∧ (period pre).forbS = false

/-- P2 (safety part) -/
def NoLostWakeup (tr : List Ev) : Prop := Ev.consumed false ∉ tr ∧ Ev.workerExit ∉ tr

/-- executable judge for P1: scans the history -/
def dispatchAfterReplyFrom (p : Period) : List Ev → Bool
  | [] => false
  | .dispatch :: tr => p.forbD || p.forbS || dispatchAfterReplyFrom p tr
  | e :: tr => dispatchAfterReplyFrom (p.next e) tr

def dispatchAfterReply (tr : List Ev) : Bool := dispatchAfterReplyFrom ⟨false, false⟩ tr

def lostWakeup (tr : List Ev) : Bool := tr.contains (.consumed false) || tr.contains .workerExit

end Spec.KickDelivery
