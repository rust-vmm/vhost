import VhostModel.Base.LockSig
import VhostModel.Gen.LockShapes
import VhostModel.Model.Locks
import VhostModel.Model.LockTable
import VhostModel.Lemmas.Locks
/-!
# The lock shape assumed by `Model.Locks` (C10) is the lock shape of the source

`Gen.LockShapes.rows` is regenerated on every run by `tools/rs2lean_locks.py` from `frontend.rs`, `backend_req.rs` and
`gpu_backend_req.rs`: for every method of `Frontend`, the `Backend` proxy and `GpuBackend` the ordered list of
lock / socket events of its body (`Base.LockSig.Event`; helpers of the `…Internal` structs followed into their own
bodies).  The theorems below are about that table, so a source change that alters the lock discipline of a method
breaks a proof obligation here (or makes the translator refuse).

* `one_guard_per_method` (a) — every method acquires exactly one guard, and no socket operation precedes it;
* `io_under_guard` (b)       — no `release` between the acquisition and the last socket operation, and the last event
                                of every method is the release of that guard;
* `no_io_outside_guard` (c)  — every socket operation and state write is applied to the guard's binder;
* `kinds_match_model` (d)    — kind (reply / ack / fire / not a call), "can be rejected by a local check", "lock taken
                                after local checks", send helper and reply reader of every method are those of the
                                hand-written table `Model.LockTable.modelKinds` (the comment table of `Model/Locks.lean`);
  `io_method_count` — 34 + 5 + 12 = 51 methods perform socket I/O, as the comment says;
  `rows_distinct`, `constructors_known` — bookkeeping: no (endpoint, method, branch) occurs twice; the associated
  functions without `self` (constructors, which cannot reach an existing lock) are the known ones;
* bridge to the transition system (e):
  - `caller_program` — proved from the definitions of `Model.Locks` for every configuration (of the code's rule
    `relock = false`, with a peer that does not close the socket; refused replies allowed), schedule and caller: the
    labels of a caller that has finished are exactly `progOf kind ackMode`
    (`acquire · send · recv · release`, without `recv` when the call does not read, without `send` when rejected);
  - `rows_run_model_program` — for every row and both acknowledgement modes, the lock / socket steps of the source
    method are `progOf (kindOf row) ackMode`;
  - `rejections_run_model_program` — when a local check of a method fails, the method has either not touched the lock
    at all (check in front of the acquisition) or done `acquire` and then releases: `progOf .rejected`;
  - `methods_are_model_callers` — the two combined: a finished caller of the transition system whose kind is the kind
    of a source method has performed exactly the steps of that method.

What this does *not* say: that a helper's socket operation is a single atomic `sendmsg`/`recvmsg` (C02/C03), nor
which replies the peer owes (C04/C06); and conditions (a)–(c) alone do not imply the program shape (two sends under
one guard satisfy them) — that is what `rows_run_model_program` adds.
-/
namespace Props.LockShapes
open Base.LockSig Model.Locks Model.LockTable
open Lemmas.Locks (upd_same upd_other isRun)

abbrev rows : List Row := Gen.LockShapes.rows

/-! ## (a) (b) (c): one guard, held over all socket I/O, nothing outside it -/

theorem one_guard_per_method : ∀ r ∈ rows, OneGuard r.events := by decide +kernel

theorem io_under_guard : ∀ r ∈ rows, IoUnderGuard r.events ∧ EndsReleased r.events := by decide +kernel

theorem no_io_outside_guard : ∀ r ∈ rows, OnGuardOnly r.events := by decide +kernel

/-- the conditions are not vacuous: they reject the guard dropped between send and receive … -/
example : ¬ IoUnderGuard [.acquire "node", .send "node" "send_request_header", .release "node",
    .acquire "node", .recv "node" "recv_reply" false, .release "node"] := by decide
example : ¬ OneGuard [.acquire "node", .send "node" "send_request_header", .release "node",
    .acquire "node", .recv "node" "recv_reply" false, .release "node"] := by decide
/-- … two temporaries … -/
example : ¬ OnGuardOnly [.acquire "<temp1>", .send "<temp1>" "send_message", .release "<temp1>",
    .acquire "<temp2>", .recv "<temp2>" "recv_reply" false, .release "<temp2>"] := by decide
/-- … and I/O in front of the lock. -/
example : ¬ OneGuard [.send "x" "send_message", .acquire "node", .release "node"] := by decide

/-! ## (d) the table of `Model/Locks.lean` -/

def hasIO (es : List Event) : Bool := es.any Event.isIO

def Event.isFixedRecv : Event → Bool
  | .recv _ _ false => true
  | _ => false

/-- the kind of a method in the terms of the transition system; a method without socket I/O takes the lock and
gives it back, which is what a `rejected` caller does -/
def kindOf (es : List Event) : Kind :=
  if es.any Event.isFixedRecv then .reply
  else if es.any Event.isRecv then .ack
  else if es.any Event.isSend then .fire
  else .rejected

def sendHelper : List Event → Option String
  | [] => none
  | .send _ h :: _ => some h
  | _ :: es => sendHelper es

def replyReader : List Event → Option String
  | [] => none
  | .recv _ h _ :: _ => some h
  | _ :: es => replyReader es

def entryOf (r : Row) : Entry where
  ep := r.ep
  method := r.method
  branch := r.branch
  kind := if hasIO r.events then some (kindOf r.events) else none
  rejectable := (r.events.takeWhile fun e => !e.isIO).any Event.isLocalCheck
  lateGuard := (r.events.takeWhile fun e => !e.isAcquire).any Event.isLocalCheck
  send := sendHelper r.events
  reader := replyReader r.events

theorem kinds_match_model : rows.map entryOf = modelKinds := rfl

/-- number of methods with socket I/O, per endpoint and in total -/
def ioMethods (ep : Endpoint) : Nat :=
  (rows.filter fun r => r.ep == ep && r.branch == 0 && hasIO r.events).length

theorem io_method_count :
    (∀ ep, ioMethods ep = claimedIOMethods ep) ∧ ioMethods .frontend + ioMethods .backend + ioMethods .gpu = 51 := by
  refine ⟨fun ep => ?_, by decide +kernel⟩
  cases ep <;> decide +kernel

theorem rows_distinct : (rows.map fun r => (r.ep, r.method, r.branch)).Nodup := by decide +kernel

theorem constructors_known : Gen.LockShapes.constructors =
    [(.frontend, "new"), (.frontend, "from_stream"), (.frontend, "connect"),
     (.backend, "new"), (.backend, "from_stream"), (.gpu, "new"), (.gpu, "from_stream")] := rfl

/-! ## (e) bridge to the transition system of `Model.Locks` -/

/-- the lock / socket steps of caller `i` among the labels of a schedule -/
def proj (i : Nat) : Lbl → Option Step
  | .acquire j => if j = i then some .acquire else none
  | .send j => if j = i then some .send else none
  | .recv j => if j = i then some .recv else none
  | .release j => if j = i then some .release else none
  | .peer => none

/-- the per-call program of `Model.Locks`: acquire, send (unless rejected), receive (if the call reads), release -/
def progOf : Kind → Bool → List Step
  | .reply, _ => [.acquire, .send, .recv, .release]
  | .ack, true => [.acquire, .send, .recv, .release]
  | .ack, false => [.acquire, .send, .release]
  | .fire, _ => [.acquire, .send, .release]
  | .rejected, _ => [.acquire, .release]

/-- what is left of a call at program counter `pc` -/
def restOf (sends reads : Bool) : PC → List Step
  | .done => []
  | .got => [.release]
  | .sent => if reads then [.recv, .release] else [.release]
  | .locked => if sends then .send :: (if reads then [.recv, .release] else [.release]) else [.release]
  | .idle => .acquire :: (if sends then .send :: (if reads then [.recv, .release] else [.release]) else [.release])
  | .relock => [.acquire, .release]      -- only under the mutation `Cfg.relock` (Props.C10.relock_on_error_deadlocks)

theorem restOf_idle (c : Cfg) (i : Nat) : restOf (c.sends i) (c.reads i) .idle = progOf (c.kind i) c.ackMode := by
  unfold Cfg.sends Cfg.reads
  cases c.kind i <;> cases c.ackMode <;> rfl

theorem step_closed (c : Cfg) (hno : ∀ k, c.closes k = false) (s s1 : St) (l : Lbl) (h : step c s l = some s1)
    (hcl : s.closed = false) : s1.closed = false := by
  cases Lemmas.Locks.Step.of_step h with
  | peer => simp [hcl, hno]
  | _ => exact hcl

theorem proj_none {i : Nat} {l : Lbl} (h : Lemmas.Locks.owner l ≠ some i) : proj i l = none := by
  cases l with
  | peer => rfl
  | _ => exact if_neg fun e => h (congrArg some e)

/-- one step of the transition system consumes exactly the head of what is left of caller `i`'s program if the
label is one of caller `i`, and leaves it alone otherwise (the code's rule `relock = false`, socket open) -/
theorem step_restOf (c : Cfg) (hrl : c.relock = false) (i : Nat) (s s1 : St) (hcl : s.closed = false) (l : Lbl)
    (h : step c s l = some s1) :
    (proj i l).toList ++ restOf (c.sends i) (c.reads i) (s1.pc i) = restOf (c.sends i) (c.reads i) (s.pc i) := by
  have hst := Lemmas.Locks.Step.of_step h
  by_cases e : Lemmas.Locks.owner l = some i
  · cases hst with
    | peer => cases e
    | acquire hc => cases e; simp [proj, upd_same, hc.2.1, restOf]
    | reacquire hc => cases e; simp [proj, upd_same, hc.1, restOf]
    | send hc => cases e; simp [proj, upd_same, hc.1, hc.2.1, restOf]
    | recv hc => cases e; simp [proj, upd_same, hc.1, hc.2, hrl, restOf]
    | release hc =>
      cases e
      rcases hc.2 with hp | ⟨hp, hr⟩ | ⟨hp, hs | hs⟩
      · simp [proj, upd_same, hp, restOf]
      · simp [proj, upd_same, hp, hr, restOf]
      · simp [proj, upd_same, hp, hs, restOf]
      · rw [hcl] at hs; cases hs
  · rw [proj_none e, (hst.frame e).1]; rfl

theorem run_restOf (c : Cfg) (hrl : c.relock = false) (hno : ∀ k, c.closes k = false) (i : Nat) (ls : List Lbl) :
    ∀ (s s' : St), s.closed = false → run c s ls = some s' → s'.pc i = .done →
    ls.filterMap (proj i) = restOf (c.sends i) (c.reads i) (s.pc i) := by
  induction ls with
  | nil => intro s s' _ hr hd; cases hr; simp [hd, restOf]
  | cons l ls ih =>
    intro s s' hcl hr hd
    obtain ⟨s1, hs1, hr⟩ := (isRun c).cons_some.1 hr
    rw [← step_restOf c hrl i s s1 hcl l hs1, ← ih s1 s' (step_closed c hno s s1 l hs1 hcl) hr hd]
    cases hp : proj i l <;> simp [hp]

/-- **The per-call program of the transition system.**  In every configuration of the code's rule whose peer does not
close the socket (reply faults `bad` allowed: a refused reply is consumed and the guard dropped like a good one) and
every schedule, the lock / socket labels of a caller that has finished are `acquire · [send · [recv]] · release` as
given by its kind.  (After a `close` fault a caller that finds the socket dead runs `progOf .rejected` instead —
`Props.C10.others_unaffected_by_faulty_reply`; the mutated rule `relock` never finishes —
`Props.C10.relock_on_error_deadlocks`.) -/
theorem caller_program (c : Cfg) (hrl : c.relock = false) (hno : ∀ k, c.closes k = false) (ls : List Lbl) (s : St)
    (i : Nat) (hr : run c init ls = some s) (hd : s.pc i = .done) :
    ls.filterMap (proj i) = progOf (c.kind i) c.ackMode := by
  rw [← restOf_idle]
  exact run_restOf c hrl hno i ls init s rfl hr hd

/-- **Every source method is that program.**  The lock / socket steps of every row — with the conditional read of
`wait_for_ack` resolved by the acknowledgement mode — are the program of the model for the row's kind. -/
theorem rows_run_model_program : ∀ a : Bool, ∀ r ∈ rows, inst a (rsteps r.events) = progOf (kindOf r.events) a := by
  intro a; cases a <;> decide +kernel

/-- the events in front of each `localCheck` that precedes the first socket operation: what the method has done at
the moment that check fails -/
def rejectPrefixes (acc : List Event) : List Event → List (List Event)
  | [] => []
  | e :: es =>
    if e.isIO then []
    else (if e.isLocalCheck then [acc] else []) ++ rejectPrefixes (acc ++ [e]) es

/-- **Rejected calls.**  When a local check fails the method has not touched the lock yet, or it has acquired the
guard and done nothing else on the socket: with the release on return that is the model's `rejected` program. -/
theorem rejections_run_model_program : ∀ a : Bool, ∀ r ∈ rows, ∀ p ∈ rejectPrefixes [] r.events,
    rsteps p = [] ∨ inst a (rsteps p) ++ [.release] = progOf .rejected a := by
  intro a; cases a <;> decide +kernel

/-- both cases occur -/
example : ∃ r ∈ rows, ∃ p ∈ rejectPrefixes [] r.events, rsteps p = [] := by decide
example : ∃ r ∈ rows, ∃ p ∈ rejectPrefixes [] r.events, rsteps p = [.acquire] := by decide

/-- **Source methods are the callers of the model.**  A finished caller of the transition system whose kind is the
kind of a source method has performed exactly the lock / socket steps of that method, in that order. -/
theorem methods_are_model_callers (c : Cfg) (hrl : c.relock = false) (hno : ∀ k, c.closes k = false)
    (ls : List Lbl) (s : St) (i : Nat) (hr : run c init ls = some s)
    (hd : s.pc i = .done) (r : Row) (hrow : r ∈ rows) (hk : kindOf r.events = c.kind i) :
    ls.filterMap (proj i) = inst c.ackMode (rsteps r.events) := by
  rw [caller_program c hrl hno ls s i hr hd, rows_run_model_program c.ackMode r hrow, hk]

/-- non-vacuity of `caller_program`: a schedule of three callers (reply, ack with REPLY_ACK on, fire) -/
example :
    let c : Cfg := { n := 3, kind := fun i => match i with | 0 => .reply | 1 => .ack | _ => .fire, ackMode := true }
    let ls : List Lbl := [.acquire 1, .send 1, .peer, .recv 1, .release 1, .acquire 2, .send 2, .release 2,
                          .acquire 0, .send 0, .peer, .peer, .recv 0, .release 0]
    (run c init ls).isSome = true ∧ ls.filterMap (proj 2) = progOf .fire true ∧
      ls.filterMap (proj 1) = progOf .ack true := by decide

/-- every kind of the model is the kind of some source method -/
example : ∀ k : Kind, ∃ r ∈ rows, kindOf r.events = k := by intro k; cases k <;> decide

end Props.LockShapes
