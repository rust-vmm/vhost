import VhostModel.Lemmas.FeRecvReaders
import VhostModel.Lemmas.FeRecvPost
import VhostModel.Lemmas.BackendChannel
import VhostModel.Props.C06
import VhostModel.Gen.FrontendOps

/-!
# Translator tie: the reply readers of the frontend and what every API method does with the reply

`tools/rs2lean_ferecv.py` translates, on every run, from `vhost/src/vhost_user/{frontend,message,mod}.rs` into terms of
the imperative language of `Base/ImpFe.lean` (`Gen/FeRecv.lean`):

* `FrontendInternal::{recv_reply, recv_reply_with_optional_files, recv_reply_with_files, recv_reply_with_payload,
  wait_for_ack, check_state, check_feature, check_proto_feature, new_request_header}`;
* `VhostUserMsgHeader::{get_size, is_reply, is_need_reply, is_reply_for, new}` and `take_single_file`;
* for every API method of `impl VhostBackend for Frontend` / `impl VhostUserFrontend for Frontend` that reads a reply:
  the reader call and the statements after it (`Api.<Method>.{readCall, finish, post}`).

Calls of `self.main_sock.recv_body::<T>()` / `recv_data(n)` are calls of the terms of `Gen/ConnLoops.lean`, whose
behaviour is the one proved in `Props/ConnLoops.lean` (`Lemmas.FeRecv.callConn_recvBody` / `callConn_recvData`).

The terms are interpreted in `Lemmas.FeRecv.stdEnv ch cl`: header size 12 with the generated header validator,
`size_of::<T>()` from the generated layout, `T::is_valid` = the generated `Gen.<T>.isValid` (through
`Model.Frontend.bodyValidTy`), struct fields through the generated layout, `R::try_from` succeeds on the values of the
generated `Gen.Codes.FrontendReq.table`, errno classes of the generated `Gen.ConnLoops.classify`.

## Theorems (all for every frontend state, request, stream, chooser and closedness; fuel `≥ stream.length + 1`)

Full equalities with the hand-written model:
* `is_reply_for_matches` (+ `is_reply_matches`, `is_need_reply_matches`, `get_size_matches`; in `Props/FeRecvHdr.lean`, on which
  the readers are run): the translated `is_reply_for` is `Model.Frontend.isReplyFor` on the parsed headers;
* `recv_reply_matches`, `recv_reply_with_optional_files_matches`, `recv_reply_with_files_matches`,
  `recv_reply_with_payload_matches`, `wait_for_ack_matches`: value / error / blocked, rest of the stream, chooser state and
  descriptors closed (`viewOfExec`) are those of `Model.Frontend.recv` (`viewOfModel`), the node is unchanged.  The
  hypotheses `size_of::<T>() = n ≤ MAX_MSG_SIZE` hold for every type the API methods use (`reader_types_fit`);
* `finish_matches_<method>` for `get_features`, `get_protocol_features`, `get_queue_num`, `get_vring_base`,
  `get_max_mem_slots`, `check_device_state`, `set_log_base`, `get_shmem_config`, `get_shared_object` / `postcopy_advise`
  (`finish_matches_file`),
  `get_inflight_fd`, `set_device_state_fd`, `get_config`, and `finish_matches_ack` for the 21 methods that only wait for
  the acknowledgement (`ack_finish_terms`, `ack_methods_listed`, `ack_methods_finish_unit`): returned value, error and
  node afterwards are `Model.Frontend.finish`;
* `post_matches_<method>` (13 methods) and `post_matches_ack` (+ `ack_post_terms`): the whole generated post part
  `Api.<Method>.post = readCall ;; finish` — started with the request header in `hdr` — is `Model.Frontend.callRecv`: returned
  value, node, rest of the stream, chooser state, descriptors closed (`callViewOfExec` / `callViewOfModel`; for the
  methods that call `take_single_file` and for `set_device_state_fd` the right-hand side is `callOfRecv … extra` with the
  descriptors the source closes while post-processing, which the model does not record);
* `take_single_file_matches` (= `Model.Frontend.takeSingle`), `check_state_matches`, `check_feature_matches`,
  `check_proto_feature_matches`, `new_request_header_matches` (= the model's `reqHdr` bytes);
* `readers_agree_with_rows`: reader and body type per method are those of `Gen.FrontendOps.rows`.

## Where model and source are phrased differently (proved equivalent, or reported)

* the source's readers return only part of what they read (`recv_reply`: the body; `wait_for_ack`: `()`); the model's
  `Reply` also keeps the header.  The comparison is on what is returned (`View`); for `wait_for_ack` the body is
  forgotten (`View.unit`): `Model.Frontend.finish` ignores it for these methods (`ack_methods_finish_unit`);
* `recv_reply*` test `!body.is_valid()` again after `recv_body::<T>` has tested it: never fires
  (`Lemmas.FeRecv.evalC_or_not_valid`);
* `mem::size_of::<T>() > MAX_MSG_SIZE`: static, false for every `T` used (`reader_types_fit`); the model has no such test;
* `check_state()`: `self.error` is never assigned (`Props.FrontendOps.error_field_never_written`), the model has no
  such field; the theorems assume `error = None`, `check_state_matches` gives both cases;
* `get_config` re-tests the descriptors of the reply (`rfds.is_some()`), the model does not:
  `finish_get_config_files_source` / `finish_get_config_files_model` show the two differ on a reply with descriptors,
  which `recv_reply_with_payload` never returns — `finish_matches_get_config` assumes `r.files = none`;
* descriptors dropped while post-processing (`take_single_file` with a count other than one; `set_device_state_fd`
  refusing) are closed by the source; `Model.Frontend.callRecv` does not add them to `CallOut.closed`.  The
  `finish_matches_*` theorems state what the source closes (`dropsOf`); the model is silent about it (coarser, no
  contradiction).

Everything else is an equality between `Model.Frontend.recv` / `finish` / `isReplyFor` and the translated source.

Slots (`Var.id`) in the `finish_matches_*` proofs: descriptor 0 = `files` / `rfds`; buffers as `Gen/FeRecv.lean` numbers them.
-/
namespace Props.FeRecv
open ImpFe Lemmas.FeRecv
open Imp (Var World upd upd_apply Stuck Fd Bytes)
open Model.Stream (Cell Chooser)
open Model.Frontend (FSt Req Op Reply RecvOut RecvRes ReplyKind Ret CallOut parseHdr hdrValid sizeOfTy bodyValidTy isReplyFor recv recvBody
  reqHdr finish takeSingle reqFlags callRecv)
open Model.BackendSrv (Err Hdr bitSet encHdr)

/-! ## reading the interpreter's result -/

/-- the node of the model as `struct FrontendInternal` (`error` is `None`: no impl assigns it) -/
def selfOf (s : FSt) : Self :=
  { virtio_features := s.virtio, acked_virtio_features := s.acked, protocol_features := s.proto,
    acked_protocol_features := s.ackedProto, max_queue_num := s.maxQ, hdr_flags := s.hdrFlags, error := none }

def fstOf (sf : Self) : FSt :=
  { virtio := sf.virtio_features, acked := sf.acked_virtio_features, proto := sf.protocol_features,
    ackedProto := sf.acked_protocol_features, maxQ := sf.max_queue_num, hdrFlags := sf.hdr_flags }

@[simp] theorem fstOf_selfOf (s : FSt) : fstOf (selfOf s) = s := rfl

inductive VRes where
  | ok (body payload : Bytes) (files : Option (List Fd))
  | err (e : Err)
  | blocked
  | fault
  deriving DecidableEq, Repr

/-- what a reader call amounts to: value / error / blocked, rest of the stream, chooser state, descriptors closed -/
structure View (σ : Type) where
  res : VRes
  rest : List Cell
  cst : σ
  closed : List Fd

def viewOfModel {σ : Type} (o : RecvOut σ) : View σ :=
  ⟨match o.res with
   | .ok r => .ok r.body r.payload r.files
   | .err e => .err e
   | .blocked => .blocked, o.rest, o.cst, o.closed⟩

/-- `Ok(..)`: first / second buffer component and the descriptors; `Err(e)` through `errMap`; blocked inside
`connection.rs`: the descriptors held by the blocked activation count as closed (as in `Model.Stream`) -/
def viewOfExec {σ : Type} (out : FRes σ) : View σ :=
  match out.1 with
  | .done (.ok v) => ⟨.ok (v.bufs.getD 0 []) (v.bufs.getD 1 []) v.fds, out.2.2.2.stream, out.2.2.2.cst, out.2.2.2.closed⟩
  | .done (.err e) => ⟨.err (errMap e), out.2.2.2.stream, out.2.2.2.cst, out.2.2.2.closed⟩
  | .stuck .blocked inner => ⟨.blocked, out.2.2.2.stream, out.2.2.2.cst, out.2.2.2.closed ++ (inner.f 0).getD []⟩
  | _ => ⟨.fault, out.2.2.2.stream, out.2.2.2.cst, out.2.2.2.closed⟩

/-- forget what an accepted reply carried (`wait_for_ack` returns `()`) -/
def View.unit {σ : Type} (v : View σ) : View σ :=
  { v with res := match v.res with | .ok _ _ _ => .ok [] [] none | r => r }

theorem view_of_exec {σ : Type} {w : World σ} {sf : Self} {shape : Reply → FVal} {M : RecvOut σ} {out : FRes σ}
    (h : ReaderSpec w sf shape M out) (hw : w.closed = []) :
    viewOfExec out =
      ⟨match M.res with
       | .ok r => .ok ((shape r).bufs.getD 0 []) ((shape r).bufs.getD 1 []) (shape r).fds
       | .err e => .err e
       | .blocked => .blocked, M.rest, M.cst, M.closed⟩ ∧ out.2.2.1 = sf := by
  obtain ⟨c, fr, sf', w'⟩ := out
  obtain ⟨h1, h2, h3, h4⟩ := h
  refine ⟨?_, h3⟩
  simp only at h1 h2 h4
  cases hres : M.res with
  | ok r =>
    rw [hres] at h4
    obtain ⟨rfl, u⟩ := h4
    simp only [viewOfExec, h1, h2, u, hw, List.nil_append]
  | err e =>
    rw [hres] at h4
    obtain ⟨⟨fe, rfl, rfl⟩, u⟩ := h4
    simp only [viewOfExec, h1, h2, u, hw, List.nil_append]
  | blocked =>
    rw [hres] at h4
    obtain ⟨inner, rfl, u⟩ := h4
    simp only [viewOfExec, h1, h2, u, hw, List.nil_append]

theorem view_of_spec {σ : Type} {w : World σ} {sf : Self} {shape : Reply → FVal} {M : RecvOut σ} {out : FRes σ}
    (h : ReaderSpec w sf shape M out) (hw : w.closed = [])
    (hs : ∀ r, M.res = .ok r → (shape r).bufs.getD 0 [] = r.body ∧ (shape r).bufs.getD 1 [] = r.payload ∧ (shape r).fds = r.files) :
    viewOfExec out = viewOfModel M ∧ out.2.2.1 = sf := by
  refine (view_of_exec h hw).imp (fun e => e.trans ?_) id
  unfold viewOfModel
  cases hres : M.res with
  | ok r =>
    obtain ⟨a, b, c⟩ := hs r hres
    simp only [a, b, c]
  | err e => rfl
  | blocked => rfl

/-- the frame of a reader call: the request header `hdr` (12 bytes) -/
def hdrFrame (hb : Bytes) : FFrame := { b := upd (fun _ => []) 0 hb }

/-- the socket: what the peer has written / will have written, and the chooser's state -/
def sockWorld {σ : Type} (cst : σ) (str : List Cell) : World σ := { stream := str, cst := cst }

theorem recvH_ok_recvBody {σ : Type} {ch : Chooser σ} {cl : Bool} {ap : Nat} {rh : Hdr} {ty : String} {cst : σ} {str : List Cell} {r : Reply}
    {k : ReplyKind} (hk : k = .body ty ∨ k = .bodyOptFiles ty ∨ k = .bodyFiles ty) (h : (recvH ch cl ap rh k cst str).res = .ok r) :
    (recvBody ch cl ty cst str).res = .ok r := by
  rcases hk with rfl | rfl | rfl
  all_goals
    simp only [recvH] at h
    generalize recvBody ch cl ty cst str = o at h ⊢
    -- every leaf is either a refusal or `o` itself
    (repeat' split at h) <;> first | exact h | cases h

section okfacts
variable {σ : Type} (ch : Chooser σ) (cl : Bool) (ap : Nat) (rh : Hdr) (ty : String) (n : Nat) (cst : σ) (str : List Cell) (r : Reply)

theorem recvBody_ok_len (hn : sizeOfTy ty = some n) (h : (recvBody ch cl ty cst str).res = .ok r) : r.body.length = n := by
  obtain ⟨n', _, hsize, _, hlen, _⟩ := Props.C06.recvBody_ok_sound ch cl ty cst str r h
  rw [hn] at hsize; cases hsize; exact hlen

theorem recvH_files_ok_len (hn : sizeOfTy ty = some n) (h : (recvH ch cl ap rh (.bodyFiles ty) cst str).res = .ok r) :
    r.body.length = n :=
  recvBody_ok_len ch cl ty n cst str r hn (recvH_ok_recvBody (.inr (.inr rfl)) h)

end okfacts

section readers
variable {σ : Type} (ch : Chooser σ) (cl : Bool) (s : FSt) (req : Req) (cst : σ) (str : List Cell)

theorem spec_of_req {k : ReplyKind} {shape : Reply → FVal} {fr0 : FFrame} {hb : Bytes} {out : FRes σ}
    (h : ReaderSpec (sockWorld cst str) (selfOf s) shape
      (recvH ch cl (selfOf s).acked_protocol_features (parseHdr (fr0.b 0)) k (sockWorld cst str).cst (sockWorld cst str).stream) out)
    (hk : req.kind = k) (h0 : fr0.b 0 = hb) (hparse : parseHdr hb = reqHdr s req) :
    ReaderSpec (sockWorld cst str) (selfOf s) shape (recv ch cl s req cst str) out := by
  rw [recv_eq_recvH, hk, ← hparse, ← h0]
  exact h

theorem recv_ok_recvBody {ty : String} (hk : req.kind = .body ty ∨ req.kind = .bodyOptFiles ty ∨ req.kind = .bodyFiles ty) {r : Reply}
    (h : (recv ch cl s req cst str).res = .ok r) : (recvBody ch cl ty cst str).res = .ok r :=
  recvH_ok_recvBody hk (recv_eq_recvH ch cl s req cst str ▸ h)

theorem recv_ok_payload {ty : String} (hk : req.kind = .body ty ∨ req.kind = .bodyOptFiles ty ∨ req.kind = .bodyFiles ty) {r : Reply}
    (h : (recv ch cl s req cst str).res = .ok r) : r.payload = [] := by
  obtain ⟨_, _, _, _, _, _, _, _, hpayload⟩ :=
    Props.C06.recvBody_ok_sound ch cl ty cst str r (recv_ok_recvBody ch cl s req cst str hk h)
  exact hpayload

/-! ## the readers -/

/-- **`recv_reply::<T>`** is `Model.Frontend.recv` for a `.body T` request: for every state, request (whose header is
`hb`), stream, chooser and closedness, and every fuel above the length of the stream -/
theorem recv_reply_matches (ty : String) (n : Nat) (hk : req.kind = .body ty) (hn : sizeOfTy ty = some n) (hsz : n ≤ 0x1000)
    (hb : Bytes) (hlen : hb.length = 12) (hparse : parseHdr hb = reqHdr s req) (F : Nat) (hF : str.length + 1 ≤ F) :
    viewOfExec (ImpFe.exec (stdEnv ch cl) (Gen.FeRecv.recvReply ty) F (hdrFrame hb) (selfOf s) (sockWorld cst str)) =
      viewOfModel (recv ch cl s req cst str) ∧
    (ImpFe.exec (stdEnv ch cl) (Gen.FeRecv.recvReply ty) F (hdrFrame hb) (selfOf s) (sockWorld cst str)).2.2.1 = selfOf s := by
  have hS := spec_of_req ch cl s req cst str
    (recv_reply_exec ch cl ty n hn hsz F (hdrFrame hb) (selfOf s) (sockWorld cst str) hF hlen rfl) hk rfl hparse
  refine view_of_spec hS rfl (fun r hr => ⟨rfl, (recv_ok_payload ch cl s req cst str (.inl hk) hr).symm, ?_⟩)
  have := (Props.C06.recv_ok_is_reply_for ch cl s req cst str r hr (by rw [hk]; trivial)).2
  rw [hk] at this
  exact this.symm

/-- **`recv_reply_with_optional_files::<T>`** is `Model.Frontend.recv` for a `.bodyOptFiles T` request -/
theorem recv_reply_with_optional_files_matches (ty : String) (n : Nat) (hk : req.kind = .bodyOptFiles ty) (hn : sizeOfTy ty = some n)
    (hsz : n ≤ 0x1000) (hb : Bytes) (hlen : hb.length = 12) (hparse : parseHdr hb = reqHdr s req) (F : Nat) (hF : str.length + 1 ≤ F) :
    viewOfExec (ImpFe.exec (stdEnv ch cl) (Gen.FeRecv.recvReplyWithOptionalFiles ty) F (hdrFrame hb) (selfOf s) (sockWorld cst str)) =
      viewOfModel (recv ch cl s req cst str) ∧
    (ImpFe.exec (stdEnv ch cl) (Gen.FeRecv.recvReplyWithOptionalFiles ty) F (hdrFrame hb) (selfOf s) (sockWorld cst str)).2.2.1 = selfOf s := by
  have hS := spec_of_req ch cl s req cst str
    (recv_reply_with_optional_files_exec ch cl ty n hn hsz F (hdrFrame hb) (selfOf s) (sockWorld cst str) hF hlen rfl) hk rfl hparse
  exact view_of_spec hS rfl (fun r hr => ⟨rfl, (recv_ok_payload ch cl s req cst str (.inr (.inl hk)) hr).symm, rfl⟩)

/-- **`recv_reply_with_files::<T>`** is `Model.Frontend.recv` for a `.bodyFiles T` request -/
theorem recv_reply_with_files_matches (ty : String) (n : Nat) (hk : req.kind = .bodyFiles ty) (hn : sizeOfTy ty = some n)
    (hsz : n ≤ 0x1000) (hb : Bytes) (hlen : hb.length = 12) (hparse : parseHdr hb = reqHdr s req) (F : Nat) (hF : str.length + 1 ≤ F) :
    viewOfExec (ImpFe.exec (stdEnv ch cl) (Gen.FeRecv.recvReplyWithFiles ty) F (hdrFrame hb) (selfOf s) (sockWorld cst str)) =
      viewOfModel (recv ch cl s req cst str) ∧
    (ImpFe.exec (stdEnv ch cl) (Gen.FeRecv.recvReplyWithFiles ty) F (hdrFrame hb) (selfOf s) (sockWorld cst str)).2.2.1 = selfOf s := by
  have hS := spec_of_req ch cl s req cst str
    (recv_reply_with_files_exec ch cl ty n hn hsz F (hdrFrame hb) (selfOf s) (sockWorld cst str) hF hlen rfl) hk rfl hparse
  exact view_of_spec hS rfl (fun r hr => ⟨rfl, (recv_ok_payload ch cl s req cst str (.inr (.inr hk)) hr).symm, rfl⟩)

/-- **`recv_reply_with_payload::<T>`** is `Model.Frontend.recv` for a `.payload T` request: the window checks on the
request size, the fixed part by `recv_body::<T>`, then exactly `reply.get_size() - size_of::<T>()` payload bytes by
`recv_data` (never more than the request announced) -/
theorem recv_reply_with_payload_matches (ty : String) (n : Nat) (hk : req.kind = .payload ty) (hn : sizeOfTy ty = some n)
    (hsz : n ≤ 0x1000) (hb : Bytes) (hlen : hb.length = 12) (hparse : parseHdr hb = reqHdr s req) (F : Nat) (hF : str.length + 1 ≤ F) :
    viewOfExec (ImpFe.exec (stdEnv ch cl) (Gen.FeRecv.recvReplyWithPayload ty) F (hdrFrame hb) (selfOf s) (sockWorld cst str)) =
      viewOfModel (recv ch cl s req cst str) ∧
    (ImpFe.exec (stdEnv ch cl) (Gen.FeRecv.recvReplyWithPayload ty) F (hdrFrame hb) (selfOf s) (sockWorld cst str)).2.2.1 = selfOf s := by
  have hS := spec_of_req ch cl s req cst str
    (recv_reply_with_payload_exec ch cl ty n hn hsz F (hdrFrame hb) (selfOf s) (sockWorld cst str) hF hlen rfl) hk rfl hparse
  exact view_of_spec hS rfl (fun r hr => ⟨rfl, rfl, rfl⟩)

/-- **`wait_for_ack`** is `Model.Frontend.recv` for an `.ack` request (the value of an accepted acknowledgement is not
returned: `View.unit`): no read at all unless REPLY_ACK is acknowledged and the request carries NEED_REPLY -/
theorem wait_for_ack_matches (hk : req.kind = .ack)
    (hb : Bytes) (hlen : hb.length = 12) (hparse : parseHdr hb = reqHdr s req) (F : Nat) (hF : str.length + 1 ≤ F) :
    viewOfExec (ImpFe.exec (stdEnv ch cl) Gen.FeRecv.waitForAck F (hdrFrame hb) (selfOf s) (sockWorld cst str)) =
      (viewOfModel (recv ch cl s req cst str)).unit ∧
    (ImpFe.exec (stdEnv ch cl) Gen.FeRecv.waitForAck F (hdrFrame hb) (selfOf s) (sockWorld cst str)).2.2.1 = selfOf s := by
  have hS := spec_of_req ch cl s req cst str
    (wait_for_ack_exec ch cl F (hdrFrame hb) (selfOf s) (sockWorld cst str) hF hlen rfl) hk rfl hparse
  refine (view_of_exec hS rfl).imp (fun e => e.trans ?_) id
  unfold viewOfModel View.unit
  cases (recv ch cl s req cst str).res <;> rfl

end readers
/-! ## what the API methods do with the reply -/

/-- the shape of an API method's `Ok(..)` value -/
inductive RetKind where
  | unit | val | config | inflight | file | optFile | shmem

/-- an `Ok(..)` value of the interpreter as the model's `Ret` -/
def decodeOk : RetKind → FVal → Ret
  | .unit, _ => .unit
  | .val, v => .val (v.nats.getD 0 0)
  | .config, v =>
    .config (Model.Frontend.g (v.bufs.getD 0 []) "VhostUserConfig" ["offset"]) (Model.Frontend.g (v.bufs.getD 0 []) "VhostUserConfig" ["size"])
      (Model.Frontend.g (v.bufs.getD 0 []) "VhostUserConfig" ["flags"]) (v.bufs.getD 1 [])
  | .inflight, v =>
    match v.file with
    | some f => .inflight (Model.Frontend.g (v.bufs.getD 0 []) "VhostUserInflight" ["mmap_size"])
        (Model.Frontend.g (v.bufs.getD 0 []) "VhostUserInflight" ["mmap_offset"])
        (Model.Frontend.g (v.bufs.getD 0 []) "VhostUserInflight" ["num_queues"])
        (Model.Frontend.g (v.bufs.getD 0 []) "VhostUserInflight" ["queue_size"]) f
    | none => .err .other
  | .file, v => match v.file with | some f => .file f | none => .err .other
  | .optFile, v => match v.file with | some f => .file f | none => .noFile
  | .shmem, v => .shmem (Model.Frontend.g (v.bufs.getD 0 []) "VhostUserShMemConfig" ["nregions"]) (((v.bufs.getD 0 []).drop 8).take 2048)

/-- returned value / error, and the node afterwards -/
def retOf {σ : Type} (k : RetKind) (out : FRes σ) : Ret × FSt :=
  (match out.1 with
   | .done (.ok v) => decodeOk k v
   | .done (.err e) => .err (errMap e)
   | .stuck .blocked _ => .blocked
   | _ => .err .other, fstOf out.2.2.1)

def FinishSpec {σ : Type} (k : RetKind) (out : FRes σ) (w : World σ) (res : Ret × FSt) (extra : List Fd) : Prop :=
  retOf k out = res ∧ out.2.2.2 = { w with closed := w.closed ++ extra }

theorem FinishSpec.of_and {σ : Type} {k : RetKind} {out : FRes σ} {w : World σ} {res : Ret × FSt}
    (h : retOf k out = res ∧ out.2.2.2 = w) : FinishSpec k out w res [] :=
  ⟨h.1, h.2.trans (by rw [List.append_nil])⟩

section finish
variable {σ : Type} (ch : Chooser σ) (cl : Bool) (s : FSt) (a : List Nat) (pl : Bytes) (fds : List Fd) (bad : Bool)
  (regs : List (Nat × Nat × Nat × Nat × Bool)) (r : Reply) (F : Nat) (fr : FFrame) (sf : Self) (w : World σ)

theorem std_field (b : Bytes) (st : String) (p : List String) : (stdEnv ch cl).fieldVal b st p = Model.Frontend.g b st p := rfl

theorem finish_matches_get_features (hr : r.body.length = 8) (hval : fr.b Gen.FeRecv.Api.GetFeatures.val.id = r.body) :
    FinishSpec .val (ImpFe.exec (stdEnv ch cl) Gen.FeRecv.Api.GetFeatures.finish F fr (selfOf s) w) w
      (finish s ⟨"get_features", a, pl, fds, bad, regs⟩ r) [] := by
  refine .of_and ?_
  unfold Gen.FeRecv.Api.GetFeatures.finish
  simp only [exec_seq, andThen_normal, exec_assignSelf, exec_ret, evalX, evalXs, evalFd, std_field, hval, g_u64_value _ hr]
  exact ⟨rfl, trivial⟩

/-- what `take_single_file(files)` closes: every file unless there is exactly one -/
def dropsOf (files : Option (List Fd)) : List Fd :=
  match files with
  | some [_] => []
  | some l => l
  | none => []

/-- **`take_single_file`** (mod.rs) is `Model.Frontend.takeSingle`; with a count other than one every file is dropped -/
theorem take_single_file_exec (env : FEnv σ) :
    ∃ fr', ImpFe.exec env Gen.FeRecv.TakeSingleFile.fnBody F fr sf w =
      (.done (.ok { file := takeSingle (fr.f 0) }), fr', sf, { w with closed := w.closed ++ dropsOf (fr.f 0) }) := by
  unfold Gen.FeRecv.TakeSingleFile.fnBody
  -- `None`, no file, one, several: in each case the `@[simp]` rules of `exec` run the term to its `return`
  rcases hf : fr.f 0 with _ | _ | ⟨x, _ | ⟨y, t⟩⟩ <;>
    simp [exec_takeFd, evalC, evalX, evalXs, evalFd, hf, swapRemove, takeSingle, dropsOf]

theorem callFe_takeSingle (env : FEnv σ) (nm : String) (files res : Var) :
    ImpFe.exec env (.callFe nm Gen.FeRecv.TakeSingleFile.fnBody [] [] [(Gen.FeRecv.TakeSingleFile.files, files)] res) F fr sf w =
      (.normal, { fr with f := upd fr.f files.id none, r := upd fr.r res.id (.ok { file := takeSingle (fr.f files.id) }) }, sf,
        { w with closed := w.closed ++ dropsOf (fr.f files.id) }) := by
  obtain ⟨fr0, h⟩ := take_single_file_exec F { n := fun _ => 0, b := fun _ => [], f := upd (fun _ => none) 0 (fr.f files.id) } sf w env
  rw [exec_callFe]
  simp only [argsN, argsB, argsF, movedF, h, upd_apply, if_true]

theorem finish_matches_get_protocol_features (hr : r.body.length = 8) (hval : fr.b Gen.FeRecv.Api.GetProtocolFeatures.val.id = r.body) :
    FinishSpec .val (ImpFe.exec (stdEnv ch cl) Gen.FeRecv.Api.GetProtocolFeatures.finish F fr (selfOf s) w) w
      (finish s ⟨"get_protocol_features", a, pl, fds, bad, regs⟩ r) [] := by
  refine .of_and ?_
  unfold Gen.FeRecv.Api.GetProtocolFeatures.finish
  simp only [exec_seq, andThen_normal, exec_assignSelf, exec_ret, evalX, evalXs, evalFd, std_field, hval, g_u64_value _ hr]
  exact ⟨rfl, trivial⟩

theorem finish_matches_get_queue_num (hr : r.body.length = 8) (hval : fr.b Gen.FeRecv.Api.GetQueueNum.val.id = r.body) :
    FinishSpec .val (ImpFe.exec (stdEnv ch cl) Gen.FeRecv.Api.GetQueueNum.finish F fr (selfOf s) w) w
      (finish s ⟨"get_queue_num", a, pl, fds, bad, regs⟩ r) [] := by
  refine .of_and ?_
  have hf : finish s ⟨"get_queue_num", a, pl, fds, bad, regs⟩ r =
      if Base.leVal r.body > 0x8000 then (.err .invalidMsg, s) else (.val (Base.leVal r.body), { s with maxQ := Base.leVal r.body }) := rfl
  unfold Gen.FeRecv.Api.GetQueueNum.finish
  simp only [exec_seq, exec_ite, evalC, evalX, std_field, hval, g_u64_value _ hr, hf]
  by_cases hgt : Base.leVal r.body > 0x8000
  · simp only [hgt, decide_true, if_true, exec_retErr, evalErr, andThen_done]
    exact ⟨rfl, trivial⟩
  · simp only [hgt, decide_false, if_false, exec_skip, andThen_normal, exec_seq, exec_assignSelf, exec_ret, evalX, evalXs, evalFd, std_field,
      hval, g_u64_value _ hr]
    exact ⟨rfl, trivial⟩

theorem finish_matches_get_vring_base (hval : fr.b Gen.FeRecv.Api.GetVringBase.reply.id = r.body) :
    FinishSpec .val (ImpFe.exec (stdEnv ch cl) Gen.FeRecv.Api.GetVringBase.finish F fr (selfOf s) w) w
      (finish s ⟨"get_vring_base", a, pl, fds, bad, regs⟩ r) [] := by
  refine .of_and ?_
  unfold Gen.FeRecv.Api.GetVringBase.finish
  simp only [exec_ret, evalX, evalXs, evalFd, std_field, hval]
  exact ⟨rfl, trivial⟩

theorem finish_matches_get_max_mem_slots (hr : r.body.length = 8) (hval : fr.b Gen.FeRecv.Api.GetMaxMemSlots.val.id = r.body) :
    FinishSpec .val (ImpFe.exec (stdEnv ch cl) Gen.FeRecv.Api.GetMaxMemSlots.finish F fr (selfOf s) w) w
      (finish s ⟨"get_max_mem_slots", a, pl, fds, bad, regs⟩ r) [] := by
  refine .of_and ?_
  unfold Gen.FeRecv.Api.GetMaxMemSlots.finish
  simp only [exec_ret, evalX, evalXs, evalFd, std_field, hval, g_u64_value _ hr]
  exact ⟨rfl, trivial⟩

theorem finish_matches_check_device_state (hr : r.body.length = 8) (hval : fr.b Gen.FeRecv.Api.CheckDeviceState.body.id = r.body) :
    FinishSpec .unit (ImpFe.exec (stdEnv ch cl) Gen.FeRecv.Api.CheckDeviceState.finish F fr (selfOf s) w) w
      (finish s ⟨"check_device_state", a, pl, fds, bad, regs⟩ r) [] := by
  refine .of_and ?_
  have hf : finish s ⟨"check_device_state", a, pl, fds, bad, regs⟩ r =
      if Base.leVal r.body != 0 then (.err .backendInternal, s) else (.unit, s) := rfl
  unfold Gen.FeRecv.Api.CheckDeviceState.finish
  simp only [exec_seq, exec_skip, exec_ite, exec_retErr, evalC, evalX, std_field, hval, g_u64_value _ hr, ne_zero_dec, hf]
  cases Base.leVal r.body != 0 <;> exact ⟨rfl, rfl⟩

theorem finish_matches_set_log_base :
    FinishSpec .unit (ImpFe.exec (stdEnv ch cl) Gen.FeRecv.Api.SetLogBase.finish F fr (selfOf s) w) w
      (finish s ⟨"set_log_base", a, pl, fds, bad, regs⟩ r) [] := by
  refine .of_and ?_
  exact ⟨rfl, rfl⟩

theorem finish_matches_get_shmem_config (hval : fr.b Gen.FeRecv.Api.GetShmemConfig.config.id = r.body) :
    FinishSpec .shmem (ImpFe.exec (stdEnv ch cl) Gen.FeRecv.Api.GetShmemConfig.finish F fr (selfOf s) w) w
      (finish s ⟨"get_shmem_config", a, pl, fds, bad, regs⟩ r) [] := by
  refine .of_and ?_
  unfold Gen.FeRecv.Api.GetShmemConfig.finish
  simp only [exec_ret, evalXs, evalFd, List.map, hval]
  exact ⟨rfl, trivial⟩

/-- `get_shared_object`, `postcopy_advise` (one term): `take_single_file(files)`: the file, or `IncorrectFds`; the files of a
reply with several are closed -/
theorem finish_matches_file (name : String)
    (hname : finish s ⟨name, a, pl, fds, bad, regs⟩ r = (match takeSingle r.files with | some f => .file f | none => .err .incorrectFds, s))
    (hfiles : fr.f Gen.FeRecv.Api.GetSharedObject.files.id = r.files) :
    FinishSpec .file (ImpFe.exec (stdEnv ch cl) Gen.FeRecv.Api.GetSharedObject.finish F fr (selfOf s) w) w
      (finish s ⟨name, a, pl, fds, bad, regs⟩ r) (dropsOf r.files) := by
  show _ ∧ _
  have hv : fr.f 0 = r.files := hfiles
  unfold Gen.FeRecv.Api.GetSharedObject.finish
  rw [hname, exec_seq, callFe_takeSingle]
  simp only [andThen_normal, exec_matchFile, upd_apply, reduceIte, hv]
  cases ht : takeSingle r.files <;>
    simp [exec_ret, exec_retErr, evalErr, evalXs, evalFd, retOf, decodeOk, fstOf, selfOf, errMap]

theorem finish_matches_get_inflight_fd (hfiles : fr.f Gen.FeRecv.Api.GetInflightFd.files.id = r.files)
    (hval : fr.b Gen.FeRecv.Api.GetInflightFd.inflight_buf.id = r.body) :
    FinishSpec .inflight (ImpFe.exec (stdEnv ch cl) Gen.FeRecv.Api.GetInflightFd.finish F fr (selfOf s) w) w
      (finish s ⟨"get_inflight_fd", a, pl, fds, bad, regs⟩ r) (dropsOf r.files) := by
  show _ ∧ _
  have hv : fr.f 0 = r.files := hfiles
  have hb : fr.b 2 = r.body := hval
  unfold Gen.FeRecv.Api.GetInflightFd.finish
  rw [exec_seq, callFe_takeSingle]
  simp only [andThen_normal, exec_matchFile, upd_apply, reduceIte, hv]
  cases ht : takeSingle r.files <;>
    simp [exec_ret, exec_retErr, evalErr, evalXs, evalFd, retOf, decodeOk, fstOf, selfOf, finish, ht, errMap, hb]

/-- what `set_device_state_fd` closes while post-processing -/
def devStateDrops (r : Reply) : List Fd :=
  if Base.leVal r.body = 0x100 ∧ r.files = none then []
  else if Base.leVal r.body = 0 ∧ r.files.isSome then dropsOf r.files else r.files.getD []

/-- `set_device_state_fd`: `0x100` without descriptors = no file; `0` with descriptors = the single file (or
`IncorrectFds`); anything else — in particular the invalid-fd bit set *with* a descriptor, or clear *without* one —
is `BackendInternalError`, and the descriptors are closed -/
theorem finish_matches_set_device_state_fd (hr : r.body.length = 8) (hfiles : fr.f Gen.FeRecv.Api.SetDeviceStateFd.files.id = r.files)
    (hval : fr.b Gen.FeRecv.Api.SetDeviceStateFd.body_buf.id = r.body) :
    FinishSpec .optFile (ImpFe.exec (stdEnv ch cl) Gen.FeRecv.Api.SetDeviceStateFd.finish F fr (selfOf s) w) w
      (finish s ⟨"set_device_state_fd", a, pl, fds, bad, regs⟩ r) (devStateDrops r) := by
  show _ ∧ _ = { w with closed := w.closed ++ if _ then _ else _ }
  unfold Gen.FeRecv.Api.SetDeviceStateFd.finish
  simp only [exec_seq, exec_assign, exec_ite, andThen_normal, ↓evalC_and, evalC, evalX, std_field, hval, g_u64_value _ hr, upd_apply, if_true,
    hfiles, Option.map_some, Option.bind_some, ite_some_and, eq_dec]
  cases h1 : (Base.leVal r.body == 256 && !r.files.isSome)
  · cases h0 : (Base.leVal r.body == 0 && r.files.isSome)
    · have h1' : ¬(Base.leVal r.body = 256 ∧ r.files = none) := by simpa [Option.isSome_iff_ne_none] using h1
      have h0' : ¬(Base.leVal r.body = 0 ∧ r.files.isSome = true) := by simpa using h0
      simp [evalErr, retOf, fstOf, selfOf, finish, errMap, hfiles, h0, h1', h0']
    · have h1' : ¬(Base.leVal r.body = 256 ∧ r.files = none) := by simpa [Option.isSome_iff_ne_none] using h1
      have h0' : Base.leVal r.body = 0 ∧ r.files.isSome = true := by simpa using h0
      simp only []
      rw [callFe_takeSingle]
      simp only [andThen_normal, exec_matchFile, upd_apply, if_true, hfiles]
      cases ht : takeSingle r.files <;>
        simp [exec_ret, evalErr, evalXs, evalFd, retOf, decodeOk, fstOf, selfOf, finish, ht, errMap, h0']
  · have h1' : Base.leVal r.body = 256 ∧ r.files = none := by simpa [Option.isSome_iff_ne_none] using h1
    simp [exec_ret, evalXs, evalFd, retOf, decodeOk, fstOf, selfOf, finish, hfiles, h1']

/-- `get_config`: the reply's `size` must be non-zero (`BackendInternalError` otherwise), equal to the request's `size` and
to `buf.len()`, its `offset` the request's, and the payload as long as `buf` (`InvalidMessage` otherwise).  `body` = the
request struct built before the send, `buf` = the caller's buffer; the model keeps them as `op.a = [offset, size, flags,
buf.len()]` -/
theorem finish_matches_get_config (roff rsz fl blen : Nat) (hfiles : fr.f Gen.FeRecv.Api.GetConfig.rfds.id = r.files)
    (hnone : r.files = none) (hbody : fr.b Gen.FeRecv.Api.GetConfig.body_reply.id = r.body)
    (hpay : fr.b Gen.FeRecv.Api.GetConfig.buf_reply.id = r.payload)
    (hsize : Model.Frontend.g (fr.b Gen.FeRecv.Api.GetConfig.body.id) "VhostUserConfig" ["size"] = rsz)
    (hoff : Model.Frontend.g (fr.b Gen.FeRecv.Api.GetConfig.body.id) "VhostUserConfig" ["offset"] = roff)
    (hbuf : (fr.b Gen.FeRecv.Api.GetConfig.buf.id).length = blen) :
    FinishSpec .config (ImpFe.exec (stdEnv ch cl) Gen.FeRecv.Api.GetConfig.finish F fr (selfOf s) w) w
      (finish s ⟨"get_config", [roff, rsz, fl, blen], pl, fds, bad, regs⟩ r) [] := by
  refine .of_and ?_
  have h1 : fr.f Gen.FeRecv.Api.GetConfig.rfds.id = none := hnone ▸ hfiles
  unfold Gen.FeRecv.Api.GetConfig.finish
  simp only [exec_seq, exec_ite, ↓evalC_or, evalC, evalX, std_field, h1, hbody, hpay, hsize, hoff, hbuf, Option.isSome_none,
    Option.bind_some, ite_some_or, decide_not, eq_dec]
  cases hz : Model.Frontend.g r.body "VhostUserConfig" ["size"] == 0
  · cases hbad : (!Model.Frontend.g r.body "VhostUserConfig" ["size"] == rsz || !Model.Frontend.g r.body "VhostUserConfig" ["size"] == blen ||
        !Model.Frontend.g r.body "VhostUserConfig" ["offset"] == roff || !r.payload.length == blen)
    · simp [exec_ret, evalXs, evalFd, retOf, decodeOk, fstOf, selfOf, finish, h1, hbody, hpay, hz, hbad, bne]
    · simp [evalErr, retOf, fstOf, selfOf, finish, errMap, h1, hz, hbad, bne]
  · simp [evalErr, retOf, fstOf, selfOf, finish, errMap, h1, hz]

/-- where source and model are phrased differently: `get_config` re-tests the descriptors after `recv_reply_with_payload`
(`InvalidMessage`, the files are closed); `Model.Frontend.finish` has no such test.  Not observable: the reader never
returns descriptors (`recv_reply_with_payload_matches` + `Props.C06.recv_ok_is_reply_for`). -/
theorem finish_get_config_files_source (l : List Fd) (hfiles : fr.f Gen.FeRecv.Api.GetConfig.rfds.id = some l) :
    (retOf .config (ImpFe.exec (stdEnv ch cl) Gen.FeRecv.Api.GetConfig.finish F fr (selfOf s) w)).1 = .err .invalidMsg ∧
    (ImpFe.exec (stdEnv ch cl) Gen.FeRecv.Api.GetConfig.finish F fr (selfOf s) w).2.2.2 = { w with closed := w.closed ++ l } := by
  have h1 : fr.f 0 = some l := hfiles
  simp [Gen.FeRecv.Api.GetConfig.finish, exec_seq, exec_ite, evalC, h1, exec_dropF, exec_retErr, evalErr, retOf, errMap]

theorem finish_get_config_files_model :
    ∃ (s : FSt) (op : Op) (r : Reply), op.name = "get_config" ∧ r.files = some [7] ∧
      (finish s op r).1 = .config 0 4 0 [1, 2, 3, 4] :=
  ⟨{}, ⟨"get_config", [0, 4, 0, 4], [], [], false, []⟩,
    ⟨⟨24, 5, 16⟩, Model.Frontend.u32 0 ++ Model.Frontend.u32 4 ++ Model.Frontend.u32 0, [1, 2, 3, 4], some [7]⟩, rfl, rfl, by rfl⟩

/-! ### the methods that only wait for the acknowledgement -/

/-- `node.wait_for_ack(&hdr).map_err(|e| e.into())`: `Ok(())`, or the reader's error -/
theorem finish_matches_ack (name : String) (hname : finish s ⟨name, a, pl, fds, bad, regs⟩ r = (.unit, s))
    (hres : fr.r Gen.FeRecv.Api.SetFeatures.r_wait_for_ack.id = .ok {}) :
    retOf .unit (ImpFe.exec (stdEnv ch cl) Gen.FeRecv.Api.SetFeatures.finish F fr (selfOf s) w) = finish s ⟨name, a, pl, fds, bad, regs⟩ r ∧
    (ImpFe.exec (stdEnv ch cl) Gen.FeRecv.Api.SetFeatures.finish F fr (selfOf s) w).2.2.2 = w := by
  have h : fr.r 0 = .ok {} := hres
  rw [hname]
  simp [Gen.FeRecv.Api.SetFeatures.finish, exec_matchOk, h, exec_ret, evalXs, evalFd, retOf, decodeOk, fstOf, selfOf]

/-- the reader's error is handed on -/
theorem finish_ack_error (e : FErr) (hres : fr.r Gen.FeRecv.Api.SetFeatures.r_wait_for_ack.id = .err e) :
    (ImpFe.exec (stdEnv ch cl) Gen.FeRecv.Api.SetFeatures.finish F fr (selfOf s) w).1 = .done (.err e) := by
  have h : fr.r 0 = .err e := hres
  simp [Gen.FeRecv.Api.SetFeatures.finish, exec_matchOk, h, exec_retErr, evalErr, errOfR]

end finish

/-- the methods whose reader is `wait_for_ack`, from the generated table -/
def ackMethods : List String := (Gen.FeRecv.apiReaders.filter (fun x => x.2.1 == "wait_for_ack")).map (·.1)

/-- all of them post-process the acknowledgement with the same term … -/
theorem ack_finish_terms :
    [Gen.FeRecv.Api.SetFeatures.finish, Gen.FeRecv.Api.SetOwner.finish, Gen.FeRecv.Api.ResetOwner.finish, Gen.FeRecv.Api.SetMemTable.finish,
     Gen.FeRecv.Api.SetLogFd.finish, Gen.FeRecv.Api.SetVringNum.finish, Gen.FeRecv.Api.SetVringAddr.finish, Gen.FeRecv.Api.SetVringBase.finish,
     Gen.FeRecv.Api.SetVringCall.finish, Gen.FeRecv.Api.SetVringKick.finish, Gen.FeRecv.Api.SetVringErr.finish,
     Gen.FeRecv.Api.SetProtocolFeatures.finish, Gen.FeRecv.Api.ResetDevice.finish, Gen.FeRecv.Api.SetVringEnable.finish,
     Gen.FeRecv.Api.SetConfig.finish, Gen.FeRecv.Api.SetBackendRequestFd.finish, Gen.FeRecv.Api.SetInflightFd.finish,
     Gen.FeRecv.Api.AddMemRegion.finish, Gen.FeRecv.Api.RemoveMemRegion.finish, Gen.FeRecv.Api.PostcopyListen.finish,
     Gen.FeRecv.Api.PostcopyEnd.finish] = List.replicate 21 Gen.FeRecv.Api.SetFeatures.finish := rfl

/-- … these are all the `wait_for_ack` methods of the source (the Rust names; `set_backend_request_fd` is the model's
`set_backend_req_fd`) … -/
theorem ack_methods_listed :
    ackMethods = ["set_features", "set_owner", "reset_owner", "set_mem_table", "set_log_fd", "set_vring_num", "set_vring_addr",
      "set_vring_base", "set_vring_call", "set_vring_kick", "set_vring_err", "set_protocol_features", "reset_device",
      "set_vring_enable", "set_config", "set_backend_request_fd", "set_inflight_fd", "add_mem_region", "remove_mem_region",
      "postcopy_listen", "postcopy_end"] := by decide +kernel

/-- … and for each of them `Model.Frontend.finish` is `(.unit, s)` -/
theorem ack_methods_finish_unit (s : FSt) (a : List Nat) (pl : Bytes) (fds : List Fd) (bad : Bool)
    (regs : List (Nat × Nat × Nat × Nat × Bool)) (r : Reply) :
    ∀ name ∈ ackMethods.map (fun n => if n = "set_backend_request_fd" then "set_backend_req_fd" else n),
      finish s ⟨name, a, pl, fds, bad, regs⟩ r = (.unit, s) := by
  rw [ack_methods_listed]
  intro name hm
  simp only [List.map, List.mem_cons, List.not_mem_nil, or_false] at hm
  rcases hm with h | h | h | h | h | h | h | h | h | h | h | h | h | h | h | h | h | h | h | h | h <;> subst h <;> rfl

/-! ## the header accessors, `take_single_file`, the small helpers -/

section helpers
variable {σ : Type} (ch : Chooser σ) (cl : Bool) (fr : FFrame) (sf : Self) (F : Nat) (w : World σ)

/-- **`take_single_file`**: `Some(file)` for exactly one file, `None` otherwise (`Model.Frontend.takeSingle`); every file
of a list of another length is closed -/
theorem take_single_file_matches (files : Option (List Fd)) (hf : fr.f Gen.FeRecv.TakeSingleFile.files.id = files) :
    (ImpFe.exec (stdEnv ch cl) Gen.FeRecv.takeSingleFile F fr sf w).1 = .done (.ok { file := takeSingle files }) ∧
    (ImpFe.exec (stdEnv ch cl) Gen.FeRecv.takeSingleFile F fr sf w).2.2.2 = { w with closed := w.closed ++ dropsOf files } := by
  obtain ⟨fr', h⟩ := take_single_file_exec F fr sf w (stdEnv ch cl)
  subst hf
  rw [show Gen.FeRecv.takeSingleFile = Gen.FeRecv.TakeSingleFile.fnBody from rfl, h]
  exact ⟨rfl, rfl⟩

/-- **`check_state`**: `Err(SocketBroken(from_raw_os_error(e)))` iff `self.error` is `Some(e)`; nothing else changes -/
theorem check_state_matches :
    (ImpFe.exec (stdEnv ch cl) Gen.FeRecv.checkState F fr sf w).1 =
      (match sf.error with
       | none => .done (.ok {})
       | some e => .done (.err (.conn (.sock .broken e)))) ∧
    (ImpFe.exec (stdEnv ch cl) Gen.FeRecv.checkState F fr sf w).2.2 = (sf, w) :=
  check_state_spec (stdEnv ch cl) F fr sf w

/-- **`check_feature(feat)`** for a single-bit `feat`: `Ok` iff the bit is set in the *offered* virtio features
(`Model.Frontend.request`: `bitSet s.virtio 30`) -/
theorem check_feature_matches (s : FSt) (bit : Nat) (hfeat : fr.n Gen.FeRecv.CheckFeature.feat.id = 2 ^ bit) :
    (ImpFe.exec (stdEnv ch cl) Gen.FeRecv.checkFeature F fr (selfOf s) w).1 =
      (if bitSet s.virtio bit then .done (.ok {}) else .done (.err (.inactiveFeature (2 ^ bit)))) := by
  have h : fr.n 0 = 2 ^ bit := hfeat
  have hb := Lemmas.Helpers.and_two_pow_bne_zero s.virtio bit
  unfold Gen.FeRecv.checkFeature Gen.FeRecv.CheckFeature.fnBody
  rw [exec_ite]
  simp only [evalC, evalX, Self.get, selfOf, h, ne_zero_dec, hb, bitSet]
  by_cases hx : s.virtio.testBit bit = true <;> simp [hx, exec_ret, exec_retErr, evalErr, evalX, evalXs, evalFd, h]

/-- **`check_proto_feature(feat)`** for a single-bit `feat`: `Ok` iff the bit is set in the *acknowledged* protocol
features (`Model.Frontend.hasProto`) -/
theorem check_proto_feature_matches (s : FSt) (bit : Nat) (hfeat : fr.n Gen.FeRecv.CheckProtoFeature.feat.id = 2 ^ bit) :
    (ImpFe.exec (stdEnv ch cl) Gen.FeRecv.checkProtoFeature F fr (selfOf s) w).1 =
      (if Model.Frontend.hasProto s bit then .done (.ok {}) else .done (.err (.inactiveOperation (2 ^ bit)))) := by
  have h : fr.n 0 = 2 ^ bit := hfeat
  have hb := Lemmas.Helpers.and_two_pow_bne_zero s.ackedProto bit
  unfold Gen.FeRecv.checkProtoFeature Gen.FeRecv.CheckProtoFeature.fnBody
  rw [exec_ite]
  simp only [evalC, evalX, Self.get, selfOf, h, ne_zero_dec, hb, Model.Frontend.hasProto, bitSet]
  by_cases hx : s.ackedProto.testBit bit = true <;> simp [hx, exec_ret, exec_retErr, evalErr, evalX, evalXs, evalFd, h]

/-- **`new_request_header(request, size)`** (through the translated `VhostUserMsgHeader::new`): the 12 bytes the model
puts on the wire — code, `(hdr_flags | 1) & ALL_FLAGS | 1`, size -/
theorem new_request_header_matches (s : FSt) (code size : Nat) (h1 : fr.n Gen.FeRecv.NewRequestHeader.request.id = code)
    (h2 : fr.n Gen.FeRecv.NewRequestHeader.size.id = size) :
    (ImpFe.exec (stdEnv ch cl) Gen.FeRecv.newRequestHeader F fr (selfOf s) w).1 =
      .done (.ok { bufs := [encHdr code (reqFlags s) size] }) := by
  have e1 : fr.n 0 = code := h1
  have e2 : fr.n 1 = size := h2
  simp [Gen.FeRecv.newRequestHeader, Gen.FeRecv.NewRequestHeader.fnBody, Gen.FeRecv.HdrNew.fnBody, exec_seq, exec_callFe, argsN, argsB,
    argsF, movedF, evalX, Self.get, selfOf, exec_assign, exec_mkBuf, evalFields, exec_ret, evalXs, evalFd, exec_matchOk, upd_apply, e1,
    e2, encHdr, reqFlags, Model.BackendSrv.hdrNewFlags]

/-- the header of a request the model builds, as the 12 bytes the readers are called with -/
theorem hdr_of_request (s : FSt) (req : Req) (hc : req.code < 2 ^ 32) (hs : req.body.length < 2 ^ 32) :
    (encHdr req.code (reqFlags s) req.body.length).length = 12 ∧
    parseHdr (encHdr req.code (reqFlags s) req.body.length) = reqHdr s req := by
  have hf : reqFlags s < 2 ^ 32 := by have := (Props.C01.request_header_flags s).2.1; omega
  exact ⟨Lemmas.BackendChannel.encHdr_length _ _ _, Lemmas.BackendChannel.parseHdr_encHdr _ _ _ hc hf hs⟩

end helpers

/-! ## reader call and post-processing together: `Model.Frontend.callRecv` -/

/-- what the second half of an API call amounts to -/
structure CallView (σ : Type) where
  ret : Ret
  st : FSt
  rest : List Cell
  cst : σ
  closed : List Fd

def callViewOfModel {σ : Type} (C : CallOut σ) : CallView σ := ⟨C.ret, C.st, C.rest, C.cst, C.closed⟩

def heldOf : FCtl → List Fd
  | .stuck .blocked inner => (inner.f 0).getD []
  | _ => []

def callViewOfExec {σ : Type} (k : RetKind) (out : FRes σ) : CallView σ :=
  ⟨(retOf k out).1, (retOf k out).2, out.2.2.2.stream, out.2.2.2.cst, out.2.2.2.closed ++ heldOf out.1⟩

/-- `Model.Frontend.callRecv` from the reader's result; `extra` = descriptors the source closes while post-processing
(which the model does not record) -/
def callOfRecv {σ : Type} (M : RecvOut σ) (s : FSt) (op : Op) (extra : Reply → List Fd) : CallView σ :=
  match M.res with
  | .blocked => ⟨.blocked, s, M.rest, M.cst, M.closed⟩
  | .err e => ⟨.err e, s, M.rest, M.cst, M.closed⟩
  | .ok rep => ⟨(finish s op rep).1, (finish s op rep).2, M.rest, M.cst, M.closed ++ extra rep⟩

theorem callView_callRecv {σ : Type} (ch : Chooser σ) (cl : Bool) (s : FSt) (op : Op) (req : Req) (cst : σ) (str : List Cell) :
    callViewOfModel (callRecv ch cl s op req cst str) = callOfRecv (recv ch cl s req cst str) s op (fun _ => []) := by
  unfold callRecv callOfRecv callViewOfModel
  generalize recv ch cl s req cst str = M
  rcases M with ⟨mres, mrest, mcst, mclosed⟩
  cases mres <;> simp

theorem heldOf_not_blocked (c : FCtl) (h : c.isBlocked = false) : heldOf c = [] := by
  cases c with
  | normal => rfl
  | done r => rfl
  | stuck s i => cases s <;> first | rfl | (simp [FCtl.isBlocked] at h)

/-- `let PAT = node.<reader>(&hdr)?; fin` -/
theorem post_of_reader {σ : Type} (env : FEnv σ) (k : RetKind) (nm : String) (callee : FStmt) (pH hdr res : Var) (okF : Option Var)
    (okB : List Var) (fin : FStmt) (F : Nat) (fr : FFrame) (s : FSt) (w : World σ) (hw : w.closed = []) (shape : Reply → FVal)
    (M : RecvOut σ) (op : Op) (extra : Reply → List Fd) (hnc : noConn fin = true)
    (hS : ReaderSpec w (selfOf s) shape M
      (ImpFe.exec env callee F { n := fun _ => 0, b := upd (fun _ => []) pH.id (fr.b hdr.id), f := fun _ => none } (selfOf s) w))
    (hfin : ∀ r (w' : World σ), M.res = .ok r →
      FinishSpec k (ImpFe.exec env fin F
        { fr with b := bindBs fr.b okB (shape r).bufs, f := okF.elim fr.f fun f => upd fr.f f.id (shape r).fds,
                  r := upd fr.r res.id (.ok (shape r)) } (selfOf s) w') w' (finish s op r) (extra r)) :
    callViewOfExec k (ImpFe.exec env
      (.seq (.seq (.callFe nm callee [] [(pH, hdr)] [] res) (.matchOk res [] okF okB none .skip (.retErr (.ofRes res)))) fin)
      F fr (selfOf s) w) = callOfRecv M s op extra := by
  obtain ⟨w2, q1, q2, ⟨r, hres, u, hx⟩ | ⟨fe, hres, u, hx⟩ | ⟨inner, hres, u, hx⟩⟩ :=
    reader_call env nm callee pH hdr res F fr (selfOf s) w shape M hS _ rfl
  all_goals rw [exec_seq, exec_seq, hx, callOfRecv, hres]
  · rw [andThen_normal, exec_try]
    simp only [upd_apply, if_true, bindNs_nil, andThen_normal]
    obtain ⟨f1, f2⟩ := hfin r w2 hres
    simp only [callViewOfExec, f1, f2, heldOf_not_blocked _ (noConn_not_blocked env fin hnc F _ _ w2), q1, q2, u, hw, List.nil_append,
      List.append_nil]
  · rw [andThen_normal, exec_try]
    simp [callViewOfExec, retOf, heldOf, q1, q2, u, hw, fstOf, selfOf]
  · simp [callViewOfExec, retOf, heldOf, q1, q2, u, hw, fstOf, selfOf]

section post
variable {σ : Type} (ch : Chooser σ) (cl : Bool) (s : FSt) (req : Req) (cst : σ) (str : List Cell)
  (a : List Nat) (pl : Bytes) (fds : List Fd) (bad : Bool) (regs : List (Nat × Nat × Nat × Nat × Bool))
  (hb : Bytes) (F : Nat) (fr : FFrame)

theorem post_of_recv_reply (op : Op) (k : RetKind) (hdr res body : Var) (fin : FStmt) (ty : String) (n : Nat)
    (hk : req.kind = .body ty) (hn : sizeOfTy ty = some n) (hsz : n ≤ 0x1000) (hlen : hb.length = 12)
    (hparse : parseHdr hb = reqHdr s req) (hF : str.length + 1 ≤ F) (hfr : fr.b hdr.id = hb) (hnc : noConn fin = true)
    (hfin : ∀ r (w' : World σ), r.body.length = n →
      FinishSpec k (ImpFe.exec (stdEnv ch cl) fin F
        { fr with b := upd fr.b body.id r.body, r := upd fr.r res.id (.ok { bufs := [r.body] }) } (selfOf s) w') w' (finish s op r) []) :
    callViewOfExec k (ImpFe.exec (stdEnv ch cl)
      (.seq (.seq (.callFe "recv_reply" (Gen.FeRecv.RecvReply.fnBody ty) [] [(Gen.FeRecv.RecvReply.hdr, hdr)] [] res)
        (.matchOk res [] none [body] none .skip (.retErr (.ofRes res)))) fin) F fr (selfOf s) (sockWorld cst str)) =
      callViewOfModel (callRecv ch cl s op req cst str) :=
  callView_callRecv ch cl s op req cst str ▸
    post_of_reader (stdEnv ch cl) k (hdr := hdr) (res := res) (okF := none) (okB := [body]) (fin := fin) (op := op) (hw := rfl) (hnc := hnc)
      (hS := spec_of_req ch cl s req cst str
        (recv_reply_exec ch cl ty n hn hsz F _ (selfOf s) (sockWorld cst str) hF (by rw [hfr]; exact hlen) rfl) hk hfr hparse)
      (hfin := fun r w' hr => hfin r w' (recvBody_ok_len ch cl ty n cst str r hn (recv_ok_recvBody ch cl s req cst str (.inl hk) hr))) ..

theorem post_matches_get_features (hk : req.kind = .body "VhostUserU64") (hlen : hb.length = 12) (hparse : parseHdr hb = reqHdr s req)
    (hF : str.length + 1 ≤ F) (hfr : fr.b Gen.FeRecv.Api.GetFeatures.hdr.id = hb) :
    callViewOfExec .val (ImpFe.exec (stdEnv ch cl) Gen.FeRecv.Api.GetFeatures.post F fr (selfOf s) (sockWorld cst str)) =
      callViewOfModel (callRecv ch cl s ⟨"get_features", a, pl, fds, bad, regs⟩ req cst str) :=
  post_of_recv_reply ch cl s req cst str hb F fr (k := .val) (ty := "VhostUserU64") (n := 8) (hk := hk) (hn := so_U64) (hsz := by decide)
    (hlen := hlen) (hparse := hparse) (hF := hF) (hfr := hfr) (hnc := rfl) (hfin := fun r w' hl =>
      finish_matches_get_features ch cl s a pl fds bad regs r F _ w' hl rfl) ..

theorem post_matches_get_protocol_features (hk : req.kind = .body "VhostUserU64") (hlen : hb.length = 12) (hparse : parseHdr hb = reqHdr s req)
    (hF : str.length + 1 ≤ F) (hfr : fr.b Gen.FeRecv.Api.GetProtocolFeatures.hdr.id = hb) :
    callViewOfExec .val (ImpFe.exec (stdEnv ch cl) Gen.FeRecv.Api.GetProtocolFeatures.post F fr (selfOf s) (sockWorld cst str)) =
      callViewOfModel (callRecv ch cl s ⟨"get_protocol_features", a, pl, fds, bad, regs⟩ req cst str) :=
  post_of_recv_reply ch cl s req cst str hb F fr (k := .val) (ty := "VhostUserU64") (n := 8) (hk := hk) (hn := so_U64) (hsz := by decide)
    (hlen := hlen) (hparse := hparse) (hF := hF) (hfr := hfr) (hnc := rfl) (hfin := fun r w' hl =>
      finish_matches_get_protocol_features ch cl s a pl fds bad regs r F _ w' hl rfl) ..

theorem post_matches_get_queue_num (hk : req.kind = .body "VhostUserU64") (hlen : hb.length = 12) (hparse : parseHdr hb = reqHdr s req)
    (hF : str.length + 1 ≤ F) (hfr : fr.b Gen.FeRecv.Api.GetQueueNum.hdr.id = hb) :
    callViewOfExec .val (ImpFe.exec (stdEnv ch cl) Gen.FeRecv.Api.GetQueueNum.post F fr (selfOf s) (sockWorld cst str)) =
      callViewOfModel (callRecv ch cl s ⟨"get_queue_num", a, pl, fds, bad, regs⟩ req cst str) :=
  post_of_recv_reply ch cl s req cst str hb F fr (k := .val) (ty := "VhostUserU64") (n := 8) (hk := hk) (hn := so_U64) (hsz := by decide)
    (hlen := hlen) (hparse := hparse) (hF := hF) (hfr := hfr) (hnc := rfl) (hfin := fun r w' hl =>
      finish_matches_get_queue_num ch cl s a pl fds bad regs r F _ w' hl rfl) ..

theorem post_matches_get_max_mem_slots (hk : req.kind = .body "VhostUserU64") (hlen : hb.length = 12) (hparse : parseHdr hb = reqHdr s req)
    (hF : str.length + 1 ≤ F) (hfr : fr.b Gen.FeRecv.Api.GetMaxMemSlots.hdr.id = hb) :
    callViewOfExec .val (ImpFe.exec (stdEnv ch cl) Gen.FeRecv.Api.GetMaxMemSlots.post F fr (selfOf s) (sockWorld cst str)) =
      callViewOfModel (callRecv ch cl s ⟨"get_max_mem_slots", a, pl, fds, bad, regs⟩ req cst str) :=
  post_of_recv_reply ch cl s req cst str hb F fr (k := .val) (ty := "VhostUserU64") (n := 8) (hk := hk) (hn := so_U64) (hsz := by decide)
    (hlen := hlen) (hparse := hparse) (hF := hF) (hfr := hfr) (hnc := rfl) (hfin := fun r w' hl =>
      finish_matches_get_max_mem_slots ch cl s a pl fds bad regs r F _ w' hl rfl) ..

theorem post_matches_check_device_state (hk : req.kind = .body "VhostUserU64") (hlen : hb.length = 12) (hparse : parseHdr hb = reqHdr s req)
    (hF : str.length + 1 ≤ F) (hfr : fr.b Gen.FeRecv.Api.CheckDeviceState.hdr.id = hb) :
    callViewOfExec .unit (ImpFe.exec (stdEnv ch cl) Gen.FeRecv.Api.CheckDeviceState.post F fr (selfOf s) (sockWorld cst str)) =
      callViewOfModel (callRecv ch cl s ⟨"check_device_state", a, pl, fds, bad, regs⟩ req cst str) :=
  post_of_recv_reply ch cl s req cst str hb F fr (k := .unit) (ty := "VhostUserU64") (n := 8) (hk := hk) (hn := so_U64) (hsz := by decide)
    (hlen := hlen) (hparse := hparse) (hF := hF) (hfr := hfr) (hnc := rfl) (hfin := fun r w' hl =>
      finish_matches_check_device_state ch cl s a pl fds bad regs r F _ w' hl rfl) ..

theorem post_matches_get_vring_base (hk : req.kind = .body "VhostUserVringState") (hlen : hb.length = 12) (hparse : parseHdr hb = reqHdr s req)
    (hF : str.length + 1 ≤ F) (hfr : fr.b Gen.FeRecv.Api.GetVringBase.hdr.id = hb) :
    callViewOfExec .val (ImpFe.exec (stdEnv ch cl) Gen.FeRecv.Api.GetVringBase.post F fr (selfOf s) (sockWorld cst str)) =
      callViewOfModel (callRecv ch cl s ⟨"get_vring_base", a, pl, fds, bad, regs⟩ req cst str) :=
  post_of_recv_reply ch cl s req cst str hb F fr (k := .val) (ty := "VhostUserVringState") (n := 8) (hk := hk) (hn := so_VringState) (hsz := by decide)
    (hlen := hlen) (hparse := hparse) (hF := hF) (hfr := hfr) (hnc := rfl) (hfin := fun r w' hl =>
      finish_matches_get_vring_base ch cl s a pl fds bad regs r F _ w' rfl) ..

theorem post_matches_get_shmem_config (hk : req.kind = .body "VhostUserShMemConfig") (hlen : hb.length = 12) (hparse : parseHdr hb = reqHdr s req)
    (hF : str.length + 1 ≤ F) (hfr : fr.b Gen.FeRecv.Api.GetShmemConfig.hdr.id = hb) :
    callViewOfExec .shmem (ImpFe.exec (stdEnv ch cl) Gen.FeRecv.Api.GetShmemConfig.post F fr (selfOf s) (sockWorld cst str)) =
      callViewOfModel (callRecv ch cl s ⟨"get_shmem_config", a, pl, fds, bad, regs⟩ req cst str) :=
  post_of_recv_reply ch cl s req cst str hb F fr (k := .shmem) (ty := "VhostUserShMemConfig") (n := 2056) (hk := hk) (hn := so_ShMem) (hsz := by decide)
    (hlen := hlen) (hparse := hparse) (hF := hF) (hfr := hfr) (hnc := rfl) (hfin := fun r w' hl =>
      finish_matches_get_shmem_config ch cl s a pl fds bad regs r F _ w' rfl) ..

theorem post_matches_set_log_base (hk : req.kind = .body "VhostUserLog") (hlen : hb.length = 12) (hparse : parseHdr hb = reqHdr s req)
    (hF : str.length + 1 ≤ F) (hfr : fr.b Gen.FeRecv.Api.SetLogBase.hdr.id = hb) :
    callViewOfExec .unit (ImpFe.exec (stdEnv ch cl) Gen.FeRecv.Api.SetLogBase.post F fr (selfOf s) (sockWorld cst str)) =
      callViewOfModel (callRecv ch cl s ⟨"set_log_base", a, pl, fds, bad, regs⟩ req cst str) :=
  post_of_recv_reply ch cl s req cst str hb F fr (k := .unit) (ty := "VhostUserLog") (n := 16) (hk := hk) (hn := so_Log) (hsz := by decide)
    (hlen := hlen) (hparse := hparse) (hF := hF) (hfr := hfr) (hnc := rfl) (hfin := fun r w' hl =>
      finish_matches_set_log_base ch cl s a pl fds bad regs r F _ w' ) ..

theorem post_matches_get_shared_object (hk : req.kind = .bodyFiles "VhostUserEmpty") (hlen : hb.length = 12) (hparse : parseHdr hb = reqHdr s req)
    (hF : str.length + 1 ≤ F) (hfr : fr.b Gen.FeRecv.Api.GetSharedObject.hdr.id = hb) :
    callViewOfExec .file (ImpFe.exec (stdEnv ch cl) Gen.FeRecv.Api.GetSharedObject.post F fr (selfOf s) (sockWorld cst str)) =
      callOfRecv (recv ch cl s req cst str) s ⟨"get_shared_object", a, pl, fds, bad, regs⟩ (fun r => dropsOf r.files) :=
  post_of_reader (stdEnv ch cl) (hw := rfl) (hnc := rfl) (hS := spec_of_req ch cl s req cst str
      (recv_reply_with_files_exec ch cl "VhostUserEmpty" 0 so_Empty (by decide) F _ (selfOf s) (sockWorld cst str) hF (by rw [hfr]; exact hlen) rfl)
      hk hfr hparse)
    (hfin := fun r w' _ => finish_matches_file ch cl s a pl fds bad regs r F _ w' "get_shared_object" rfl rfl) ..

theorem post_matches_postcopy_advise (hk : req.kind = .bodyFiles "VhostUserEmpty") (hlen : hb.length = 12) (hparse : parseHdr hb = reqHdr s req)
    (hF : str.length + 1 ≤ F) (hfr : fr.b Gen.FeRecv.Api.PostcopyAdvise.hdr.id = hb) :
    callViewOfExec .file (ImpFe.exec (stdEnv ch cl) Gen.FeRecv.Api.PostcopyAdvise.post F fr (selfOf s) (sockWorld cst str)) =
      callOfRecv (recv ch cl s req cst str) s ⟨"postcopy_advise", a, pl, fds, bad, regs⟩ (fun r => dropsOf r.files) :=
  post_of_reader (stdEnv ch cl) (hw := rfl) (hnc := rfl) (hS := spec_of_req ch cl s req cst str
      (recv_reply_with_files_exec ch cl "VhostUserEmpty" 0 so_Empty (by decide) F _ (selfOf s) (sockWorld cst str) hF (by rw [hfr]; exact hlen) rfl)
      hk hfr hparse)
    (hfin := fun r w' _ => finish_matches_file ch cl s a pl fds bad regs r F _ w' "postcopy_advise" rfl rfl) ..

theorem post_matches_get_inflight_fd (hk : req.kind = .bodyFiles "VhostUserInflight") (hlen : hb.length = 12) (hparse : parseHdr hb = reqHdr s req)
    (hF : str.length + 1 ≤ F) (hfr : fr.b Gen.FeRecv.Api.GetInflightFd.hdr.id = hb) :
    callViewOfExec .inflight (ImpFe.exec (stdEnv ch cl) Gen.FeRecv.Api.GetInflightFd.post F fr (selfOf s) (sockWorld cst str)) =
      callOfRecv (recv ch cl s req cst str) s ⟨"get_inflight_fd", a, pl, fds, bad, regs⟩ (fun r => dropsOf r.files) :=
  post_of_reader (stdEnv ch cl) (hw := rfl) (hnc := rfl) (hS := spec_of_req ch cl s req cst str
      (recv_reply_with_files_exec ch cl "VhostUserInflight" 24 so_Inflight (by decide) F _ (selfOf s) (sockWorld cst str) hF (by rw [hfr]; exact hlen) rfl)
      hk hfr hparse)
    (hfin := fun r w' _ => finish_matches_get_inflight_fd ch cl s a pl fds bad regs r F _ w' rfl rfl) ..

theorem post_matches_set_device_state_fd (hk : req.kind = .bodyOptFiles "VhostUserU64") (hlen : hb.length = 12)
    (hparse : parseHdr hb = reqHdr s req) (hF : str.length + 1 ≤ F) (hfr : fr.b Gen.FeRecv.Api.SetDeviceStateFd.hdr.id = hb) :
    callViewOfExec .optFile (ImpFe.exec (stdEnv ch cl) Gen.FeRecv.Api.SetDeviceStateFd.post F fr (selfOf s) (sockWorld cst str)) =
      callOfRecv (recv ch cl s req cst str) s ⟨"set_device_state_fd", a, pl, fds, bad, regs⟩ devStateDrops :=
  post_of_reader (stdEnv ch cl) (hw := rfl) (hnc := rfl) (hS := spec_of_req ch cl s req cst str
      (recv_reply_with_optional_files_exec ch cl "VhostUserU64" 8 so_U64 (by decide) F _ (selfOf s) (sockWorld cst str) hF
        (by rw [hfr]; exact hlen) rfl) hk hfr hparse)
    (hfin := fun r w' hr => finish_matches_set_device_state_fd ch cl s a pl fds bad regs r F _ w'
      (recvBody_ok_len ch cl _ 8 cst str r so_U64 (recv_ok_recvBody ch cl s req cst str (.inr (.inl hk)) hr)) rfl rfl) ..

/-- `get_config`: `body` = the request struct (`size`, `offset` as in `op.a`), `buf` = the caller's buffer -/
theorem post_matches_get_config (roff rsz fl blen : Nat) (hk : req.kind = .payload "VhostUserConfig") (hlen : hb.length = 12)
    (hparse : parseHdr hb = reqHdr s req) (hF : str.length + 1 ≤ F) (hfr : fr.b Gen.FeRecv.Api.GetConfig.hdr.id = hb)
    (hsize : Model.Frontend.g (fr.b Gen.FeRecv.Api.GetConfig.body.id) "VhostUserConfig" ["size"] = rsz)
    (hoff : Model.Frontend.g (fr.b Gen.FeRecv.Api.GetConfig.body.id) "VhostUserConfig" ["offset"] = roff)
    (hbuf : (fr.b Gen.FeRecv.Api.GetConfig.buf.id).length = blen) :
    callViewOfExec .config (ImpFe.exec (stdEnv ch cl) Gen.FeRecv.Api.GetConfig.post F fr (selfOf s) (sockWorld cst str)) =
      callViewOfModel (callRecv ch cl s ⟨"get_config", [roff, rsz, fl, blen], pl, fds, bad, regs⟩ req cst str) := by
  rw [callView_callRecv]
  refine post_of_reader (stdEnv ch cl) (hw := rfl) (hnc := rfl) (hS := spec_of_req ch cl s req cst str
      (recv_reply_with_payload_exec ch cl "VhostUserConfig" 12 so_Config (by decide) F _ (selfOf s) (sockWorld cst str) hF
        (by rw [hfr]; exact hlen) rfl) hk hfr hparse) (hfin := ?_) ..
  intro r w' hr
  have hnone : r.files = none := by
    have := (Props.C06.recv_ok_is_reply_for ch cl s req cst str r hr (by rw [hk]; trivial)).2
    rw [hk] at this; exact this
  exact finish_matches_get_config ch cl s pl fds bad regs r F _ w' roff rsz fl blen (by simp [hnone]) hnone rfl rfl hsize hoff hbuf

/-! ### the methods that only wait for the acknowledgement -/

/-- `let hdr = ..; node.wait_for_ack(&hdr).map_err(|e| e.into())` with `hdr` in buffer slot `hdr` -/
def ackPost (hdr : Var) : FStmt :=
  .seq (.callFe "wait_for_ack" Gen.FeRecv.WaitForAck.fnBody [] [(Gen.FeRecv.WaitForAck.hdr, hdr)] [] Gen.FeRecv.Api.SetFeatures.r_wait_for_ack)
    Gen.FeRecv.Api.SetFeatures.finish

/-- the post parts of the 21 `wait_for_ack` methods are this term (they differ in the slot of `hdr` only) -/
theorem ack_post_terms :
    [Gen.FeRecv.Api.SetFeatures.post, Gen.FeRecv.Api.SetOwner.post, Gen.FeRecv.Api.ResetOwner.post, Gen.FeRecv.Api.SetMemTable.post,
     Gen.FeRecv.Api.SetLogFd.post, Gen.FeRecv.Api.SetVringNum.post, Gen.FeRecv.Api.SetVringAddr.post, Gen.FeRecv.Api.SetVringBase.post,
     Gen.FeRecv.Api.SetVringCall.post, Gen.FeRecv.Api.SetVringKick.post, Gen.FeRecv.Api.SetVringErr.post,
     Gen.FeRecv.Api.SetProtocolFeatures.post, Gen.FeRecv.Api.ResetDevice.post, Gen.FeRecv.Api.SetVringEnable.post,
     Gen.FeRecv.Api.SetConfig.post, Gen.FeRecv.Api.SetBackendRequestFd.post, Gen.FeRecv.Api.SetInflightFd.post,
     Gen.FeRecv.Api.AddMemRegion.post, Gen.FeRecv.Api.RemoveMemRegion.post, Gen.FeRecv.Api.PostcopyListen.post,
     Gen.FeRecv.Api.PostcopyEnd.post] =
    [ackPost Gen.FeRecv.Api.SetFeatures.hdr, ackPost Gen.FeRecv.Api.SetOwner.hdr, ackPost Gen.FeRecv.Api.ResetOwner.hdr,
     ackPost Gen.FeRecv.Api.SetMemTable.hdr, ackPost Gen.FeRecv.Api.SetLogFd.hdr, ackPost Gen.FeRecv.Api.SetVringNum.hdr,
     ackPost Gen.FeRecv.Api.SetVringAddr.hdr, ackPost Gen.FeRecv.Api.SetVringBase.hdr, ackPost Gen.FeRecv.Api.SetVringCall.hdr,
     ackPost Gen.FeRecv.Api.SetVringKick.hdr, ackPost Gen.FeRecv.Api.SetVringErr.hdr, ackPost Gen.FeRecv.Api.SetProtocolFeatures.hdr,
     ackPost Gen.FeRecv.Api.ResetDevice.hdr, ackPost Gen.FeRecv.Api.SetVringEnable.hdr, ackPost Gen.FeRecv.Api.SetConfig.hdr,
     ackPost Gen.FeRecv.Api.SetBackendRequestFd.hdr, ackPost Gen.FeRecv.Api.SetInflightFd.hdr, ackPost Gen.FeRecv.Api.AddMemRegion.hdr,
     ackPost Gen.FeRecv.Api.RemoveMemRegion.hdr, ackPost Gen.FeRecv.Api.PostcopyListen.hdr, ackPost Gen.FeRecv.Api.PostcopyEnd.hdr] := rfl

/-- for every operation whose `finish` is `(.unit, s)` (`ack_methods_finish_unit`): the acknowledgement wait followed by
`map_err(into)` is `Model.Frontend.callRecv` -/
theorem post_matches_ack (op : Op) (hop : ∀ r, finish s op r = (.unit, s)) (hdr : Var) (hk : req.kind = .ack) (hlen : hb.length = 12)
    (hparse : parseHdr hb = reqHdr s req) (hF : str.length + 1 ≤ F) (hfr : fr.b hdr.id = hb) :
    callViewOfExec .unit (ImpFe.exec (stdEnv ch cl) (ackPost hdr) F fr (selfOf s) (sockWorld cst str)) =
      callViewOfModel (callRecv ch cl s op req cst str) := by
  obtain ⟨w2, q1, q2, ⟨r, hres, u, hx⟩ | ⟨fe, hres, u, hx⟩ | ⟨inner, hres, u, hx⟩⟩ :=
    reader_call (stdEnv ch cl) "wait_for_ack" _ Gen.FeRecv.WaitForAck.hdr hdr
      Gen.FeRecv.Api.SetFeatures.r_wait_for_ack F fr (selfOf s) (sockWorld cst str) _ _
      (spec_of_req ch cl s req cst str
        (wait_for_ack_exec ch cl F _ (selfOf s) (sockWorld cst str) hF (by rw [hfr]; exact hlen) rfl) hk hfr hparse) _ rfl
  all_goals rw [callView_callRecv, ackPost, exec_seq, hx, callOfRecv, hres]
  · simpa [Gen.FeRecv.Api.SetFeatures.finish, exec_matchOk, exec_ret, evalXs, evalFd, callViewOfExec, retOf, decodeOk, heldOf, q1, q2,
      fstOf, selfOf, hop, sockWorld] using u
  · simpa [Gen.FeRecv.Api.SetFeatures.finish, exec_matchOk, exec_retErr, evalErr, errOfR, callViewOfExec, retOf, heldOf, q1, q2,
      fstOf, selfOf, sockWorld] using u
  · simpa [callViewOfExec, retOf, heldOf, q1, q2, fstOf, selfOf, sockWorld] using u

end post

/-! ## the generated tables -/

/-- `size_of::<T>()` of every type a reader is instantiated with is known and at most `MAX_MSG_SIZE` -/
theorem reader_types_fit :
    (Gen.FeRecv.apiReaders.filter (fun x => x.2.2 != "")).all
      (fun x => match sizeOfTy x.2.2 with | some n => decide (n ≤ 0x1000) | none => false) = true := by
  decide +kernel

/-- the four `recv_reply*` functions of the file are the ones tied here -/
theorem readers_listed :
    Gen.FeRecv.readerNames = ["recv_reply", "recv_reply_with_optional_files", "recv_reply_with_files", "recv_reply_with_payload"] := by
  decide

def awaitOfReader (r T : String) : Base.FeAwait :=
  if r = "wait_for_ack" then .ack
  else if r = "recv_reply" then .reply T
  else if r = "recv_reply_with_optional_files" then .replyOptFiles T
  else if r = "recv_reply_with_files" then .replyFiles T
  else if r = "recv_reply_with_payload" then .replyPayload T
  else .none

/-- reader and body type per API method, as read here, are those of `Gen.FrontendOps.rows` (the table
`Props.FrontendOps.model_ops_match_source` ties to `Model.Frontend.request`) -/
theorem readers_agree_with_rows :
    Gen.FeRecv.apiReaders.map (fun x => (x.1, awaitOfReader x.2.1 x.2.2)) =
      (Gen.FrontendOps.rows.filter (fun r => r.await != .none)).map (fun r => (r.name, r.await)) := by
  decide +kernel

/-! ## non-vacuity: concrete runs of the generated terms -/

/-- a GET_FEATURES reply (code 1, flags REPLY|v1, size 8) of value `0x40000000`, delivered two bytes at a time -/
def sampleReply : List Cell := ([1, 0, 0, 0, 5, 0, 0, 0, 8, 0, 0, 0, 0, 0, 0, 0x40, 0, 0, 0, 0] : List UInt8).map (fun b => ⟨b, [], false⟩)

def sampleHdr : Bytes := encHdr 1 1 0

def runReader (closed : Bool) (term : FStmt) (sf : Self) (str : List Cell) : View Unit :=
  viewOfExec (ImpFe.exec (stdEnv (σ := Unit) ⟨fun _ _ _ => (2, ())⟩ closed) term 40 (hdrFrame sampleHdr) sf (sockWorld () str))

/-- the matching reply is accepted: the body is returned, nothing is closed, the stream is consumed -/
example : ((runReader false (Gen.FeRecv.recvReply "VhostUserU64") {} sampleReply).res,
      (runReader false (Gen.FeRecv.recvReply "VhostUserU64") {} sampleReply).rest.length,
      (runReader false (Gen.FeRecv.recvReply "VhostUserU64") {} sampleReply).closed) =
    (.ok [0, 0, 0, 0x40, 0, 0, 0, 0] [] none, 0, []) := by decide +kernel

/-- a reply that carries a descriptor: `InvalidMessage`, the descriptor is closed -/
example : ((runReader false (Gen.FeRecv.recvReply "VhostUserU64") {} (⟨1, [9], true⟩ :: sampleReply.tail)).res,
      (runReader false (Gen.FeRecv.recvReply "VhostUserU64") {} (⟨1, [9], true⟩ :: sampleReply.tail)).closed) =
    (.err .invalidMsg, [9]) := by decide +kernel

/-- … which `recv_reply_with_optional_files` hands out instead -/
example : (runReader false (Gen.FeRecv.recvReplyWithOptionalFiles "VhostUserU64") {} (⟨1, [9], true⟩ :: sampleReply.tail)).res =
    .ok [0, 0, 0, 0x40, 0, 0, 0, 0] [] (some [9]) := by decide +kernel

/-- the reply of another request (code 2): `InvalidMessage` -/
example : (runReader false (Gen.FeRecv.recvReply "VhostUserU64") {} (⟨2, [], true⟩ :: sampleReply.tail)).res = .err .invalidMsg := by
  decide +kernel

/-- a short reply on a closed stream: `PartialMessage`; on an open one the call blocks -/
example : ((runReader true (Gen.FeRecv.recvReply "VhostUserU64") {} (sampleReply.take 15)).res,
      (runReader false (Gen.FeRecv.recvReply "VhostUserU64") {} (sampleReply.take 15)).res,
      (runReader false (Gen.FeRecv.recvReply "VhostUserU64") {} []).res) = (.err .partialMsg, .blocked, .blocked) := by decide +kernel

/-- `wait_for_ack` without REPLY_ACK: nothing is read; with REPLY_ACK and NEED_REPLY in the request header the zero
acknowledgement is accepted and a non-zero one is `BackendInternalError` -/
example :
    ((viewOfExec (ImpFe.exec (stdEnv (σ := Unit) ⟨fun _ _ _ => (2, ())⟩ false) Gen.FeRecv.waitForAck 40 (hdrFrame (encHdr 1 9 0)) {}
        (sockWorld () sampleReply))).rest.length,
     (viewOfExec (ImpFe.exec (stdEnv (σ := Unit) ⟨fun _ _ _ => (2, ())⟩ false) Gen.FeRecv.waitForAck 40 (hdrFrame (encHdr 1 9 0))
        { acked_protocol_features := 8 } (sockWorld () sampleReply))).res,
     (viewOfExec (ImpFe.exec (stdEnv (σ := Unit) ⟨fun _ _ _ => (2, ())⟩ false) Gen.FeRecv.waitForAck 40 (hdrFrame (encHdr 1 9 0))
        { acked_protocol_features := 8 } (sockWorld () (sampleReply.take 12 ++ List.replicate 8 ⟨0, [], false⟩)))).res) =
    (20, .err .backendInternal, .ok [] [] none) := by decide +kernel

end Props.FeRecv
