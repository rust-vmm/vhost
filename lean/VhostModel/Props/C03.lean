import VhostModel.Model.Frontend
import VhostModel.Lemmas.Stream
/-!
# C03 — handler results and failures are reported faithfully to the frontend caller

Over `Model.Frontend` (tied to `frontend.rs` by the `fe` family, srv mode, where the real request server with a
scripted handler sits on the other end and closes the connection when `handle_request` fails, as
`VhostUserDaemon` does):
* `no_wait_without_ack` — a set-operation returns without touching the incoming stream unless REPLY_ACK is
  acknowledged and NEED_REPLY requested;
* `ack_value_zero` — an acknowledged set-operation succeeds only on value 0;
* `closed_never_blocks` — once the connection is closed no reader waits (bounded time);
A complete payload-less GET_CONFIG reply is consumed without waiting for the payload that was asked for (F-C03-cfg):
`Props.C03Roundtrip.roundtrip_fail_inband`; the exact value mapping per operation: `Props.C03Roundtrip.roundtrip_ok`.
-/
namespace Props.C03
open Base Model.Stream Model.Frontend Lemmas.Stream
open Model.BackendSrv (Err Hdr bitSet)

/-- `wait_for_ack` without REPLY_ACK acknowledged or without NEED_REPLY: success at once, nothing read -/
theorem recv_ack_skipped {σ : Type} (ch : Chooser σ) (cl : Bool) {s : FSt} {req : Req} (cst : σ) (str : List Cell)
    (hk : req.kind = .ack) (h : bitSet s.ackedProto 3 = false ∨ (reqHdr s req).needReply = false) :
    recv ch cl s req cst str = ⟨.ok ⟨reqHdr s req, u64 0, [], none⟩, str, cst, []⟩ := by
  unfold recv
  rcases h with h | h <;> simp [hk, h]

/-- no acknowledgement is awaited unless REPLY_ACK is acknowledged and the request carries NEED_REPLY -/
theorem no_wait_without_ack {σ : Type} (ch : Chooser σ) (cl : Bool) (s : FSt) (req : Req) (cst : σ) (str : List Cell)
    (hk : req.kind = .ack) (h : bitSet s.ackedProto 3 = false ∨ (reqHdr s req).needReply = false) :
    (recv ch cl s req cst str).rest = str ∧ ∃ r, (recv ch cl s req cst str).res = .ok r := by
  rw [recv_ack_skipped ch cl cst str hk h]; exact ⟨rfl, _, rfl⟩

/-- an awaited acknowledgement makes the call succeed only if its value is 0 -/
theorem ack_value_zero {σ : Type} (ch : Chooser σ) (cl : Bool) (s : FSt) (req : Req) (cst : σ) (str : List Cell) (r : Reply)
    (hk : req.kind = .ack) (h1 : bitSet s.ackedProto 3 = true) (h2 : (reqHdr s req).needReply = true)
    (h : (recv ch cl s req cst str).res = .ok r) : leVal r.body = 0 := by
  revert h
  -- the `.ok` branch of the awaited acknowledgement sits behind the test `leVal r.body != 0`
  fun_cases recv ch cl s req cst str <;> intro h <;> simp_all +zetaDelta

theorem recvBody_closed_not_blocked {σ : Type} (ch : Chooser σ) (ty : String) (cst : σ) (s : List Cell) :
    (recvBody ch true ty cst s).res ≠ .blocked := by
  fun_cases recvBody ch true ty cst s <;> simp +zetaDelta [*]
  -- left: the scatter read reporting `blocked`
  exact recvAll_closed_not_blocked ch 32 _ _ _ _ ‹_›

/-- after the connection has closed no reply reader waits: every call returns (an error, or a value) -/
theorem closed_never_blocks {σ : Type} (ch : Chooser σ) (s : FSt) (req : Req) (cst : σ) (str : List Cell) :
    (recv ch true s req cst str).res ≠ .blocked := by
  have hb := recvBody_closed_not_blocked ch
  fun_cases recv ch true s req cst str <;> simp +zetaDelta [*]
  -- left: the payload read reporting `blocked`
  exact recvData_closed_not_blocked ch _ _ _ ‹_›

example : (⟨24, [0,0,0,0, 8,0,0,0, 0,0,0,0] ++ List.replicate 8 0, [], .payload "VhostUserConfig"⟩ : Req).kind =
    .payload "VhostUserConfig" := rfl

end Props.C03
