import VhostModel.Lemmas.BackendChannel
import VhostModel.Props.C20
import VhostModel.Spec.BackendChannel
import VhostModel.Spec.Gpu
/-!
# C06 (second part) — the backend→frontend proxy and the GPU proxy accept only the matching reply

Companion of `Props.C06` (frontend endpoint).  Over `Model.BackendProxy.waitAck` (`backend_req.rs`, `wait_for_ack`) and
`Model.GpuProxy.recvReply` (`gpu_backend_req.rs`, `recv_reply`), tied to the code by the `proxy` (peer mode, mutated
acknowledgements) and `gpu` correspondence families; for every stream, chooser (segmentation / timing) and request:
* `recvBody_accepts_received_bytes` — `recv_body::<T>` hands out exactly the `12 + size_of::<T>()` bytes it received;
* `proxy_ack_ok_is_reply_for`, `gpu_reply_ok_is_reply_for` — whenever a reader accepts bytes as the answer, they carry a
  header the *specification* calls valid for that channel, the REPLY flag, the request's own code (the request itself
  not being a reply), a body of the reply type's size, and no descriptors (no reply on these channels defines one);
* `proxy_mutated_ack_rejected`, `gpu_mutated_reply_rejected` — hence any reply with another code / without REPLY /
  with descriptors is never accepted (stated for the GPU reader in the contrapositive: what is accepted has none of these);
* `gpu_never_fabricates` — the value returned by a GPU call is the decoded body of the accepted bytes.
The frontend's request server (`fe_server_handler_only_wellformed`, `step_never_panics`) is in `Props.C18`.
Recorded limit (DESIGN.md): the fixed-size readers do not compare the header's size field with the bytes read.
-/
namespace Props.C06b
open Base Model.Stream Model.Msgs Model.RecvBody Lemmas.Stream Lemmas.BackendChannel
open Model.BackendSrv (Err Hdr encHdr)
open Model.Frontend (Reply RecvRes RecvOut parseHdr)

/-! ### the generated header validators say what the specification says -/

theorem bv_parseHdr (bs : Bytes) :
    (bv 32 (parseHdr bs).code).toNat = (parseHdr bs).code ∧ (bv 32 (parseHdr bs).flags).toNat = (parseHdr bs).flags ∧
    (bv 32 (parseHdr bs).size).toNat = (parseHdr bs).size := by
  have k (b : Bytes) : (bv 32 (leVal (b.take 4))).toNat = leVal (b.take 4) := by
    simpa [bv] using Nat.mod_eq_of_lt (Lemmas.Decode.leVal_take_lt b 4)
  exact ⟨k bs, k (bs.drop 4), k (bs.drop 8)⟩

/-- backend-channel header validator ⇔ Spec: code in 1..10, size ≤ 4096, version 1, no reserved bits -/
theorem hdrValidB_spec (bs : Bytes) (hl : bs.length = 12) :
    hdrValidB bs = true ↔ Spec.validHeader Spec.backendCodes (parseHdr bs).code (parseHdr bs).flags (parseHdr bs).size := by
  obtain ⟨e1, e2, e3⟩ := bv_parseHdr bs
  rw [← e1, ← e2, ← e3, ← Props.C20.isValid_backend_header_iff ⟨_, _, _⟩, hdrValidB, decHeader_of_length bs hl, Option.map_some]
  generalize Gen.VhostUserMsgHeader.isValid _ _ = b
  cases b <;> simp

/-- GPU header validator ⇔ Spec: code in 1..12, flags ∈ {0, REPLY} -/
theorem hdrValidGpu_spec (bs : Bytes) (hl : bs.length = 12) :
    hdrValidGpu bs = true ↔ Spec.validGpuHeader (parseHdr bs).code (parseHdr bs).flags := by
  obtain ⟨e1, e2, _⟩ := bv_parseHdr bs
  rw [← e1, ← e2, ← Props.C20.isValid_gpu_header_iff ⟨_, _, bv 32 (parseHdr bs).size⟩, hdrValidGpu, decGpuHeader_of_length bs hl,
    Option.map_some]
  generalize Gen.VhostUserGpuMsgHeader.isValid _ _ = b
  cases b <;> simp

/-- `is_reply_for` spelled out: REPLY on the reply, not on the request, same (known) code -/
theorem isReplyFor_iff (codes : List Nat) (reply req : Hdr) :
    isReplyFor codes reply req = true ↔
      (reply.code ∈ codes ∧ req.code ∈ codes ∧ reply.flags.testBit 2 = true ∧ req.flags.testBit 2 = false ∧ reply.code = req.code) := by
  simp [isReplyFor, Hdr.isReply, Model.BackendSrv.bitSet, and_assoc]

/-- `recv_body` never fabricates: header and body handed out are the bytes the socket delivered -/
theorem recvBody_accepts_received_bytes {σ : Type} (ch : Chooser σ) (cl : Bool) (hdrOk : Bytes → Bool) (n : Nat)
    (bodyOk : Bytes → Bool) (cst : σ) (s : List Cell) (r : Reply) (h : (recvBody ch cl hdrOk n bodyOk cst s).res = .ok r) :
    ∃ hb, hb.length = 12 ∧ r.hdr = parseHdr hb ∧ r.body.length = n ∧ hb ++ r.body = (recvAll ch 32 cl (12 + n) cst s true).bytes := by
  obtain ⟨hb, a, b, _, d, _, _, g⟩ := Lemmas.BackendChannel.recvBody_ok_sound ch cl hdrOk n bodyOk cst s r h
  exact ⟨hb, a, d, b, g⟩

/-! ### the backend→frontend proxy -/
section Proxy
open Model.BackendProxy

theorem waitAck_ok_iff {σ : Type} (ch : Chooser σ) (cl : Bool) (st : PSt) (rh : Hdr) (cst : σ) (str : List Cell) (r : Reply)
    (hra : st.replyAck = true) :
    (waitAck ch cl st rh cst str).res = .ok r ↔
      st.error = none ∧ (recvBody ch cl hdrValidB 8 u64Ok cst str).res = .ok r ∧ isReplyFor backendCodes r.hdr rh = true ∧
      r.files = none ∧ leVal r.body = 0 := by
  fun_cases waitAck ch cl st rh cst str
  case case1 e he => simp [he]
  case case2 he hn => simp [hra] at hn
  case case3 he _ o r' hr' hbad =>
    -- what `recv_body` hands out has passed `u64Ok`, so the refusal is due to the header or to descriptors
    refine ⟨nofun, fun ⟨_, h1, h2, h3, _⟩ => ?_⟩
    obtain rfl : r' = r := by simpa [o, h1] using hr'.symm
    obtain ⟨_, _, _, _, _, hb, _⟩ := Lemmas.BackendChannel.recvBody_ok_sound ch cl hdrValidB 8 u64Ok cst str r' h1
    simp [h2, h3, hb] at hbad
  case case4 he _ o r' hr' _ hv =>
    refine ⟨nofun, fun ⟨_, h1, _, _, h4⟩ => ?_⟩
    obtain rfl : r' = r := by simpa [o, h1] using hr'.symm
    simp [h4] at hv
  case case5 he _ o r' hr' hgood hv =>
    simp only [Bool.or_eq_true, Bool.not_eq_true', not_or, Bool.not_eq_false, Option.not_isSome_iff_eq_none,
      bne_iff_ne, ne_eq, Decidable.not_not] at hgood hv
    refine ⟨fun h => ?_, fun h => h.2.1⟩
    obtain rfl : r' = r := by simpa [h] using hr'.symm
    exact ⟨he, h, hgood.1.1, hgood.1.2, hv⟩
  case case6 he _ o hno => exact ⟨fun h => absurd h (hno r), fun h => absurd h.2.1 (hno r)⟩

/-- **the proxy accepts only the matching acknowledgement** -/
theorem proxy_ack_ok_is_reply_for {σ : Type} (ch : Chooser σ) (cl : Bool) (st : PSt) (rh : Hdr) (cst : σ) (str : List Cell)
    (r : Reply) (hra : st.replyAck = true) (h : (waitAck ch cl st rh cst str).res = .ok r) :
    Spec.validHeader Spec.backendCodes r.hdr.code r.hdr.flags r.hdr.size ∧
    r.hdr.flags.testBit 2 = true ∧ rh.flags.testBit 2 = false ∧ r.hdr.code = rh.code ∧
    r.body.length = 8 ∧ r.files = none ∧ leVal r.body = 0 := by
  obtain ⟨_, h1, h2, h3, h4⟩ := (waitAck_ok_iff ch cl st rh cst str r hra).1 h
  obtain ⟨hb, a, b, c, d, _⟩ := Lemmas.BackendChannel.recvBody_ok_sound ch cl hdrValidB 8 u64Ok cst str r h1
  obtain ⟨_, _, i3, i4, i5⟩ := (isReplyFor_iff _ _ _).1 h2
  exact ⟨d ▸ (hdrValidB_spec hb a).1 c, i3, i4, i5, b, h3, h4⟩

/-- a mutated acknowledgement — other code, REPLY missing, or descriptors attached — never yields success -/
theorem proxy_mutated_ack_rejected {σ : Type} (ch : Chooser σ) (cl : Bool) (st : PSt) (rh : Hdr) (cst : σ) (str : List Cell)
    (hra : st.replyAck = true) (r0 : Reply)
    (hrecv : (recvBody ch cl hdrValidB 8 u64Ok cst str).res = .ok r0)
    (hmut : r0.hdr.code ≠ rh.code ∨ r0.hdr.flags.testBit 2 = false ∨ r0.files.isSome = true) :
    ∀ r, (waitAck ch cl st rh cst str).res ≠ .ok r := by
  intro r h
  obtain ⟨_, h1, h2, h3, _⟩ := (waitAck_ok_iff ch cl st rh cst str r hra).1 h
  obtain rfl : r0 = r := by simpa [hrecv] using h1
  obtain ⟨_, _, i3, _, i5⟩ := (isReplyFor_iff _ _ _).1 h2
  rcases hmut with hm | hm | hm
  · exact hm i5
  · simp [hm] at i3
  · simp [h3] at hm

end Proxy

/-! ### the GPU proxy -/
section Gpu
open Model.GpuProxy

theorem recvReply_ok_iff {σ : Type} (ch : Chooser σ) (cl : Bool) (st : GSt) (rh : Hdr) (ty : String) (cst : σ)
    (str : List Cell) (r : Reply) :
    (recvReply ch cl st rh ty cst str).res = .ok r ↔
      st.error = none ∧ ∃ n, sizeOfTy ty = some n ∧ (recvBody ch cl hdrValidGpu n (replyBodyOk ty) cst str).res = .ok r ∧
        isReplyFor gpuCodes r.hdr rh = true ∧ r.files = none := by
  fun_cases recvReply ch cl st rh ty cst str
  case case1 e he => simp [he]
  case case2 he hn => simp [hn]
  case case3 he n hn o r' hr' hbad =>
    refine ⟨nofun, fun ⟨_, m, hm, h1, h2, h3⟩ => ?_⟩
    obtain rfl : n = m := by simpa [hn] using hm
    obtain rfl : r' = r := by simpa [o, h1] using hr'.symm
    obtain ⟨_, _, _, _, _, hb, _⟩ := Lemmas.BackendChannel.recvBody_ok_sound ch cl hdrValidGpu n (replyBodyOk ty) cst str r' h1
    simp [h2, h3, hb] at hbad
  case case4 he n hn o r' hr' hgood =>
    simp only [Bool.or_eq_true, Bool.not_eq_true', not_or, Bool.not_eq_false, Option.not_isSome_iff_eq_none] at hgood
    refine ⟨fun h => ?_, fun ⟨_, m, hm, h1, _⟩ => ?_⟩
    · obtain rfl : r' = r := by simpa [h] using hr'.symm
      exact ⟨he, n, hn, h, hgood.1.1, hgood.1.2⟩
    · obtain rfl : n = m := by simpa [hn] using hm
      exact h1
  case case5 he n hn o hno =>
    refine ⟨fun h => absurd h (hno r), fun ⟨_, m, hm, h1, _⟩ => ?_⟩
    obtain rfl : n = m := by simpa [hn] using hm
    exact absurd h1 (hno r)

/-- **the GPU proxy accepts only the matching reply** -/
theorem gpu_reply_ok_is_reply_for {σ : Type} (ch : Chooser σ) (cl : Bool) (st : GSt) (rh : Hdr) (ty : String) (cst : σ)
    (str : List Cell) (r : Reply) (h : (recvReply ch cl st rh ty cst str).res = .ok r) :
    Spec.validGpuHeader r.hdr.code r.hdr.flags ∧
    r.hdr.flags.testBit 2 = true ∧ rh.flags.testBit 2 = false ∧ r.hdr.code = rh.code ∧
    sizeOfTy ty = some r.body.length ∧ r.files = none := by
  obtain ⟨_, n, hn, h1, h2, h3⟩ := (recvReply_ok_iff ch cl st rh ty cst str r).1 h
  obtain ⟨hb, a, b, c, d, _⟩ := Lemmas.BackendChannel.recvBody_ok_sound ch cl hdrValidGpu n (replyBodyOk ty) cst str r h1
  obtain ⟨_, _, i3, i4, i5⟩ := (isReplyFor_iff _ _ _).1 h2
  exact ⟨d ▸ (hdrValidGpu_spec hb a).1 c, i3, i4, i5, b ▸ hn, h3⟩

/-- on the GPU channel "valid header with REPLY" means the flags word is exactly 4: no other bit is ever accepted -/
theorem gpu_reply_flags_exact {σ : Type} (ch : Chooser σ) (cl : Bool) (st : GSt) (rh : Hdr) (ty : String) (cst : σ)
    (str : List Cell) (r : Reply) (h : (recvReply ch cl st rh ty cst str).res = .ok r) : r.hdr.flags = 4 := by
  obtain ⟨hv, hb, _⟩ := gpu_reply_ok_is_reply_for ch cl st rh ty cst str r h
  rcases hv.2 with h0 | h4
  · rw [h0] at hb; simp at hb
  · exact h4

/-- a mutated reply — other code, REPLY missing, descriptors attached — never yields success; in the contrapositive
form: an accepted reply has the request's code, REPLY set and no descriptors -/
theorem gpu_mutated_reply_rejected {σ : Type} (ch : Chooser σ) (cl : Bool) (st : GSt) (rh : Hdr) (ty : String) (cst : σ)
    (str : List Cell) (r : Reply) (h : (recvReply ch cl st rh ty cst str).res = .ok r) :
    r.hdr.code = rh.code ∧ r.hdr.flags.testBit 2 = true ∧ r.files = none := by
  obtain ⟨_, a, _, b, _, c⟩ := gpu_reply_ok_is_reply_for ch cl st rh ty cst str r h
  exact ⟨b, a, c⟩

/-- the value a GPU call returns is computed from the accepted reply body alone: the decoded `u64`, resp. the raw
struct bytes, resp. nothing for the empty acknowledgement -/
theorem gpu_never_fabricates {σ : Type} (ch : Chooser σ) (cl : Bool) (st : GSt) (req : Req) (cst : σ) (str : List Cell)
    (ty : String) (hty : req.m.reply.ty = some ty) (r : Reply) (h : (recvReply ch cl st req.hdr ty cst str).res = .ok r) :
    (callRecv ch cl st req cst str).ret =
      (match req.m.reply with
       | .u64 => Ret.val (leVal r.body)
       | .empty => .unit
       | _ => .bytes r.body) := by
  unfold callRecv
  simp only [hty, h]
  cases req.m.reply <;> rfl

/-- methods that read no reply return without touching the incoming stream -/
theorem gpu_no_reply_reads_nothing {σ : Type} (ch : Chooser σ) (cl : Bool) (st : GSt) (req : Req) (cst : σ) (str : List Cell)
    (hty : req.m.reply.ty = none) :
    (callRecv ch cl st req cst str).ret = .unit ∧ (callRecv ch cl st req cst str).rest = str := by
  simp [callRecv, hty]

end Gpu

/-! ### non-vacuity -/
example : isReplyFor backendCodes ⟨6, 5, 8⟩ ⟨6, 9, 16⟩ = true := by decide
example : isReplyFor backendCodes ⟨7, 5, 8⟩ ⟨6, 9, 16⟩ = false := by decide
example : isReplyFor backendCodes ⟨6, 1, 8⟩ ⟨6, 9, 16⟩ = false := by decide
example : isReplyFor gpuCodes ⟨1, 4, 8⟩ ⟨1, 0, 0⟩ = true := by decide
example : hdrValidGpu (encHdr 1 5 8) = false := by
  refine Bool.eq_false_iff.2 fun h => absurd ((hdrValidGpu_spec _ (encHdr_length 1 5 8)).1 h) ?_
  rw [parseHdr_encHdr 1 5 8 (by decide) (by decide) (by decide)]; decide
example : hdrValidGpu (encHdr 1 4 8) = true := by
  refine (hdrValidGpu_spec _ (encHdr_length 1 4 8)).2 ?_
  rw [parseHdr_encHdr 1 4 8 (by decide) (by decide) (by decide)]; decide
/-- a correct acknowledgement with value 0 is accepted (so the hypotheses of `proxy_ack_ok_is_reply_for` are satisfiable) -/
example : ∃ r, (Model.BackendProxy.waitAck (kernelChooser false) false { replyAck := true } ⟨6, 9, 16⟩ ()
    (segCells (encHdr 6 5 8 ++ leBytes 8 0) [])).res = .ok r := by
  obtain ⟨h, _, _⟩ := recvBody_of_prefix (kernelChooser false) false hdrValidB 8 u64Ok () (encHdr 6 5 8 ++ leBytes 8 0) []
    (by simp [encHdr]) (hdrValidB_ack 6 (by decide)) (u64Ok_of_length _ (by simp [encHdr]))
  rw [List.append_nil] at h
  exact ⟨_, (waitAck_ok_iff _ _ _ _ _ _ _ rfl).2 ⟨rfl, h, by decide, rfl, by decide⟩⟩

end Props.C06b
