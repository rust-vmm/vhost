import VhostModel.Props.C01b
/-!
# C18 — backend-initiated requests reach the frontend handler faithfully, with status

Models: `Model.BackendProxy` (`backend_req.rs`: gate → `send_message` → `wait_for_ack`) and `Model.FrontendSrv`
(`frontend_req_handler.rs`: `handle_request`), tied to the code by the correspondence families `proxy` (real `Backend`
against the real `FrontendReqHandler` / the raw peer) and `besrv` (raw peer feeding the real `FrontendReqHandler`).
Spec: `Spec.BackendChannel`.  Every clause is also judged by the spec driver on every observed session (the identity of
the passed *open file* — fstat — can only be observed there); proved here, for all inputs:

* `proxy_reaches_handler` — a protocol-valid request issued through the proxy (any kind, any argument values, any padding
  bytes) is read by one `handle_request` — whatever is queued behind it, however the socket segments it — and the
  application's handler is invoked exactly once with equal arguments (`argOf_encodeArg`: decode ∘ encode = id) and the
  same descriptor token; `proxy_call_end_to_end` — composed with the proxy's reader: with REPLY_ACK the call succeeds iff
  the handler returned zero and never blocks, without REPLY_ACK nothing is written or awaited;

* `ack_value`, `ack_value_meets_spec` — the value `send_ack_message` writes as a function of the handler outcome:
  `Ok(n) ↦ n`, errno `e ↦ 2^64 − e`, otherwise `2^64 − 22`; it is the value the Spec prescribes;
* `proxy_ok_iff_zero` — with REPLY_ACK, `wait_for_ack` returns `Ok` iff the accepted acknowledgement carries 0, and then
  returns 0 — for every stream and chooser; `proxy_ok_iff_handler_zero` — composed with the acknowledgement the server
  writes for handler outcome `h` (whatever follows on the stream, however it is segmented): the call succeeds iff `h = Ok(0)`;
* `no_ack_without_replyack` — without REPLY_ACK the proxy reads nothing and sets no NEED_REPLY, the server writes nothing;
* `proxy_gate` — shared-object / shared-memory calls are refused locally, nothing written, unless the flag is set
  (this is also the proxy clause of C07);
* `kth_ack_answers_kth` — over every history of framed requests and REPLY_ACK changes: the acknowledgements written are,
  in order, exactly those of the requests that reached `send_ack_message` with NEED_REPLY while REPLY_ACK was in force, each
  carrying its own request's code, flags 5 (REPLY set, NEED_REPLY clear, version 1), size 8 (`ack_bytes_meet_spec`);
* `fe_server_handler_only_wellformed` — for every stream, chooser and handler script, every handler invocation of
  `handle_request` comes from a request the Spec classifies as well-formed (`Spec.BackendChannel.classify = accept`: valid
  header, exact size, valid body, exactly the prescribed descriptors, not a reply), with the arguments the Spec decodes
  and the received files; `step_never_panics` — `files.unwrap()[0]` is total (C06, last sentence);
* `accepted_request_meets_spec` — conversely a well-formed request is handed to the handler once and acknowledged as
  the Spec prescribes.  Both directions rest on `accept_iff_checks`: the Spec's classification of a request as well-formed
  is the conjunction of the checks `handle_request` performs before the call (per class of arm: `arm_class`).
Recorded, outside the statement (C18 speaks about valid requests): a request the protocol declares invalid (nil / all-ones
UUID, zero length, wrapping range, undefined flag, wrong size) returns from `handle_request` *before* `send_ack_message`, so
a proxy that sent it with NEED_REPLY is answered only by the frontend closing the channel; request codes without an arm
(1, 3, 4, 5) are acknowledged with −EINVAL.  The proxy itself does not validate its arguments.
Limits: a handler error carrying errno 0 (or a negative number) is outside "every errno class": `-0 as u64` is 0.
The server's own send failing (peer gone while the acknowledgement is written) is not exhibited by the model.
-/
namespace Props.C18
open Base Model.Stream Model.Msgs Model.RecvBody Lemmas.Stream Lemmas.BackendChannel Lemmas.Layouts Props.C06b
open Model.BackendSrv (Err Hdr encHdr hdrNewFlags Call)
open Model.Frontend (Reply RecvRes RecvOut parseHdr)
open Model.FrontendSrv
open Spec.BackendChannel (classify expectedCall HRes Arg MMap encodeArg argOf validArg)

/-! ## the acknowledgement value -/

/-- `send_ack_message`: the value written, as a function of the handler outcome -/
theorem ack_value (n e : Nat) :
    ackVal (.handler (.okv n)) = n ∧ ackVal (.handler (.errno e)) = 2^64 - e ∧ ackVal (.handler .err) = 2^64 - 22 ∧
    ackVal .invalid = 2^64 - 22 := ⟨rfl, rfl, rfl, rfl⟩

/-- scripted handler outcome ↦ the Spec's handler result -/
def specOf : HOut → HRes
  | .okv n => .ok n
  | .errno e => .errno e
  | .err => .err

/-- values a real handler can produce: a `u64`, resp. a positive `i32` errno -/
def InRange : HOut → Prop
  | .okv n => n < 2^64
  | .errno e => 0 < e ∧ e < 2^31
  | .err => True

theorem ackVal_lt (h : HOut) (hr : InRange h) : ackVal (.handler h) < 2^64 := by
  cases h with
  | okv n => exact hr
  | errno e => simp only [ackVal]; have := hr.1; omega
  | err => simp [ackVal]

theorem leVal_ackVal (h : HOut) (hr : InRange h) : leVal (leBytes 8 (ackVal (.handler h))) = ackVal (.handler h) :=
  leVal_leBytes 8 _ (by simpa using ackVal_lt h hr)

/-- the 8 bytes on the wire decode to the value the Spec prescribes: the handler's value, resp. the negated errno -/
theorem ack_value_meets_spec (h : HOut) (hr : InRange h) :
    Spec.BackendChannel.ackValueOk (specOf h) (leVal (leBytes 8 (ackVal (.handler h)))) = true := by
  rw [leVal_ackVal h hr]
  cases h <;> simp [specOf, ackVal, Spec.BackendChannel.ackValueOk]

/-- the handler's result is zero iff the acknowledged value is zero -/
theorem ackVal_zero_iff (h : HOut) (hr : InRange h) : ackVal (.handler h) = 0 ↔ h = .okv 0 := by
  cases h with
  | okv n => simp [ackVal]
  | errno e => have := hr.2; simp only [ackVal, reduceCtorEq, iff_false]; omega
  | err => simp [ackVal]

/-- the Spec accepts every acknowledgement as the acknowledgement of its request for that handler result: 20 bytes; the
request's code; flags = 5, i.e. REPLY set, NEED_REPLY clear, version 1; size 8; then the value -/
theorem ack_bytes_meet_spec (code : Nat) (h : HOut) (hc : code < 2^32) (hr : InRange h) :
    Spec.BackendChannel.ackBytesOk code (specOf h) (ackBytes code (ackVal (.handler h))) = true := by
  obtain ⟨a, b, c⟩ := ackBytes_parts code (ackVal (.handler h))
  have hp := parseHdr_take (ackBytes code (ackVal (.handler h)))
  rw [a, parseHdr_encHdr code 5 8 hc (by decide) (by decide)] at hp
  simp only [parseHdr, Hdr.mk.injEq] at hp
  simp [Spec.BackendChannel.ackBytesOk, c, ← hp.1, ← hp.2.1, ← hp.2.2, b, ack_value_meets_spec h hr]

/-! ## the proxy -/
section Proxy
open Model.BackendProxy

/-- **with REPLY_ACK the proxy call succeeds iff the accepted acknowledgement carries zero** — every stream, every chooser -/
theorem proxy_ok_iff_zero {σ : Type} (ch : Chooser σ) (cl : Bool) (st : PSt) (rh : Hdr) (cst : σ) (str : List Cell)
    (hra : st.replyAck = true) (herr : st.error = none) :
    (∃ r, (waitAck ch cl st rh cst str).res = .ok r) ↔
    (∃ r, (recvBody ch cl hdrValidB 8 u64Ok cst str).res = .ok r ∧ isReplyFor backendCodes r.hdr rh = true ∧
          r.files = none ∧ leVal r.body = 0) :=
  exists_congr fun r => by rw [waitAck_ok_iff ch cl st rh cst str r hra, and_iff_right herr]

/-- … and the value it returns is that zero (`Ok(body.value)`) -/
theorem proxy_ok_returns_zero {σ : Type} (ch : Chooser σ) (cl : Bool) (st : PSt) (req : Req) (cst : σ) (str : List Cell) (v : Nat)
    (h : (callRecv ch cl st req cst str).ret = .ok v) : v = 0 := by
  obtain ⟨p1, _, p3, _⟩ := callRecv_proj ch cl st req cst str
  obtain ⟨r, hr⟩ := p1.1 ⟨v, h⟩
  obtain rfl : v = leVal r.body := by simpa [h] using p3 r hr
  cases hra : st.replyAck with
  | true => exact ((waitAck_ok_iff ch cl st req.hdr cst str r hra).1 hr).2.2.2.2
  | false =>
    -- nothing was read: the value is that of the eight zero bytes `wait_for_ack` returns
    cases he : st.error <;> simp only [waitAck, he, hra, Bool.not_false, if_true, RecvRes.ok.injEq, reduceCtorEq] at hr
    rw [← hr]; exact leVal_leBytes 8 0 (by decide)

/-- **composition with the server's acknowledgement**: if what arrives is the acknowledgement the frontend's server writes
for handler outcome `h` — followed by anything, delivered in any segmentation — the proxy call succeeds iff the handler
returned zero, consumes exactly the acknowledgement, and never blocks -/
theorem proxy_ok_iff_handler_zero {σ : Type} (ch : Chooser σ) (cl : Bool) (st : PSt) (k : Kind) (n : Nat) (h : HOut)
    (cst : σ) (rest : List Cell) (hra : st.replyAck = true) (herr : st.error = none) (hr : InRange h) :
    let rh : Hdr := ⟨k.code, reqFlags st, n⟩
    let o := waitAck ch cl st rh cst (segCells (ackBytes k.code (ackVal (.handler h))) [] ++ rest)
    ((∃ r, o.res = .ok r) ↔ h = .okv 0) ∧ o.res ≠ .blocked ∧ o.rest = rest := by
  intro rh o
  have hk : k.code ∈ [1, 2, 3, 4, 5, 6, 7, 8, 9, 10] := by cases k <;> simp [Kind.code]
  have hk32 : k.code < 2^32 := by cases k <;> simp [Kind.code]
  obtain ⟨htake, hdrop, hlen⟩ := ackBytes_parts k.code (ackVal (.handler h))
  have hu : u64Ok (leBytes 8 (ackVal (.handler h))) = true := u64Ok_of_length _ (by simp)
  obtain ⟨r1, r2, _⟩ := recvBody_of_prefix ch cl hdrValidB 8 u64Ok cst (ackBytes k.code (ackVal (.handler h))) rest hlen
    (by rw [htake]; exact hdrValidB_ack _ hk) (by rw [hdrop]; exact hu)
  rw [htake, hdrop, parseHdr_encHdr k.code 5 8 hk32 (by decide) (by decide)] at r1
  have hrf : isReplyFor backendCodes ⟨k.code, 5, 8⟩ rh = true := by
    have hmem : k.code ∈ backendCodes := by cases k <;> decide
    refine (isReplyFor_iff _ _ _).2 ⟨hmem, hmem, (by decide : Nat.testBit 5 2 = true), ?_, rfl⟩
    simp only [rh, reqFlags_eq, hra]; decide
  -- `recv_body` has delivered the acknowledgement, so the outcome of `wait_for_ack` turns on the value alone
  rw [← ackVal_zero_iff h hr]
  simp only [o, waitAck, herr, hra, r1, hrf, hu, leVal_ackVal h hr, Bool.not_true, Bool.false_eq_true, if_false,
    Option.isSome_none, Bool.or_self]
  by_cases hz : ackVal (.handler h) = 0
  · rw [if_neg (by simpa using hz)]; exact ⟨iff_of_true ⟨_, r1⟩ hz, by rw [r1]; nofun, r2⟩
  · rw [if_pos (by simpa using hz)]; exact ⟨iff_of_false (fun ⟨_, e⟩ => nomatch e) hz, nofun, r2⟩

/-- **without REPLY_ACK nothing is awaited**: `wait_for_ack` returns `Ok(0)` without reading a byte, and the request
header carries no NEED_REPLY -/
theorem no_ack_without_replyack_proxy {σ : Type} (ch : Chooser σ) (cl : Bool) (st : PSt) (rh : Hdr) (cst : σ) (str : List Cell)
    (hra : st.replyAck = false) (herr : st.error = none) :
    (waitAck ch cl st rh cst str).res = .ok ⟨rh, leBytes 8 0, [], none⟩ ∧ (waitAck ch cl st rh cst str).rest = str ∧
    (waitAck ch cl st rh cst str).closed = [] ∧ (reqFlags st).testBit 3 = false := by
  have hf : (reqFlags st).testBit 3 = false := by rw [reqFlags_eq, hra]; decide
  simp [waitAck, herr, hra, hf]

/-- **feature gate** (also C07's proxy clause): a shared-object / shared-memory call is refused locally — error returned,
nothing written, incoming stream untouched — unless the corresponding flag was set -/
theorem proxy_gate {σ : Type} (ch : Chooser σ) (cl : Bool) (st : PSt) (c : Model.BackendProxy.Call) (cst : σ) (str : List Cell)
    (hg : c.kind.gate st = false) :
    (call ch cl st c cst str).ret = .err .notNegotiated ∧ (call ch cl st c cst str).wire = [] ∧
    (call ch cl st c cst str).wireFds = [] ∧ (call ch cl st c cst str).rest = str := by
  simp [call, request, hg]

/-- which flag gates which call: SHARED_OBJECT for add / remove / lookup, SHMEM for map / unmap -/
theorem proxy_gate_flags (st : PSt) :
    Kind.gate st .add = st.sharedObject ∧ Kind.gate st .remove = st.sharedObject ∧ Kind.gate st .lookup = st.sharedObject ∧
    Kind.gate st .map = st.shmem ∧ Kind.gate st .unmap = st.shmem := ⟨rfl, rfl, rfl, rfl, rfl⟩

end Proxy

/-! ## the frontend's server -/

/-- the request reached `send_ack_message` (no early return of `extract_msg_body` / `check_msg_size`, no panic) -/
def handled (hdr : Hdr) (buf : Bytes) (files : Option (List Fd)) : Bool :=
  match arms.find? (·.code == hdr.code) with
  | none => true
  | some a => extractOk a hdr buf && (!a.file || (match files with | some (_ :: _) => true | _ => false))

/-- `res` as `send_ack_message` sees it for a handled request -/
def outcomeOf (hdr : Hdr) (h : HOut) : Model.FrontendSrv.Outcome :=
  match arms.find? (·.code == hdr.code) with
  | none => .invalid
  | some _ => .handler h

/-- what `handle_request` writes for a framed request -/
theorem dispatch_out (st : FSt) (hdr : Hdr) (buf : Bytes) (files : Option (List Fd)) (h : HOut) :
    (dispatch st hdr buf files h).out = if handled hdr buf files then sendAck st hdr (outcomeOf hdr h) else [] := by
  unfold dispatch handled outcomeOf
  cases arms.find? (·.code == hdr.code) with
  | none => simp
  | some a =>
    simp only
    cases he : extractOk a hdr buf with
    | false => simp
    | true =>
      cases hf : a.file with
      | false => simp
      | true =>
        cases files with
        | none => simp
        | some fs => cases fs <;> simp

/-- **without REPLY_ACK no acknowledgement is written or awaited** (both ends, every stream and chooser): the proxy's request
carries no NEED_REPLY and `wait_for_ack` returns `Ok(0)` without reading; the server's `handle_request` writes nothing -/
theorem no_ack_without_replyack {σ τ : Type} (ch : Chooser σ) (ch' : Chooser τ) (cl cl' : Bool) (pst : Model.BackendProxy.PSt)
    (sst : FSt) (rh : Hdr) (cst : σ) (cst' : τ) (s str : List Cell) (h : HOut)
    (hp : pst.replyAck = false) (hs : sst.replyAck = false) (herr : pst.error = none) :
    (Model.BackendProxy.reqFlags pst).testBit 3 = false ∧
    (Model.BackendProxy.waitAck ch' cl' pst rh cst' str).res = .ok ⟨rh, leBytes 8 0, [], none⟩ ∧
    (Model.BackendProxy.waitAck ch' cl' pst rh cst' str).rest = str ∧
    (step ch cl sst cst s h).o.out = [] := by
  obtain ⟨a, b, _, d⟩ := no_ack_without_replyack_proxy ch' cl' pst rh cst' str hp herr
  refine ⟨d, a, b, ?_⟩
  rcases step_cases ch cl sst cst s h with ⟨_, h2, _⟩ | ⟨hb, buf, files, _, _, _, _, _, ho⟩
  · exact h2
  · simp [ho, dispatch_out, sendAck, hs]

/-- **no acknowledgement without NEED_REPLY** either -/
theorem no_ack_without_need_reply (st : FSt) (hdr : Hdr) (buf : Bytes) (files : Option (List Fd)) (h : HOut)
    (hn : hdr.needReply = false) : (dispatch st hdr buf files h).out = [] := by
  rw [dispatch_out]; simp [sendAck, hn]

/-! ### histories -/

structure Framed where
  hdr : Hdr
  buf : Bytes
  files : Option (List Fd)
  h : HOut

/-- an event on the server: a framed request arrives, or the application changes the REPLY_ACK setting -/
inductive Ev where
  | req (f : Framed)
  | setAck (b : Bool)

/-- the acknowledgements written over a history, in order -/
def acksOf : FSt → List Ev → List Bytes
  | _, [] => []
  | st, .setAck b :: rest => acksOf { st with replyAck := b } rest
  | st, .req f :: rest =>
    let o := dispatch st f.hdr f.buf f.files f.h
    (if o.out.isEmpty then [] else [o.out]) ++ acksOf st rest

/-- the acknowledgements owed over a history: one per request that was handled with NEED_REPLY while REPLY_ACK was in
force, carrying that request's code and its own outcome's value -/
def owedAcks : Bool → List Ev → List Bytes
  | _, [] => []
  | _, .setAck b :: rest => owedAcks b rest
  | ra, .req f :: rest =>
    (if ra && f.hdr.needReply && handled f.hdr f.buf f.files then [ackBytes f.hdr.code (ackVal (outcomeOf f.hdr f.h))] else [])
      ++ owedAcks ra rest

theorem ackBytes_ne_nil (c v : Nat) : ackBytes c v ≠ [] := by
  intro h; have := (ackBytes_parts c v).2.2; simp [h] at this

/-- **the k-th acknowledgement answers the k-th acknowledged request** — all histories, failing handlers included -/
theorem kth_ack_answers_kth : ∀ (hist : List Ev) (st : FSt), acksOf st hist = owedAcks st.replyAck hist := by
  intro hist
  induction hist with
  | nil => intro st; rfl
  | cons e rest ih =>
    intro st
    cases e with
    | setAck b => simp only [acksOf, owedAcks]; exact ih _
    | req f =>
      simp only [acksOf, owedAcks, ih st, dispatch_out, sendAck]
      congr 1
      cases hh : handled f.hdr f.buf f.files <;> cases hra : st.replyAck <;> cases hn : f.hdr.needReply <;>
        simp [ackBytes_ne_nil]

/-! ### the handler only sees well-formed requests (C06, last sentence) -/

theorem g_eq_fld (buf : Bytes) {s : String} (hs : s ∈ Props.C01.specStructs) (p : List String) :
    g buf s p = Spec.BackendChannel.fld buf s p := by
  rw [g, Spec.BackendChannel.fld, Lemmas.LayoutEq.getField_eq buf hs]

theorem in_spec : "VhostUserSharedMsg" ∈ Props.C01.specStructs ∧ "VhostUserMMap" ∈ Props.C01.specStructs := by decide

/-- generated UUID validator ⇔ Spec: 16 bytes, neither nil nor all-ones -/
theorem bodyValid_shared_spec (buf : Bytes) :
    bodyValid "VhostUserSharedMsg" buf = some true ↔
      buf.length = 16 ∧ Spec.validUuid (Spec.BackendChannel.fld buf "VhostUserSharedMsg" ["uuid"]) := by
  have hv : leVal (buf.take 16) < 2^128 := by simpa using Lemmas.Decode.leVal_take_lt buf 16
  have := Props.C20.isValid_shared_iff ⟨bv 128 (leVal (buf.take 16))⟩
  simp only [bv, BitVec.toNat_ofNat, Nat.mod_eq_of_lt hv] at this
  rw [← g_eq_fld buf in_spec.1]
  by_cases hl : buf.length = 16 <;>
    simp [bodyValid, decShared, g, getField, structSize, fieldAt, layout_shared, hl, bv, this]

/-- generated MMAP validator ⇔ Spec: 40 bytes, non-zero length, no wrapping range, only the defined flag -/
theorem bodyValid_mmap_spec (buf : Bytes) :
    bodyValid "VhostUserMMap" buf = some true ↔
      buf.length = 40 ∧ Spec.validMMap (Spec.BackendChannel.fld buf "VhostUserMMap" ["fd_offset"])
        (Spec.BackendChannel.fld buf "VhostUserMMap" ["shm_offset"]) (Spec.BackendChannel.fld buf "VhostUserMMap" ["len"])
        (Spec.BackendChannel.fld buf "VhostUserMMap" ["flags"]) := by
  have h1 : leVal ((buf.drop 8).take 8) < 2^64 := by simpa using Lemmas.Decode.leVal_take_lt (buf.drop 8) 8
  have h2 : leVal ((buf.drop 16).take 8) < 2^64 := by simpa using Lemmas.Decode.leVal_take_lt (buf.drop 16) 8
  have h3 : leVal ((buf.drop 24).take 8) < 2^64 := by simpa using Lemmas.Decode.leVal_take_lt (buf.drop 24) 8
  have h4 : leVal ((buf.drop 32).take 8) < 2^64 := by simpa using Lemmas.Decode.leVal_take_lt (buf.drop 32) 8
  have := Props.C20.isValid_mmap_iff ⟨bv 8 (leVal (buf.take 1)), bv 64 (leVal ((buf.drop 8).take 8)), bv 64 (leVal ((buf.drop 16).take 8)),
    bv 64 (leVal ((buf.drop 24).take 8)), bv 64 (leVal ((buf.drop 32).take 8))⟩
  simp only [bv, BitVec.toNat_ofNat, Nat.mod_eq_of_lt h1, Nat.mod_eq_of_lt h2, Nat.mod_eq_of_lt h3, Nat.mod_eq_of_lt h4] at this
  simp only [← g_eq_fld buf in_spec.2]
  by_cases hl : buf.length = 40 <;>
    simp [bodyValid, decMMap, g, getField, structSize, fieldAt, layout_mmap, hl, bv, this]

theorem ite_accept {c : Prop} [Decidable c] {x y : Spec.BackendChannel.Class} :
    (if c then x else y) = .accept ↔ (c ∧ x = .accept) ∨ (¬c ∧ y = .accept) := by split <;> simp [*]

/-- the Spec's classification, spelled out as a conjunction -/
theorem classify_accept_iff (r : Spec.BackendChannel.Req) :
    classify r = .accept ↔
      (Spec.validHeader Spec.backendCodes r.code r.flags r.size ∧ r.nfds ≤ 32 ∧ r.body.length = r.size ∧
       Spec.BackendChannel.served.contains r.code = true ∧ Spec.BackendChannel.fixedSize r.code = some r.size ∧
       Spec.BackendChannel.argValid r.code r.body = true ∧
       r.nfds = Spec.BackendChannel.filesPrescribed r.code ∧ r.isReply = false) := by
  simp [classify, ite_accept]

/-- `check_attached_files` accepts exactly the number of descriptors the Spec prescribes for the code (an empty
`Some(vec![])` is never built by `recv_header`, and never accepted) -/
theorem filesOk_iff (code : Nat) (files : Option (List Fd)) :
    filesOk code files = true ↔ files ≠ some [] ∧ (files.getD []).length = Spec.BackendChannel.filesPrescribed code := by
  have : fileCodes.contains code = (code == 8 || code == 9) := by
    simp only [fileCodes, List.contains_cons, List.contains_nil, Bool.or_false]
  unfold filesOk Spec.BackendChannel.filesPrescribed
  rw [this]
  cases (code == 8 || code == 9) <;> rcases files with _ | _ | ⟨f, _ | ⟨g, l⟩⟩ <;> simp

/-- three classes of arms by body type: what follows is proved per class, not per request code -/
theorem arm_class {a : Arm} (hm : a ∈ arms) :
    (a.body = none ∧ Spec.BackendChannel.fixedSize a.code = some 0 ∧ ∀ b, argOf a.code b = none) ∨
    (a.body = some "VhostUserSharedMsg" ∧ Spec.BackendChannel.fixedSize a.code = some 16 ∧
      ∀ b, argOf a.code b = some (.uuid (Spec.BackendChannel.fld b "VhostUserSharedMsg" ["uuid"]))) ∨
    (a.body = some "VhostUserMMap" ∧ Spec.BackendChannel.fixedSize a.code = some 40 ∧
      ∀ b, argOf a.code b = some (.mmap ⟨Spec.BackendChannel.fld b "VhostUserMMap" ["shmid"], (b.drop 1).take 7,
        Spec.BackendChannel.fld b "VhostUserMMap" ["fd_offset"], Spec.BackendChannel.fld b "VhostUserMMap" ["shm_offset"],
        Spec.BackendChannel.fld b "VhostUserMMap" ["len"], Spec.BackendChannel.fld b "VhostUserMMap" ["flags"]⟩)) := by
  simp only [arms, List.mem_cons, List.mem_nil_iff, or_false] at hm
  rcases hm with rfl | rfl | rfl | rfl | rfl | rfl
  · exact .inl ⟨rfl, rfl, fun _ => rfl⟩
  · exact .inr (.inl ⟨rfl, rfl, fun _ => rfl⟩)
  · exact .inr (.inl ⟨rfl, rfl, fun _ => rfl⟩)
  · exact .inr (.inl ⟨rfl, rfl, fun _ => rfl⟩)
  · exact .inr (.inr ⟨rfl, rfl, fun _ => rfl⟩)
  · exact .inr (.inr ⟨rfl, rfl, fun _ => rfl⟩)

theorem extractOk_iff_spec {a : Arm} (hm : a ∈ arms) (hdr : Hdr) (buf : Bytes) (hc : a.code = hdr.code) :
    extractOk a hdr buf = true ↔
      (Spec.BackendChannel.fixedSize hdr.code = some hdr.size ∧ hdr.flags.testBit 2 = false ∧ hdr.flags % 4 = 1 ∧
       buf.length = hdr.size ∧ Spec.BackendChannel.argValid hdr.code buf = true) := by
  rw [← hc]
  obtain ⟨hb, hs, ha⟩ | ⟨hb, hs, ha⟩ | ⟨hb, hs, ha⟩ := arm_class hm
  -- per class the `simp only` leaves the same conjuncts on both sides, in another order and with `size = n` for
  -- `some n = some size`; `simp_all` only rearranges them
  · simp only [extractOk, hb, checkSize_iff, hs, Spec.BackendChannel.argValid, ha]
    constructor <;> rintro ⟨h1, h2, h3, h4⟩ <;> simp_all
  · simp only [extractOk, hb, structSize, layout_shared, Option.map_some, Bool.and_eq_true, checkSize_iff, beq_iff_eq,
      bodyValid_shared_spec, hs, Spec.BackendChannel.argValid, ha, validArg, decide_eq_true_eq, Option.some.injEq]
    constructor <;> rintro h <;> simp_all
  · simp only [extractOk, hb, structSize, layout_mmap, Option.map_some, Bool.and_eq_true, checkSize_iff, beq_iff_eq,
      bodyValid_mmap_spec, hs, Spec.BackendChannel.argValid, ha, validArg, decide_eq_true_eq, Option.some.injEq]
    constructor <;> rintro h <;> simp_all

theorem arm_method {a : Arm} (hm : a ∈ arms) : a.method = Spec.BackendChannel.methodOf a.code := by
  simp only [arms, List.mem_cons, List.mem_nil_iff, or_false] at hm
  rcases hm with rfl | rfl | rfl | rfl | rfl | rfl <;> rfl

theorem callOf_spec {a : Arm} (hm : a ∈ arms) (buf : Bytes) (file : List Fd) :
    ((callOf a buf file).name, (callOf a buf file).args, (callOf a buf file).payload) = expectedCall a.code buf ∧
    (callOf a buf file).fds = file := by
  obtain ⟨hb, _, ha⟩ | ⟨hb, _, ha⟩ | ⟨hb, _, ha⟩ := arm_class hm
  · simp [callOf, expectedCall, hb, ha, arm_method hm]
  · simp [callOf, expectedCall, hb, ha, arm_method hm, g_eq_fld buf in_spec.1]
  · simp [callOf, expectedCall, hb, ha, arm_method hm, g_eq_fld buf in_spec.2]

theorem arms_table : ∀ a ∈ arms, a.file = fileCodes.contains a.code ∧ Spec.BackendChannel.served.contains a.code = true := by
  decide

theorem served_arm : ∀ c ∈ Spec.BackendChannel.served, (arms.find? (·.code == c)).isSome = true := by decide

/-- `files.unwrap()[0]` is total because an arm takes the file exactly when `check_attached_files` demanded one for its code -/
theorem dispatch_of_extractOk (st : FSt) (hdr : Hdr) (buf : Bytes) (files : Option (List Fd)) (h : HOut) {a : Arm}
    (ha : arms.find? (·.code == hdr.code) = some a) (he : extractOk a hdr buf = true) (hf : filesOk hdr.code files = true) :
    dispatch st hdr buf files h =
      { calls := [callOf a buf (files.getD [])], out := sendAck st hdr (.handler h), closed := files.getD [],
        res := (Outcome.handler h).res } := by
  obtain ⟨hm, hc⟩ := find_arm ha
  have hfile := (arms_table a hm).1
  rw [hc] at hfile
  unfold filesOk at hf
  unfold dispatch
  rw [← hfile] at hf
  cases hfl : a.file <;> rcases files with _ | _ | ⟨f, _ | _⟩ <;> simp [ha, he, hfl] at hf ⊢

theorem dispatch_calls (st : FSt) (hdr : Hdr) (buf : Bytes) (files : Option (List Fd)) (h : HOut) :
    ((dispatch st hdr buf files h).calls = [] ∧ (filesOk hdr.code files = true → (dispatch st hdr buf files h).res ≠ .panic)) ∨
    ∃ a, arms.find? (·.code == hdr.code) = some a ∧ extractOk a hdr buf = true := by
  cases ha : arms.find? (·.code == hdr.code) with
  | none => exact .inl (by simp [dispatch, ha])
  | some a =>
    cases he : extractOk a hdr buf with
    | false => exact .inl (by simp [dispatch, ha, he])
    | true => exact .inr ⟨a, rfl, he⟩

/-- **the Spec's notion of a well-formed request is what the server checks before it invokes the handler**: header
validator, declared size received, `check_attached_files`, and the checks of the arm for the request's code -/
theorem accept_iff_checks (hdr : Hdr) (buf : Bytes) (files : Option (List Fd)) :
    (classify ⟨hdr.code, hdr.flags, hdr.size, buf, (files.getD []).length⟩ = .accept ∧ files ≠ some []) ↔
      (Spec.validHeader Spec.backendCodes hdr.code hdr.flags hdr.size ∧ buf.length = hdr.size ∧
       filesOk hdr.code files = true ∧ ∃ a, arms.find? (·.code == hdr.code) = some a ∧ extractOk a hdr buf = true) := by
  rw [classify_accept_iff, filesOk_iff]
  constructor
  · rintro ⟨⟨hv, _, hl, hserved, hfix, harg, hnf, hrp⟩, hne⟩
    obtain ⟨a, ha⟩ := Option.isSome_iff_exists.1 (served_arm hdr.code (by simpa using hserved))
    obtain ⟨hm, hc⟩ := find_arm ha
    exact ⟨hv, hl, ⟨hne, hnf⟩, a, ha, (extractOk_iff_spec hm hdr buf hc).2 ⟨hfix, hrp, hv.2.2.1, hl, harg⟩⟩
  · rintro ⟨hv, hl, ⟨hne, hnf⟩, a, ha, he⟩
    obtain ⟨hm, hc⟩ := find_arm ha
    obtain ⟨hfix, hrp, _, _, harg⟩ := (extractOk_iff_spec hm hdr buf hc).1 he
    refine ⟨⟨hv, ?_, hl, hc ▸ (arms_table a hm).2, hfix, harg, hnf, hrp⟩, hne⟩
    simp only [hnf, Spec.BackendChannel.filesPrescribed]; split <;> omega

/-- **the application's handler is invoked only for well-formed requests carrying exactly the prescribed descriptors**
— every stream, every chooser (segmentation / timing), every handler script; at most once per `handle_request` -/
theorem fe_server_handler_only_wellformed {σ : Type} (ch : Chooser σ) (cl : Bool) (st : FSt) (cst : σ) (s : List Cell) (h : HOut) :
    (step ch cl st cst s h).o.calls.length ≤ 1 ∧
    ∀ c ∈ (step ch cl st cst s h).o.calls, ∃ (hdr : Hdr) (buf : Bytes) (files : List Fd),
      classify ⟨hdr.code, hdr.flags, hdr.size, buf, files.length⟩ = .accept ∧ c.fds = files ∧
      (c.name, c.args, c.payload) = expectedCall hdr.code buf := by
  rcases step_cases ch cl st cst s h with ⟨h1, _, _⟩ | ⟨hb, buf, files, _, hlen, hval, hfo, hsz, hc⟩
  · rw [h1]; exact ⟨by simp, by simp⟩
  · simp only [hc]
    rcases dispatch_calls st (parseHdr hb) buf files h with ⟨h0, _⟩ | ⟨a, ha, he⟩
    · rw [h0]; exact ⟨by simp, by simp⟩
    · obtain ⟨hm, hcode⟩ := find_arm ha
      obtain ⟨k1, k2⟩ := callOf_spec hm buf (files.getD [])
      rw [dispatch_of_extractOk st _ buf files h ha he hfo]
      refine ⟨by simp, fun c hc => ?_⟩
      rw [List.mem_singleton] at hc
      exact ⟨parseHdr hb, buf, files.getD [],
        ((accept_iff_checks _ buf files).2 ⟨(hdrValidB_spec hb hlen).1 hval, hsz, hfo, a, ha, he⟩).1, hc ▸ k2, hc ▸ hcode ▸ k1⟩

/-- **`handle_request` never panics** — whatever bytes and descriptors arrive -/
theorem step_never_panics {σ : Type} (ch : Chooser σ) (cl : Bool) (st : FSt) (cst : σ) (s : List Cell) (h : HOut) :
    (step ch cl st cst s h).o.res ≠ .panic := by
  rcases step_cases ch cl st cst s h with ⟨_, _, h3⟩ | ⟨hb, buf, files, _, _, _, hfo, _, hr⟩
  · exact h3
  · simp only [hr]
    rcases dispatch_calls st (parseHdr hb) buf files h with ⟨_, h0⟩ | ⟨a, ha, he⟩
    · exact h0 hfo
    · rw [dispatch_of_extractOk st _ buf files h ha he hfo]; cases h <;> nofun

/-! ### conversely: a well-formed request is handed over once and acknowledged as prescribed -/

/-- what the server owes for an accepted request, in the Spec's words -/
def OwedOk (st : FSt) (hdr : Hdr) (h : HOut) (out : Bytes) : Prop :=
  if Spec.BackendChannel.ackOwed st.replyAck (hdr.flags.testBit 3) then
    Spec.BackendChannel.ackBytesOk hdr.code (specOf h) out = true
  else out = []

theorem sendAck_owed (st : FSt) (hdr : Hdr) (h : HOut) (hc : hdr.code < 2^32) (hr : InRange h) :
    OwedOk st hdr h (sendAck st hdr (.handler h)) := by
  unfold OwedOk sendAck Spec.BackendChannel.ackOwed
  have : hdr.needReply = hdr.flags.testBit 3 := rfl
  rw [this]
  cases st.replyAck <;> cases hdr.flags.testBit 3 <;> simp [ack_bytes_meet_spec hdr.code h hc hr]

/-- **a request the Spec classifies as well-formed** (valid header, exact size, valid body, exactly the prescribed
descriptors) **reaches the handler exactly once with the Spec's decoding of its arguments and the received file, and is
acknowledged exactly as the Spec prescribes**: iff REPLY_ACK ∧ NEED_REPLY, with the request's code, REPLY set, NEED_REPLY
clear, version 1, size 8 and the handler's value resp. the negated errno -/
theorem accepted_request_meets_spec (st : FSt) (hdr : Hdr) (buf : Bytes) (files : Option (List Fd)) (h : HOut)
    (hacc : classify ⟨hdr.code, hdr.flags, hdr.size, buf, (files.getD []).length⟩ = .accept)
    (hfiles : files ≠ some []) (hr : InRange h) :
    (∃ c, (dispatch st hdr buf files h).calls = [c] ∧ c.fds = files.getD [] ∧
      (c.name, c.args, c.payload) = expectedCall hdr.code buf) ∧
    (dispatch st hdr buf files h).out = sendAck st hdr (.handler h) ∧
    OwedOk st hdr h (dispatch st hdr buf files h).out := by
  obtain ⟨hv, _, hf, a, ha, he⟩ := (accept_iff_checks hdr buf files).1 ⟨hacc, hfiles⟩
  obtain ⟨hm, hcode⟩ := find_arm ha
  obtain ⟨k1, k2⟩ := callOf_spec hm buf (files.getD [])
  have hc32 : hdr.code < 2^32 := by
    have : hdr.code ∈ Spec.backendCodes := hv.1
    simp [Spec.backendCodes] at this; omega
  rw [dispatch_of_extractOk st hdr buf files h ha he hf]
  exact ⟨⟨_, rfl, k2, hcode ▸ k1⟩, rfl, sendAck_owed st hdr h hc32 hr⟩

/-! ## composition: proxy ∘ server -/

/-- field values that fit the wire format -/
def ArgInRange : Arg → Prop
  | .uuid u => u < 2^128
  | .mmap m => m.shmid < 256 ∧ m.padding.length = 7 ∧ m.fdOffset < 2^64 ∧ m.shmOffset < 2^64 ∧ m.len < 2^64 ∧ m.flags < 2^64

/-- request codes that carry this kind of payload -/
def codesFor : Arg → List Nat
  | .uuid _ => [6, 7, 8]
  | .mmap _ => [9, 10]

/-- size of the encoded payload -/
def argLen : Arg → Nat
  | .uuid _ => 16
  | .mmap _ => 40

/-- what the handler is to see for payload `a` of request `code`: method, the caller's values, the MMAP padding bytes -/
def callOfArg (code : Nat) : Arg → String × List Nat × Bytes
  | .uuid u => (Spec.BackendChannel.methodOf code, [u], [])
  | .mmap m => (Spec.BackendChannel.methodOf code, [m.shmid, m.fdOffset, m.shmOffset, m.len, m.flags], m.padding)

/-- **decode ∘ encode = id** on the request payloads: the Spec's decoding of the Spec's encoding gives the values back
(the fields lie at the offsets of the Spec's layout; `simp` only computes the slices of the concatenation) -/
theorem argOf_encodeArg (code : Nat) (a : Arg) (hr : ArgInRange a) (hk : code ∈ codesFor a) :
    argOf code (encodeArg a) = some a := by
  cases a with
  | uuid u =>
    have hu : u < 256 ^ 16 := by simpa [ArgInRange] using hr
    simp only [codesFor, List.mem_cons, List.mem_nil_iff, or_false] at hk
    rcases hk with rfl | rfl | rfl <;>
      simp [argOf, encodeArg, Spec.BackendChannel.fld, Spec.getField, Spec.fieldAt, ← Lemmas.LayoutEq.layoutOf_eq in_spec.1, layout_shared,
        List.take_of_length_le, leVal_leBytes 16 u hu]
  | mmap m =>
    obtain ⟨h1, h2, h3, h4, h5, h6⟩ := hr
    simp only [codesFor, List.mem_cons, List.mem_nil_iff, or_false] at hk
    rcases hk with rfl | rfl <;>
      simp [argOf, encodeArg, Spec.BackendChannel.fld, Spec.getField, Spec.fieldAt, ← Lemmas.LayoutEq.layoutOf_eq in_spec.2, layout_mmap,
        List.drop_append, List.drop_eq_nil_of_le, List.take_of_length_le, h2, leVal_leBytes 1 m.shmid (by simpa using h1),
        leVal_leBytes 8 m.fdOffset (by simpa using h3), leVal_leBytes 8 m.shmOffset (by simpa using h4),
        leVal_leBytes 8 m.len (by simpa using h5), leVal_leBytes 8 m.flags (by simpa using h6)]

section Compose
open Model.BackendProxy

/-- the API's typing: shared-object calls take a `VhostUserSharedMsg`, mapping calls a `VhostUserMMap` -/
def argFits : Kind → Arg → Prop
  | .add, .uuid _ | .remove, .uuid _ | .lookup, .uuid _ | .map, .mmap _ | .unmap, .mmap _ => True
  | _, _ => False

theorem encodeArg_length (a : Arg) : (encodeArg a).length = argLen a := by
  cases a <;> simp [encodeArg, argLen]

theorem kind_spec (k : Kind) :
    k.code ∈ Spec.backendCodes ∧ k.code < 2^32 ∧ Spec.BackendChannel.served.contains k.code = true ∧
    Spec.BackendChannel.filesPrescribed k.code = (if k.hasFd then 1 else 0) := by
  cases k <;> decide

theorem argFits_spec {k : Kind} {a : Arg} (h : argFits k a) :
    k.code ∈ codesFor a ∧ Spec.BackendChannel.fixedSize k.code = some (argLen a) := by
  cases k <;> cases a <;> simp only [argFits] at h <;> exact ⟨by simp [Kind.code, codesFor], rfl⟩

/-- **a protocol-valid request issued through the proxy reaches the frontend application's handler exactly once, with
equal arguments and the same descriptor, and is acknowledged as prescribed** — for every request kind, every argument
value, every REPLY_ACK setting (the same on both ends), every handler outcome, whatever else is queued behind the request
and however the socket segments the bytes -/
theorem proxy_reaches_handler {σ : Type} (ch : Chooser σ) (cl : Bool) (pst : PSt) (sst : FSt) (c : Model.BackendProxy.Call)
    (a : Arg) (req : Req) (cst : σ) (rest : List Cell) (h : HOut)
    (hreq : request pst c = .ok req) (hb : c.body = encodeArg a) (hfit : argFits c.kind a)
    (hvalid : validArg a = true) (hrange : ArgInRange a) (hfd : c.kind.hasFd = true → c.fds.length = 1)
    (hra : sst.replyAck = pst.replyAck) (herr : sst.error = none) (hr : InRange h) :
    (∃ call, (step ch cl sst cst (segCells (wire req) req.fds ++ rest) h).o.calls = [call] ∧ call.fds = req.fds ∧
       (call.name, call.args, call.payload) = callOfArg c.kind.code a) ∧
    (step ch cl sst cst (segCells (wire req) req.fds ++ rest) h).rest = rest ∧
    (step ch cl sst cst (segCells (wire req) req.fds ++ rest) h).o.out =
      (if pst.replyAck then ackBytes c.kind.code (ackVal (.handler h)) else []) ∧
    (if pst.replyAck then
       Spec.BackendChannel.ackBytesOk c.kind.code (specOf h) (step ch cl sst cst (segCells (wire req) req.fds ++ rest) h).o.out = true
     else (step ch cl sst cst (segCells (wire req) req.fds ++ rest) h).o.out = []) := by
  obtain ⟨_, _, _, rfl⟩ := request_ok pst c req hreq
  obtain ⟨hk1, hk2, hk3, hk4⟩ := kind_spec c.kind
  obtain ⟨hcode, hfix⟩ := argFits_spec hfit
  have hlen : c.body.length = argLen a := hb ▸ encodeArg_length a
  have hsz : c.body.length ≤ 4096 := by rw [hlen]; cases a <;> simp [argLen]
  obtain ⟨_, hfl⟩ := Props.C01b.proxy_request_header pst
  generalize hfds : (if c.kind.hasFd then c.fds else []) = fds
  have hnf : fds.length = Spec.BackendChannel.filesPrescribed c.kind.code := by
    rw [hk4, ← hfds]; cases hh : c.kind.hasFd <;> simp [hfd, hh]
  have hn1 : fds.length ≤ 1 := by rw [hnf, hk4]; split <;> omega
  have hne : (if fds.isEmpty then none else some fds : Option (List Fd)) ≠ some [] := by cases fds <;> simp
  have hgetD : (if fds.isEmpty then none else some fds : Option (List Fd)).getD [] = fds := by cases fds <;> simp
  -- the Spec classifies the request as well-formed, so it passes the server's checks
  have hacc : classify ⟨c.kind.code, reqFlags pst, c.body.length, c.body,
      ((if fds.isEmpty then none else some fds : Option (List Fd)).getD []).length⟩ = .accept := by
    rw [hgetD]
    refine (classify_accept_iff _).2 ⟨⟨hk1, hsz, hfl.1, hfl.2.1⟩, by simp only; omega, rfl, hk3, hlen ▸ hfix, ?_, hnf, hfl.2.2.1⟩
    simp only [Spec.BackendChannel.argValid, hb, argOf_encodeArg c.kind.code a hrange hcode, hvalid]
  obtain ⟨hv, _, hfo, _⟩ := (accept_iff_checks ⟨c.kind.code, reqFlags pst, c.body.length⟩ c.body _).1 ⟨hacc, hne⟩
  have hmax : Gen.Consts.MAX_MSG_SIZE = 4096 := by decide
  obtain ⟨_, _, hstep⟩ := step_of_message ch cl sst cst c.kind.code (reqFlags pst) c.body.length c.body fds rest h herr hk2
    (by omega) (by omega) rfl
    ((hdrValidB_spec _ (encHdr_length _ _ _)).2 (by rw [parseHdr_encHdr _ _ _ hk2 (by omega) (by omega)]; exact hv)) hfo (by omega)
  obtain ⟨⟨call, k1, k2, k3⟩, kexact, _⟩ := accepted_request_meets_spec sst ⟨c.kind.code, reqFlags pst, c.body.length⟩ c.body
    (if fds.isEmpty then none else some fds) h hacc hne hr
  have hout : sendAck sst ⟨c.kind.code, reqFlags pst, c.body.length⟩ (.handler h) =
      if pst.replyAck then ackBytes c.kind.code (ackVal (.handler h)) else [] := by
    simp only [sendAck, hra, show Hdr.needReply ⟨c.kind.code, reqFlags pst, c.body.length⟩ = pst.replyAck from hfl.2.2.2]
    cases pst.replyAck <;> rfl
  simp only [wire, hstep, k1, kexact, hout]
  refine ⟨⟨call, rfl, by rw [k2, hgetD], ?_⟩, trivial, trivial, ?_⟩
  · rw [k3]
    simp only [expectedCall, hb, argOf_encodeArg c.kind.code a hrange hcode]
    cases a <;> rfl
  · cases pst.replyAck
    · rfl
    · exact ack_bytes_meet_spec c.kind.code h hk2 hr

/-- **C18, end to end over both models.**  A protocol-valid request issued through the proxy is served by one
`handle_request`; what the server writes back is what the proxy reads.  With REPLY_ACK (negotiated on both ends) the proxy
call succeeds iff the application's handler returned zero — it fails for every non-zero value, every errno and errors
without errno — and never waits indefinitely; without REPLY_ACK the server writes nothing, the proxy awaits nothing and
returns `Ok(0)`.  For every request kind and argument value, handler outcome, chooser (segmentation / timing) on both
directions, and whatever is queued behind the messages. -/
theorem proxy_call_end_to_end {σ τ : Type} (ch : Chooser σ) (ch' : Chooser τ) (cl cl' : Bool) (pst : PSt) (sst : FSt)
    (c : Model.BackendProxy.Call) (a : Arg) (req : Req) (cst : σ) (cst' : τ) (rest rest' : List Cell) (h : HOut)
    (hreq : request pst c = .ok req) (hb : c.body = encodeArg a) (hfit : argFits c.kind a)
    (hvalid : validArg a = true) (hrange : ArgInRange a) (hfd : c.kind.hasFd = true → c.fds.length = 1)
    (hra : sst.replyAck = pst.replyAck) (herr : sst.error = none) (hperr : pst.error = none) (hr : InRange h) :
    let srv := step ch cl sst cst (segCells (wire req) req.fds ++ rest) h
    let co := callRecv ch' cl' pst req cst' (segCells srv.o.out [] ++ rest')
    (pst.replyAck = true → ((∃ v, co.ret = .ok v) ↔ h = .okv 0) ∧ co.ret ≠ .blocked ∧ co.rest = rest') ∧
    (pst.replyAck = false → srv.o.out = [] ∧ co.ret = .ok 0 ∧ co.rest = rest') := by
  intro srv co
  obtain ⟨_, _, hout, _⟩ := proxy_reaches_handler ch cl pst sst c a req cst rest h hreq hb hfit hvalid hrange hfd hra herr hr
  obtain ⟨_, _, _, rfl⟩ := request_ok pst c req hreq
  have P := callRecv_proj ch' cl' pst ⟨⟨c.kind.code, reqFlags pst, c.body.length⟩, c.body, if c.kind.hasFd then c.fds else []⟩ cst'
  constructor
  · intro hp
    obtain ⟨w1, w2, w3⟩ := proxy_ok_iff_handler_zero ch' cl' pst c.kind c.body.length h cst' rest' hp hperr hr
    obtain ⟨p1, p2, _, p4, _⟩ := P (segCells (ackBytes c.kind.code (ackVal (.handler h))) [] ++ rest')
    simp only [co, show srv.o.out = ackBytes c.kind.code (ackVal (.handler h)) by simp only [srv, hout, hp, if_true]]
    exact ⟨p1.trans w1, mt p2.1 w2, p4.trans w3⟩
  · intro hp
    have ho : srv.o.out = [] := by simp only [srv, hout, hp]; rfl
    obtain ⟨n1, n2, _, _⟩ := no_ack_without_replyack_proxy ch' cl' pst ⟨c.kind.code, reqFlags pst, c.body.length⟩ cst' rest' hp hperr
    obtain ⟨_, _, p3, p4, _⟩ := P rest'
    simp only [co, ho, segCells, List.nil_append]
    exact ⟨trivial, (p3 _ n1).trans (by rw [leVal_leBytes 8 0 (by decide)]), p4.trans n2⟩

end Compose

/-! ## non-vacuity -/
section Examples
open Model.BackendProxy

/-- a valid SHARED_OBJECT_ADD (uuid 0x1234) with NEED_REPLY, REPLY_ACK negotiated, handler fails with ENOENT (2):
one handler call, acknowledgement carries 2^64 − 2 -/
example : (dispatch { replyAck := true } ⟨6, 9, 16⟩ (leBytes 16 0x1234) none (.errno 2)).calls =
    [⟨"shared_object_add", [0x1234], [], []⟩] := by decide
example : (dispatch { replyAck := true } ⟨6, 9, 16⟩ (leBytes 16 0x1234) none (.errno 2)).out = ackBytes 6 (2^64 - 2) := by decide
example : classify ⟨6, 9, 16, leBytes 16 0x1234, 0⟩ = .accept := by decide
/-- nil UUID: the handler is not invoked and nothing is acknowledged (early return) -/
example : (dispatch { replyAck := true } ⟨6, 9, 16⟩ (leBytes 16 0) none (.okv 0)).calls = [] ∧
    (dispatch { replyAck := true } ⟨6, 9, 16⟩ (leBytes 16 0) none (.okv 0)).out = [] := by decide
/-- an unserved request code with NEED_REPLY is acknowledged with −EINVAL -/
example : (dispatch { replyAck := true } ⟨1, 9, 0⟩ [] none (.okv 0)).out = ackBytes 1 (2^64 - 22) := by decide
/-- SHMEM_MAP without a file does not get past `check_attached_files` -/
example : filesOk 9 none = false ∧ filesOk 9 (some [7]) = true ∧ filesOk 6 (some [7]) = false := by decide
example : InRange (.errno 2) ∧ InRange (.okv 0) := by simp [InRange]
/-- the gate is satisfiable both ways -/
example : Kind.gate { sharedObject := true } .add = true ∧ Kind.gate {} .add = false := by decide
example : (request { sharedObject := true, replyAck := true } ⟨.add, leBytes 16 0x1234, []⟩).toOption.map (·.hdr) =
    some ⟨6, 9, 16⟩ := by decide
/-- the hypotheses of `proxy_reaches_handler` / `proxy_call_end_to_end` are satisfiable: a SHARED_OBJECT_ADD and a SHMEM_MAP -/
example : ∃ req, request { replyAck := true, sharedObject := true } ⟨.add, leBytes 16 0x1234, []⟩ = .ok req ∧
    leBytes 16 0x1234 = encodeArg (.uuid 0x1234) ∧ argFits .add (.uuid 0x1234) ∧ validArg (.uuid 0x1234) = true ∧
    ArgInRange (.uuid 0x1234) := ⟨_, rfl, rfl, trivial, by decide, by simp [ArgInRange]⟩
example : ∃ req, request { shmem := true } ⟨.map, encodeArg (.mmap ⟨3, [1, 2, 3, 4, 5, 6, 7], 0x1000, 2^64 - 0x2000, 0x1000, 1⟩), [42]⟩ = .ok req ∧
    req.fds = [42] ∧ argFits .map (.mmap ⟨3, [1, 2, 3, 4, 5, 6, 7], 0x1000, 2^64 - 0x2000, 0x1000, 1⟩) ∧
    validArg (.mmap ⟨3, [1, 2, 3, 4, 5, 6, 7], 0x1000, 2^64 - 0x2000, 0x1000, 1⟩) = true ∧
    ArgInRange (.mmap ⟨3, [1, 2, 3, 4, 5, 6, 7], 0x1000, 2^64 - 0x2000, 0x1000, 1⟩) :=
  ⟨_, rfl, rfl, trivial, by decide, by simp [ArgInRange]⟩
/-- a history mixing a failing and a succeeding request and a request without NEED_REPLY: two acknowledgements, in order -/
example : acksOf { replyAck := true }
    [.req ⟨⟨6, 9, 16⟩, leBytes 16 0x1234, none, .errno 2⟩, .req ⟨⟨7, 1, 16⟩, leBytes 16 0x1234, none, .okv 0⟩,
     .req ⟨⟨7, 9, 16⟩, leBytes 16 0x1234, none, .okv 0⟩] = [ackBytes 6 (2^64 - 2), ackBytes 7 0] := by decide

end Examples

end Props.C18
