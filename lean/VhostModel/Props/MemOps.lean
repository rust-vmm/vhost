import VhostModel.Gen.MemOps
import VhostModel.Props.C13
/-!
# The address translation of the model is `vmm_va_to_gpa` of the source

`Gen/MemOps.lean` is regenerated on every run from `VhostUserHandler::vmm_va_to_gpa` (`vhost-user-backend/src/handler.rs`):
the containment test and the result expression as functions on naturals, each with the condition under which its `u64`
arithmetic is defined (`&&` is lazy: `vmm_addr + size` is evaluated only when `vmm_va >= vmm_addr`), packed into a
find-first loop descriptor (`ArithSig.FindLoop`).

* `translateChecked_eq_gen`  for **all** tables and addresses the model's machine-arithmetic translation
  (`Model.MemTable.translateChecked`, C13) is the generated loop: same hit, same value, `overflow` exactly where a
  generated definedness condition fails;
* `translate_eq_gen`, `gen_never_faults`  when every entry satisfies the region validity rule of the message layer
  (`Spec.validRegion`, via `Props.C13.translate_no_overflow`) no definedness condition can fail and the mathematical
  `Model.MemTable.translate` is the generated loop.
-/
namespace Props.MemOps
open Model.MemTable ArithSig

/-- a translation entry of the model as the generated record (fields the function does not read keep their default) -/
abbrev toGen (m : AddrMapping) : Gen.MemOps.AddrMapping := { vmm_addr := m.vmmAddr, size := m.size, gpa_base := m.gpaBase }

/-- the fields the generated function reads are the three the model records -/
theorem fields_used : Gen.MemOps.AddrMapping.used = ["vmm_addr", "size", "gpa_base"] := by rfl

def toTr : Found → Tr
  | .ok v => .ok v
  | .missing => .missing
  | .fault => .overflow

/-- **for all inputs** the model's checked translation is the generated loop -/
theorem translateChecked_eq_gen (ms : List AddrMapping) (va : Nat) :
    translateChecked ms va = toTr (Gen.MemOps.vmm_va_to_gpa.loop.run (ms.map toGen) va) := by
  induction ms with
  | nil => rfl
  | cons m ms ih =>
    simp only [translateChecked, List.map_cons, FindLoop.run, Gen.MemOps.vmm_va_to_gpa.loop,
      Gen.MemOps.vmm_va_to_gpa.hit, Gen.MemOps.vmm_va_to_gpa.hit.defd, Gen.MemOps.vmm_va_to_gpa.res,
      Gen.MemOps.vmm_va_to_gpa.res.defd, toGen]
    simp only [Gen.MemOps.vmm_va_to_gpa.loop] at ih
    by_cases h1 : m.vmmAddr ≤ va
    · by_cases h2 : m.vmmAddr + m.size < 2 ^ 64
      · by_cases h3 : va < m.vmmAddr + m.size
        · by_cases h4 : va - m.vmmAddr + m.gpaBase < 2 ^ 64
          · simp [h1, h2, h3, h4, toTr] <;> omega
          · simp [h1, h2, h3, h4, toTr] <;> omega
        · simp [h1, h2, h3, ih] <;> omega
      · simp [h1, h2, toTr] <;> omega
    · simp [h1, ih] <;> omega

/-- the generated containment test and result are the mathematical ones of `Model.MemTable.translate` -/
theorem hit_res_eq (m : AddrMapping) (va : Nat) :
    (Gen.MemOps.vmm_va_to_gpa.hit (toGen m) va = true ↔ m.vmmAddr ≤ va ∧ va < m.vmmAddr + m.size) ∧
    Gen.MemOps.vmm_va_to_gpa.res (toGen m) va = va - m.vmmAddr + m.gpaBase := by
  refine ⟨?_, rfl⟩
  simp [Gen.MemOps.vmm_va_to_gpa.hit]

/-- **definedness under the validity rule**: when every entry satisfies `Spec.validRegion` (what the message layer
checked, `Props.C13.mappings_valid`) the generated loop never reaches undefined arithmetic … -/
theorem gen_never_faults (ms : List AddrMapping) (hv : ∀ m ∈ ms, Lemmas.MemTable.MappingValid m) (va : Nat) :
    Gen.MemOps.vmm_va_to_gpa.loop.run (ms.map toGen) va ≠ .fault := by
  intro h
  have h1 := (Props.C13.translate_no_overflow ms hv va).1
  rw [translateChecked_eq_gen, h] at h1
  exact h1 rfl

/-- … and it computes `Model.MemTable.translate`; the result is a 64-bit address -/
theorem translate_eq_gen (ms : List AddrMapping) (hv : ∀ m ∈ ms, Lemmas.MemTable.MappingValid m) (va : Nat) :
    Gen.MemOps.vmm_va_to_gpa.loop.run (ms.map toGen) va =
      (match translate ms va with | some g => .ok g | none => .missing) ∧
    ∀ g, translate ms va = some g → g < 2 ^ 64 := by
  obtain ⟨_, h2, h3⟩ := Props.C13.translate_no_overflow ms hv va
  refine ⟨?_, h3⟩
  rw [translateChecked_eq_gen] at h2
  cases hr : Gen.MemOps.vmm_va_to_gpa.loop.run (ms.map toGen) va with
  | ok v => rw [hr] at h2; cases ht : translate ms va <;> simp_all [toTr]
  | missing => rw [hr] at h2; cases ht : translate ms va <;> simp_all [toTr]
  | fault => exact absurd hr (gen_never_faults ms hv va)

/-- a single validated region (`Spec.validRegion`) — the direct form of the definedness claim -/
theorem defined_of_validRegion (m : AddrMapping) (off va : Nat)
    (hv : Spec.validRegion m.gpaBase m.size m.vmmAddr off) :
    Gen.MemOps.vmm_va_to_gpa.hit.defd (toGen m) va = true ∧
    (Gen.MemOps.vmm_va_to_gpa.hit (toGen m) va = true → Gen.MemOps.vmm_va_to_gpa.res.defd (toGen m) va = true) := by
  obtain ⟨_, h1, h2, _⟩ := hv
  have hd : m.vmmAddr + m.size < 18446744073709551616 := by omega
  constructor
  · simp [Gen.MemOps.vmm_va_to_gpa.hit.defd, hd]
  · simp [Gen.MemOps.vmm_va_to_gpa.hit, Gen.MemOps.vmm_va_to_gpa.res.defd]
    intro h3 h4; exact ⟨h3, by omega⟩

example : Gen.MemOps.vmm_va_to_gpa.loop.run [toGen ⟨0x7000, 0x1000, 0x1000⟩, toGen ⟨0x9000, 0x2000, 0x4000⟩] 0xafff = .ok 0x5fff ∧
    Gen.MemOps.vmm_va_to_gpa.loop.run [toGen ⟨0x7000, 0x1000, 0x1000⟩] 0x8000 = .missing ∧
    Gen.MemOps.vmm_va_to_gpa.loop.run [toGen ⟨0xffff_ffff_ffff_f000, 0x1000, 0x1000⟩] 0xffff_ffff_ffff_f000 = .fault := by
  decide

end Props.MemOps
