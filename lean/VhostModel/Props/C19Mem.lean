import VhostModel.Props.C19Shapes
/-!
# C19: operations whose argument is a header followed by data (`get_config`, `set_config`, `set_mem_table`)

`config_arg` for every buffer, `memTable_arg` for every table of at most 255 regions.  Rests on `ioCall_meets_uapi` and `PairLayout`
of `Props/C19Shapes.lean`.
-/
namespace Props.C19
open Base Base.K Gen.Ioctl Model.Kern Lemmas.Kern

theorem vdpa_config_layout : PairLayout "vhost_vdpa_config" "off" "len" :=
  ⟨fun _ _ => rfl, by decide +kernel, by decide +kernel, by decide +kernel⟩

section
open Spec.Uapi

theorem retProblem_configBuf (i : Inp) (size len : Nat) (hdr : Bytes) (hh : hdr.length = 8) :
    retProblem i size (.configBuf len)
      (if i.rc ≠ 0 then .err "ioctl" else .okb ((afterCall i VDPA_GET_CONFIG (hdr ++ zeros len)).drop hdr.length)) = none := by
  unfold retProblem
  by_cases h : i.rc = 0
  · simp only [h, ne_eq, not_true_eq_false, if_false]
    cases hw : i.wb.isEmpty
    · have : afterCall i VDPA_GET_CONFIG (hdr ++ zeros len) = (hdr ++ zeros len).take 8 ++ cyc i.wb ((hdr ++ zeros len).length - 8) := by
        unfold afterCall
        have hd : ¬ (Model.Kern.iocDir VDPA_GET_CONFIG / 2 = 0) := by decide
        simp [h, hw, hd]
      rw [this, hh]
      have h8 : ((hdr ++ zeros len).take 8).length = 8 := by simp [hh]
      rw [List.drop_append, h8, List.drop_eq_nil_of_le (by omega)]
      simp [hh, zeros]
    · simp
  · simp [h]

theorem config_arg (off len : Nat) (data : Option Bytes) (tail : Bytes) (hlen : tail.length = len)
    (hd : ∀ d, data = some d → tail = d) :
    argProblem 8 (.config (off % 2 ^ 32) len data) (imageOf 8 [(0, 4, off % 2 ^ 32), (4, 4, len)] ++ tail) = none := by
  have hl := pair_length (off % 2 ^ 32) len
  have hp := peek_imageOf 8 [(0, 4, off % 2 ^ 32), (4, 4, len)] (by simp) (by simp [LeafDisjoint])
  have k1 := peekField_of (imageOf 8 [(0, 4, off % 2 ^ 32), (4, 4, len)] ++ tail) "vhost_vdpa_config" ["off"] 0 4
    (off % 2 ^ 32 % 256 ^ 4) vdpa_config_layout.fst (by rw [List.length_append, hl]; omega)
    ((peek_append_left _ _ _ _ (by omega)).trans (hp (0, 4, off % 2 ^ 32) (by simp)))
  have k2 := peekField_of (imageOf 8 [(0, 4, off % 2 ^ 32), (4, 4, len)] ++ tail) "vhost_vdpa_config" ["len"] 4 4
    (len % 256 ^ 4) vdpa_config_layout.snd (by rw [List.length_append, hl]; omega)
    ((peek_append_left _ _ _ _ (by omega)).trans (hp (4, 4, len) (by simp)))
  have e4 : (256 : Nat) ^ 4 = 2 ^ 32 := by decide
  simp only [e4, Nat.mod_mod] at k1 k2
  have hdrop : (imageOf 8 [(0, 4, off % 2 ^ 32), (4, 4, len)] ++ tail).drop 8 = tail := by
    rw [← hl, List.drop_left']
    rfl
  unfold argProblem
  cases data with
  | none => simp [hl, hlen, k1, k2]
  | some d =>
    obtain rfl := hd d rfl
    simp [hl, hlen, k1, k2, hdrop]

end

/-- `get_config(offset, buffer)`: `VHOST_VDPA_GET_CONFIG` with `off`, `len = buffer.len()` in the header followed by
    `len` bytes; the buffer returned is what the kernel wrote into `buf` — for every length -/
theorem get_config_meets_uapi (off len : Nat) (e : Env) :
    ∀ o, run (inp "vdpa" "get_config" [off, len] e) = some o →
      Spec.Uapi.problem (inp "vdpa" "get_config" [off, len] e) o = none := by
  have hrun : run (inp "vdpa" "get_config" [off, len] e) =
      ioCall (inp "vdpa" "get_config" [off, len] e) "VhostVdpa" "get_config"
        (some (imageOf 8 [(0, 4, off % 2 ^ 32), (4, 4, len)] ++ zeros len))
        fun o => .okb (o.drop (imageOf 8 [(0, 4, off % 2 ^ 32), (4, 4, len)]).length) :=
    (rfl : _ = do
      let hdr ← structImage "vhost_vdpa_config" [(["off"], off % 2 ^ 32), (["len"], len)]
      ioCall _ "VhostVdpa" "get_config" (some (hdr ++ zeros len)) fun o => .okb (o.drop hdr.length)).trans
      (by rw [vdpa_config_layout.image]; rfl)
  exact (ioCall_meets_uapi (req := 0x8008af73) (size := 8) hrun (Option.some.inj (issued_at 20)) rfl (config_arg off len none _ (by simp [zeros]) nofun)
    (retProblem_configBuf _ 8 len _ (pair_length _ _)) rfl).2

/-- `set_config(offset, buffer)`: header `off`, `len`, then the caller's bytes — for every buffer -/
theorem set_config_meets_uapi (off : Nat) (e : Env) :
    ∀ o, run (inp "vdpa" "set_config" [off] e) = some o →
      Spec.Uapi.problem (inp "vdpa" "set_config" [off] e) o = none := by
  have hrun : run (inp "vdpa" "set_config" [off] e) =
      ioCall (inp "vdpa" "set_config" [off] e) "VhostVdpa" "set_config"
        (some (imageOf 8 [(0, 4, off % 2 ^ 32), (4, 4, e.buf.length)] ++ e.buf)) unitRet :=
    (rfl : _ = do
      let hdr ← structImage "vhost_vdpa_config" [(["off"], off % 2 ^ 32), (["len"], e.buf.length)]
      ioCall _ "VhostVdpa" "set_config" (some (hdr ++ e.buf)) unitRet).trans
      (by rw [vdpa_config_layout.image]; rfl)
  exact (ioCall_meets_uapi (req := 0x4008af74) (size := 8) hrun (Option.some.inj (issued_at 21)) rfl (config_arg off _ (some e.buf) _ rfl (fun _ h => (Option.some.inj h)))
    (retProblem_unit _ _ _) rfl).2

/-- one `vhost_memory_region` as `set_mem_table` fills it -/
def regionImage (r : Nat × Nat × Nat) : Bytes := imageOf 32 [(0, 8, r.1), (8, 8, r.2.1), (16, 8, r.2.2), (24, 8, 0)]

/-- argument list of the scenario for a region table -/
def flat : List (Nat × Nat × Nat) → List Nat
  | [] => []
  | (g, s, u) :: rest => g :: s :: u :: flat rest

theorem triples_flat (regs : List (Nat × Nat × Nat)) : triples (flat regs) = regs := by
  induction regs with
  | nil => rfl
  | cons r rest ih => obtain ⟨g, s, u⟩ := r; simp [flat, triples, ih]

theorem spec_triples_flat (regs : List (Nat × Nat × Nat)) : Spec.Uapi.triples (flat regs) = regs := by
  induction regs with
  | nil => rfl
  | cons r rest ih => obtain ⟨g, s, u⟩ := r; simp [flat, Spec.Uapi.triples, ih]

theorem flat_length (regs : List (Nat × Nat × Nat)) : (flat regs).length = 3 * regs.length := by
  induction regs with
  | nil => rfl
  | cons r rest ih => obtain ⟨g, s, u⟩ := r; simp [flat, ih]; omega

theorem regionImage_length (r : Nat × Nat × Nat) : (regionImage r).length = 32 :=
  imageOf_length 32 _ (by simp)

theorem mapM_regionImage (regs : List (Nat × Nat × Nat)) :
    regs.mapM (fun (x : Nat × Nat × Nat) =>
      structImage "vhost_memory_region" [(["guest_phys_addr"], x.1), (["memory_size"], x.2.1), (["userspace_addr"], x.2.2),
        (["flags_padding"], 0)]) = some (regs.map regionImage) := by
  induction regs with
  | nil => rfl
  | cons r rest ih =>
    have h1 : structImage "vhost_memory_region" [(["guest_phys_addr"], r.1), (["memory_size"], r.2.1), (["userspace_addr"], r.2.2),
        (["flags_padding"], 0)] = some (regionImage r) := rfl
    simp [List.mapM_cons, h1, ih]

theorem flatten_regions_length (regs : List (Nat × Nat × Nat)) : ((regs.map regionImage).flatten).length = 32 * regs.length := by
  induction regs with
  | nil => rfl
  | cons r rest ih =>
    simp only [List.map_cons, List.flatten_cons, List.length_append, regionImage_length, List.length_cons, ih]
    omega

section
open Spec.Uapi

theorem memTable_arg (regs : List (Nat × Nat × Nat)) (h255 : regs.length ≤ 255) :
    argProblem 8 (.memTable regs) (imageOf 8 [(0, 4, regs.length)] ++ (regs.map regionImage).flatten) = none := by
  have hl : (imageOf 8 [(0, 4, regs.length)]).length = 8 := imageOf_length 8 _ (by simp)
  have e4 : (256 : Nat) ^ 4 = 2 ^ 32 := by decide
  have e8 : (256 : Nat) ^ 8 = 2 ^ 64 := by decide
  have k1 : peekField (imageOf 8 [(0, 4, regs.length)] ++ (regs.map regionImage).flatten) "vhost_memory" ["nregions"] =
      some regs.length := by
    apply peekField_of _ _ _ 0 4 _ (by decide +kernel) (by rw [List.length_append, hl]; omega)
    have hp := peek_imageOf 8 [(0, 4, regs.length)] (by simp) (by simp) (0, 4, regs.length) (by simp)
    simp only at hp
    rw [peek_append_left _ _ _ _ (by omega), hp, e4]
    exact Nat.mod_eq_of_lt (by omega)
  have k2 : peekField (imageOf 8 [(0, 4, regs.length)] ++ (regs.map regionImage).flatten) "vhost_memory" ["padding"] =
      some 0 := by
    apply peekField_of _ _ _ 4 4 _ (by decide +kernel) (by rw [List.length_append, hl]; omega)
    rw [peek_append_left _ _ _ _ (by omega)]
    exact peek_imageOf_untouched 8 [(0, 4, regs.length)] 4 4 (by simp) (by simp)
  unfold argProblem
  simp only [List.length_append, hl, flatten_regions_length regs, ne_eq, not_true_eq_false, if_false, k1, k2]
  rw [List.findSome?_eq_none_iff]
  intro k hk
  have hk' : k < regs.length := by simpa using hk
  have hr : ((imageOf 8 [(0, 4, regs.length)] ++ (regs.map regionImage).flatten).drop (8 + 32 * k)).take 32 =
      regionImage regs[k] := by
    rw [List.drop_append, hl, List.drop_eq_nil_of_le (by omega), List.nil_append]
    have : 8 + 32 * k - 8 = 32 * k := by omega
    rw [this, flatten_chunk _ (by intro c hc; simp only [List.mem_map] at hc; obtain ⟨r, _, rfl⟩ := hc; exact regionImage_length r)
      k (by simpa using hk')]
    simp
  simp only [hr, List.getElem?_eq_getElem hk']
  generalize regs[k] = r
  obtain ⟨g, z, u⟩ := r
  have hq := peek_imageOf 32 [(0, 8, g), (8, 8, z), (16, 8, u), (24, 8, 0)] (by simp) (by simp [LeafDisjoint])
  have q (p : List String) (off v : Nat) (hf : fieldAt "vhost_memory_region" p = some (off, 8)) (ho : off ≤ 24)
      (hm : (off, 8, v) ∈ [(0, 8, g), (8, 8, z), (16, 8, u), (24, 8, 0)]) :=
    peekField_of (regionImage (g, z, u)) "vhost_memory_region" p off 8 _ hf (by rw [regionImage_length]; omega) (hq _ hm)
  have q1 := q ["guest_phys_addr"] 0 g (by decide +kernel) (by omega) (by simp)
  have q2 := q ["memory_size"] 8 z (by decide +kernel) (by omega) (by simp)
  have q3 := q ["userspace_addr"] 16 u (by decide +kernel) (by omega) (by simp)
  have q4 := q ["flags_padding"] 24 0 (by decide +kernel) (by omega) (by simp)
  simp only [e8] at q1 q2 q3 q4
  simp [q1, q2, q3, q4]

end

/-- `set_mem_table(regions)` for every table of 1..=255 regions: `VHOST_SET_MEM_TABLE` with `nregions` = the number
    of regions, `padding` = 0 and, for every `k`, region `k` of the array carrying the caller's guest address, size and
    user address at the UAPI offsets (`flags_padding` = 0) -/
theorem set_mem_table_meets_uapi (be : String) (hbe : be ∈ BES) (regs : List (Nat × Nat × Nat))
    (h1 : 1 ≤ regs.length) (h255 : regs.length ≤ 255) (e : Env) :
    run (inp be "set_mem_table" (flat regs) e) =
      some ⟨[.io 0x4008af03 (imageOf 8 [(0, 4, regs.length)] ++ (regs.map regionImage).flatten)], unitR e, none⟩ ∧
    ∀ o, run (inp be "set_mem_table" (flat regs) e) = some o →
      Spec.Uapi.problem (inp be "set_mem_table" (flat regs) e) o = none := by
  obtain ⟨hr, hx, hk⟩ := blanket hbe (op := "set_mem_table") (by decide +kernel) (flat regs) e
  have hb : backendOp (inp be "set_mem_table" (flat regs) e) = ioCall (inp be "set_mem_table" (flat regs) e)
      "VhostBackend" "set_mem_table" (some (imageOf 8 [(0, 4, regs.length)] ++ (regs.map regionImage).flatten)) unitRet := by
    have hh : structImage "vhost_memory" [(["nregions"], regs.length)] = some (imageOf 8 [(0, 4, regs.length)]) := rfl
    have hr : leafAt "vhost_memory" ["regions"] = some (8, 0) := by decide +kernel
    have hl : (imageOf 8 [(0, 4, regs.length)]).length = 8 := imageOf_length 8 _ (by simp)
    have hn : ¬ (regs.length = 0 ∨ 255 < regs.length) := by omega
    simp only [backendOp, inp, triples_flat, hn, if_false, hh, hr, Option.bind_eq_bind, Option.bind_some]
    rw [show (List.mapM (fun (x : Nat × Nat × Nat) => match x with
          | (g, z, u) => structImage "vhost_memory_region" [(["guest_phys_addr"], g), (["memory_size"], z), (["userspace_addr"], u),
              (["flags_padding"], 0)]) regs) = some (regs.map regionImage) from mapM_regionImage regs]
    simp [hl, zeros, List.take_of_length_le]
  have hexp : Spec.Uapi.expect (inp "kern" "set_mem_table" (flat regs) e) =
      .ioctl ("VhostBackend" ++ "." ++ "set_mem_table") (.memTable regs) .unit false := by
    have h : Spec.Uapi.expect (inp "kern" "set_mem_table" (flat regs) e) =
        (let rg := Spec.Uapi.triples (flat regs)
         if rg.length = 0 ∨ 255 < rg.length ∨ (flat regs).length ≠ 3 * rg.length then .free
         else .ioctl ("VhostBackend" ++ "." ++ "set_mem_table") (.memTable rg) .unit false) := rfl
    simp only [spec_triples_flat, flat_length] at h
    rw [h, if_neg (by omega)]
  exact ioCall_meets_uapi (req := 0x4008af03) (size := 8) (hr.trans hb) (Option.some.inj (issued_at 4)) (hx.trans hexp)
    (memTable_arg regs h255) (retProblem_unit _ _ _) hk

end Props.C19
