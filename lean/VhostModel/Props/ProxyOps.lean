import VhostModel.Lemmas.ProxyBackend
import VhostModel.Lemmas.ProxyGpu
import VhostModel.Lemmas.ProxyAck
import VhostModel.Props.C01b
import VhostModel.Props.C18
/-!
# The proxy models and the acknowledgement path of the server model are the source

`Gen.ProxyOps` is regenerated on every run (`tools/rs2lean_proxy.py`) from

* `backend_req.rs` — `BackendInternal::{check_state, send_message, wait_for_ack}` as statement programs (early exits with
  the translated condition, the header built incl. `set_need_reply`, the socket write, the socket read, the value), the
  five methods of `impl VhostUserFrontendReqHandler for Backend` as rows (gate field + translated gate condition, helper,
  `BackendReq` code resolved, body type and size, descriptor), `Backend::new` and the setters;
* `gpu_backend_req.rs` — `BackendInternal::{check_state, send_header, send_message, send_message_with_payload,
  recv_reply}` as statement programs, the twelve request methods of `GpuBackend` as rows (helper, `GpuBackendReq` code
  resolved, body type / payload, descriptor, reply type or none, what is returned), `new` and `set_failed`;
* `frontend_req_handler.rs` — `check_state`, `check_msg_size`, `extract_msg_body`, `new_reply_header` as guard programs
  (vocabulary of `Base/HelperSig.lean`), `send_ack_message` (condition, the inlined `new_reply_header`, the value as a
  nested `match` over the handler result with the `i32` negation and the `as u64` wrap translated exactly), `new`, the
  setters.

Three layers, each a theorem:

1. **table = source** (kernel evaluation of both sides, `rfl`): `backend_rows_match_source`, `gpu_rows_match_source`, `…_setters_match_source`,
   `…_init_matches_source`, `sizes_match_layout`.  The model tables (`Model.ProxyTable`) are *computed* from
   `Model.BackendProxy.Kind.{code, bodyTy, hasFd}` and `Model.GpuProxy.methods`.
2. **program = executable model, for all states / calls / streams / handler outcomes** (full equations):
   * `Lemmas.Proxy.proxy_request_table`, `proxy_request_error_table`, `proxy_refused_iff`, `proxy_call_writes`,
     `proxy_call_table`, `proxy_reads_iff` — `Model.BackendProxy`;
   * `Lemmas.Proxy.gpu_request_table`, `gpu_request_ok_table`, `gpu_request_refused_iff`, `Lemmas.Proxy.gpu_recvReply_table`,
     `gpu_callRecv_table`, `gpu_reply_with_descriptors_rejected` — `Model.GpuProxy`;
   * `ack_cond_matches`, `ack_value_matches`, `ack_steps_pass`, `sendAck_table`, `dispatch_ack_table`, `check_msg_size_matches`,
     `extract_msg_body_matches`, `new_reply_header_matches`, `setFailed_matches` — `Model.FrontendSrv`.
3. **where the formulations differ** (reported, each with its theorem): see the section at the end.

Hypotheses of the equations and why they are there:
* `c.body.length = size_of::<T>()` (`hlen`): a model call carries the argument struct as raw bytes; in Rust the body is a
  `&T`.  Without it the model answers `other` (a malformed *model* call), the source has no such case.
* `hpl` (GPU payload fits `u32::MAX`): the bound is checked by `Endpoint::send_message_with_payload` (connection.rs, tied
  by `Props.ConnLoops`), not by `gpu_backend_req.rs`.
* `OutRange`: the handler outcome is a `u64`, resp. a non-negative `i32` OS error code — the model's `errno` is a natural
  number, negative codes are outside the model (`ack_negative_errno`).
-/
namespace Props.ProxyOps
open Base ProxySig Model.ProxyTable Model.Msgs Model.Stream Model.RecvBody Lemmas.Proxy
open Model.BackendSrv (Err Hdr encHdr hdrNewFlags)
open Model.Frontend (Reply RecvRes RecvOut)

/-! ## 1. the tables are the source -/

/-- `mem::size_of::<T>()` as the translator computed it = the size the generated layout table gives -/
theorem sizes_match_layout :
    Gen.ProxyOps.sizes.all (fun p => Model.GpuProxy.sizeOfTy p.1 == some p.2) = true := by rfl

/-- **backend_rows_match_source**: per call kind of `Model.BackendProxy`, in source order: the Rust method, the gate
field, the helper, the request code, the body type and its size, the descriptor flag -/
theorem backend_rows_match_source : backendRows = Gen.ProxyOps.Backend.methods.map (·.row) := backendRows_eq

theorem backend_setters_match_source : backendSetters = Gen.ProxyOps.Backend.setters := by rfl

/-- `Backend::new`: every flag clear, no error — the default `PSt` -/
theorem backend_init_matches_source :
    backendState {} = (Gen.ProxyOps.Backend.init.filter (fun p => p.1 != "sock")).map
      (fun p => (p.1, p.2)) := by rfl

/-- **gpu_rows_match_source**: `Model.GpuProxy.methods`, row by row: name, helper, code, body type and size, payload,
descriptor, reply type, returned value -/
theorem gpu_rows_match_source : gpuRows = Gen.ProxyOps.Gpu.methods := gpuRows_eq

theorem gpu_setters_match_source : gpuSetters = Gen.ProxyOps.Gpu.setters := by rfl

theorem gpu_init_matches_source :
    gpuState {} = Gen.ProxyOps.Gpu.init.filter (fun p => p.1 != "sock") := by rfl

theorem fe_setters_match_source : feSetters = Gen.ProxyOps.FeSrv.setters := by rfl

theorem fe_init_matches_source :
    feState {} = Gen.ProxyOps.FeSrv.init.filter (fun p => p.1 == "reply_ack_negotiated" || p.1 == "error") := by rfl

/-- the local checks of the send helpers and the number of checks behind the read of the two readers -/
theorem program_checks (x : PIn) :
    localChecks x Gen.ProxyOps.Backend.send_message.stmts = [(x.errorIsSome, .socketBroken)] ∧
    localChecks x Gen.ProxyOps.Backend.wait_for_ack.stmts = [(x.errorIsSome, .socketBroken)] ∧
    localChecks x Gen.ProxyOps.Gpu.send_header.stmts = [(x.errorIsSome, .socketBroken)] ∧
    localChecks x Gen.ProxyOps.Gpu.send_message.stmts = [(x.errorIsSome, .socketBroken)] ∧
    localChecks x Gen.ProxyOps.Gpu.send_message_with_payload.stmts = [(x.errorIsSome, .socketBroken)] ∧
    localChecks x Gen.ProxyOps.Gpu.recv_reply.stmts = [(x.errorIsSome, .socketBroken)] ∧
    checksAfterRecv Gen.ProxyOps.Backend.wait_for_ack.stmts = 2 ∧
    checksAfterRecv Gen.ProxyOps.Gpu.recv_reply.stmts = 1 := ⟨rfl, rfl, rfl, rfl, rfl, rfl, rfl, rfl⟩

/-! ## 2a. `Model.BackendProxy` -/
section Backend
open Model.BackendProxy

/-- first check that fires -/
def firstFiring : List (Bool × ProxySig.PErr) → Option ProxySig.PErr
  | [] => none
  | (b, e) :: r => if b then some e else firstFiring r

/-- **what the gate field means**: the translated gate condition of the method's row fails exactly when the model's
`Kind.gate` is false (`shared_object_negotiated` ↦ `PSt.sharedObject`, `shmem_negotiated` ↦ `PSt.shmem`) -/
theorem proxy_gate_iff (st : PSt) (k : Kind) :
    (methodOf k).row = rowOf k ∧ (methodOf k).gateFails (pinOf st k) = !k.gate st ∧
    (methodOf k).gateErr = .notNegotiated :=
  ⟨methodOf_row k, (Lemmas.Proxy.proxy_gate_iff st k).1, (Lemmas.Proxy.proxy_gate_iff st k).2⟩

/-- **refused locally, and with which error**: the gate's error if the gate fires, otherwise the error of the first
firing local check of `send_message` (`check_state`) -/
theorem proxy_request_error_table (st : PSt) (c : Call) (hlen : c.body.length = (rowOf c.kind).size)
    (e : Model.BackendProxy.PErr) :
    request st c = .error e ↔
      (if (methodOf c.kind).gateFails (pinOf st c.kind) then some (perrOf (methodOf c.kind).gateErr)
       else (firstFiring (localChecks (pinOf st c.kind) Gen.ProxyOps.Backend.send_message.stmts)).map perrOf) = some e := by
  rw [proxy_request_table st c hlen, (program_checks (pinOf st c.kind)).1]
  cases hg : (methodOf c.kind).gateFails (pinOf st c.kind)
  · cases he : st.error <;>
      simp [run, Gen.ProxyOps.Backend.send_message.stmts, pinOf, he, firstFiring]
  · simp

/-- **refused locally iff the row's gate or a state check of the helper fires** -/
theorem proxy_refused_iff (st : PSt) (c : Call) (hlen : c.body.length = (rowOf c.kind).size) :
    (∃ e, request st c = .error e) ↔
      ((methodOf c.kind).gateFails (pinOf st c.kind) = true ∨
       (localChecks (pinOf st c.kind) Gen.ProxyOps.Backend.send_message.stmts).any (·.1) = true) := by
  rw [proxy_request_table st c hlen, (program_checks (pinOf st c.kind)).1]
  cases hg : (methodOf c.kind).gateFails (pinOf st c.kind) <;> cases he : st.error <;>
    simp [run, Gen.ProxyOps.Backend.send_message.stmts, pinOf, he]

/-- **what an accepted call writes**: header(code of the row, flags of the generated program, size of the row's body
type) ++ the body; the flags carry NEED_REPLY iff `reply_ack_negotiated`, version 1, no REPLY; the descriptor is attached
iff the row says so; and the program continues as `wait_for_ack` -/
theorem proxy_call_writes {σ : Type} (ch : Chooser σ) (cl : Bool) (st : PSt) (c : Call) (cst : σ) (str : List Cell)
    (hlen : c.body.length = (rowOf c.kind).size) (hg : (methodOf c.kind).gateFails (pinOf st c.kind) = false)
    (he : st.error = none) :
    ∃ flags,
      run (pinOf st c.kind) Gen.ProxyOps.Backend.send_message.stmts none =
        .sent (rowOf c.kind).code flags (rowOf c.kind).size "send_message" true false true [.tailCall "wait_for_ack"] ∧
      flags.testBit 3 = st.replyAck ∧ flags % 4 = 1 ∧ flags.testBit 2 = false ∧
      (call ch cl st c cst str).wire = encHdr (rowOf c.kind).code flags (rowOf c.kind).size ++ c.body ∧
      (call ch cl st c cst str).wireFds = (if (rowOf c.kind).fd then c.fds else []) := by
  have ht := proxy_request_table st c hlen
  have hrun := send_message_run st c.kind he
  obtain ⟨_, _, _, _, w1, w2⟩ := Lemmas.BackendChannel.callRecv_proj ch cl st
    ⟨⟨c.kind.code, if st.replyAck then 9 else 1, (rowOf c.kind).size⟩, c.body, if (rowOf c.kind).fd then c.fds else []⟩ cst str
  simp only [hg, hrun, Bool.false_eq_true, if_false, methodOf_row, Bool.and_true] at ht
  refine ⟨_, hrun, ?_, ?_, ?_, by simp only [call, ht, w1, wire]; rfl, by simp only [call, ht, w2]⟩ <;>
    cases st.replyAck <;> decide

/-- **proxy_call_table**: a whole proxy call = `request` (above), then the generated `wait_for_ack` program: nothing is
read if a check fires or `Ok(0)` is returned early; otherwise one `recv_body::<VhostUserU64>`, the checks behind it on the
received message, `Ok(body.value)` -/
theorem proxy_call_table {σ : Type} (ch : Chooser σ) (cl : Bool) (st : PSt) (c : Call) (cst : σ) (str : List Cell) :
    call ch cl st c cst str =
      (match request st c with
       | .error e => ⟨.err e, [], [], str, cst, []⟩
       | .ok req => awaitOut ch cl (pinOfSt st) Gen.ProxyOps.Backend.wait_for_ack.stmts req cst str) := by
  unfold call
  split <;> simp [*, callRecv_table]

/-- `wait_for_ack` reads exactly when the endpoint has not failed and REPLY_ACK was negotiated; it then reads a
`VhostUserU64`, tests `is_reply_for` / descriptors / validity with `InvalidMessage` and `value ≠ 0` with
`FrontendInternalError`, in this order -/
theorem proxy_reads_iff (st : PSt) :
    (run (pinOfSt st) Gen.ProxyOps.Backend.wait_for_ack.stmts none =
      (if st.error.isSome then .err .socketBroken else if !st.replyAck then .ok 0 else
        .recv "VhostUserU64" (Gen.ProxyOps.Backend.wait_for_ack.stmts.drop 3))) ∧
    ∀ x : PIn, run x (Gen.ProxyOps.Backend.wait_for_ack.stmts.drop 3) none =
      (if !x.isReplyFor || x.rfdsIsSome || !x.bodyValid then .err .invalidMessage
       else if x.value != 0 then .err .frontendInternal else .ok x.value) := by
  constructor
  · cases he : st.error <;> cases hr : st.replyAck <;>
      simp [run, Gen.ProxyOps.Backend.wait_for_ack.stmts, pinOfSt, he, hr]
  · intro x
    simp only [Gen.ProxyOps.Backend.wait_for_ack.stmts, List.drop, run]

end Backend

/-! ## 2b. `Model.GpuProxy` -/
section Gpu
open Model.GpuProxy

/-- **every accepted call writes what the generated helper of its row prescribes** (no hypothesis on the call) -/
theorem gpu_request_ok_table (st : GSt) (c : Call) (req : Req) (h : request st c = .ok req) :
    gpuRowOf req.m ∈ Gen.ProxyOps.Gpu.methods ∧ (gpuRowOf req.m).name = c.name ∧
    ∃ code flags size meth b p f rest,
      run (gpuIn st req.m c) (gpuProg (gpuRowOf req.m).helper) none = .sent code flags size meth b p f rest ∧
      req.hdr = ⟨code, flags, size⟩ ∧
      req.bytes = encHdr code flags size ++ (if b then c.body else []) ++ (if p then c.payload else []) ∧
      req.fds = (if (gpuRowOf req.m).fd && f then c.fds.take 1 else []) := by
  obtain ⟨hm, hlen, hpl, _⟩ := Lemmas.BackendChannel.gpu_request_ok st c req h
  have hmem := List.mem_of_find?_eq_some hm
  have hname : req.m.name = c.name := by simpa using List.find?_some hm
  have hsz : req.m.send ≠ .header → c.body.length = (gpuRowOf req.m).size := fun hs => by simp [gpuRowOf, hlen hs]
  have ht := gpu_request_table st c req.m hm hsz fun hs => by rw [← hsz (by simp [hs])]; exact hpl hs
  refine ⟨?_, hname, ?_⟩
  · rw [← gpu_rows_match_source]; exact List.mem_map_of_mem hmem
  · rw [h] at ht
    split at ht
    · simp at ht
    · rename_i code flags size meth b p f rest hrun
      simp only [Except.ok.injEq] at ht
      exact ⟨code, flags, size, meth, b, p, f, rest, hrun, by rw [ht], by rw [ht], by rw [ht]⟩
    · simp at ht

/-- **refused locally iff the state check of the row's helper fires** (and then with `SocketBroken`) -/
theorem gpu_request_refused_iff (st : GSt) (c : Call) (m : Method) (hm : methods.find? (·.name == c.name) = some m)
    (hlen : m.send ≠ .header → c.body.length = (gpuRowOf m).size)
    (hpl : m.send = .payload → c.payload.length ≤ maxMsgSize - (gpuRowOf m).size) :
    ((∃ e, request st c = .error e) ↔
      (localChecks (gpuIn st m c) (gpuProg (gpuRowOf m).helper)).any (·.1) = true) ∧
    (∀ e, request st c = .error e → e = .sockBroken) := by
  have hlc : localChecks (gpuIn st m c) (gpuProg (gpuRowOf m).helper) = [(st.error.isSome, .socketBroken)] := by
    show localChecks _ (gpuProg (SendKind.helper m.send)) = _
    cases m.send <;> rfl
  rw [gpu_request_table st c m hm hlen hpl, gpu_run st c (List.mem_of_find?_eq_some hm) hpl, hlc]
  cases st.error <;> simp [errOf]

/-- the generated `recv_reply` in closed form: which checks it performs on the received message -/
theorem gpu_recv_reply_closed (st : GSt) :
    (run (gpuInSt st) Gen.ProxyOps.Gpu.recv_reply.stmts none =
      (if st.error.isSome then .err .socketBroken else .recv "V" (Gen.ProxyOps.Gpu.recv_reply.stmts.drop 2))) ∧
    ∀ x : PIn, run x (Gen.ProxyOps.Gpu.recv_reply.stmts.drop 2) none =
      (if !x.isReplyFor || x.rfdsIsSome || !x.bodyValid then .err .invalidMessage else .okBody) := by
  constructor
  · cases he : st.error <;> simp [run, Gen.ProxyOps.Gpu.recv_reply.stmts, gpuInSt, he]
  · intro x
    simp only [Gen.ProxyOps.Gpu.recv_reply.stmts, List.drop, run]

/-- **descriptors on a reply**: a reply that `recv_body` accepted but that carries descriptors is refused with
`InvalidMessage`, and the descriptors are closed — because the generated `recv_reply` tests `rfds.is_some()` -/
theorem gpu_reply_with_descriptors_rejected {σ : Type} (ch : Chooser σ) (cl : Bool) (st : GSt) (rh : Hdr) (ty : String)
    (n : Nat) (hn : sizeOfTy ty = some n) (cst : σ) (str : List Cell) (he : st.error = none) (r : Reply)
    (hr : (recvBody ch cl hdrValidGpu n (replyBodyOk ty) cst str).res = .ok r) (hf : r.files.isSome = true) :
    (recvReply ch cl st rh ty cst str).res = .err .invalidMsg ∧
    (recvReply ch cl st rh ty cst str).closed =
      (recvBody ch cl hdrValidGpu n (replyBodyOk ty) cst str).closed ++ r.files.getD [] := by
  rw [gpu_recvReply_table ch cl st rh ty n hn cst str, (gpu_recv_reply_closed st).1]
  simp only [he, Option.isSome_none, Bool.false_eq_true, if_false, gpuAfterRecv, hr, (gpu_recv_reply_closed st).2]
  simp [replyIn, hf, errOf]

/-- **gpu_callRecv_table**: after the request is written nothing is read iff the row has no reply type; otherwise exactly
`recv_reply::<row.reply>`, whose value is returned (`ret = body`) or dropped (`ret = unit`) -/
theorem gpu_callRecv_table {σ : Type} (ch : Chooser σ) (cl : Bool) (st : GSt) (req : Req) (cst : σ) (str : List Cell) :
    callRecv ch cl st req cst str =
      (match (gpuRowOf req.m).reply with
       | none => ⟨.unit, req.bytes, req.fds, str, cst, []⟩
       | some ty =>
         let o := recvReply ch cl st req.hdr ty cst str
         match o.res with
         | .blocked => ⟨.blocked, req.bytes, req.fds, o.rest, o.cst, o.closed⟩
         | .err e => ⟨.err e, req.bytes, req.fds, o.rest, o.cst, o.closed⟩
         | .ok r =>
           ⟨(match (gpuRowOf req.m).ret, ty with
             | .unit, _ => .unit
             | .body, "VhostUserU64" => .val (leVal r.body)
             | .body, _ => .bytes r.body), req.bytes, req.fds, o.rest, o.cst, o.closed⟩) :=
  Lemmas.Proxy.gpu_callRecv_table ch cl st req cst str

/-- every reply type of the table has a size (`gpu_recvReply_table` applies to every row) -/
theorem gpu_reply_sizes : ∀ r ∈ Gen.ProxyOps.Gpu.methods, ∀ ty, r.reply = some ty → (sizeOfTy ty).isSome = true := by
  decide

end Gpu

/-! ## 2c. the acknowledgement path of `Model.FrontendSrv`
(`ack_cond_matches`, `ack_value_matches`, `ack_hdr_matches`, `sendAck_table` and `gpu_callRecv_table` above re-export the
theorems of the same names in `Lemmas.Proxy`) -/
section FeSrv
open Model.FrontendSrv HelperSig Gen.ProxyOps.FeSrv
open Model.BackendSrv (bitSet)

/-- **condition of the acknowledgement**: `reply_ack_negotiated && req.is_need_reply()` -/
theorem ack_cond_matches (st : FSt) (h : Hdr) (o : Model.FrontendSrv.Outcome) :
    send_ack_message.sendCond (ackEnv st h o) = (st.replyAck && h.needReply) :=
  Lemmas.Proxy.ack_cond_matches st h o

/-- **value of the acknowledgement**, for every handler outcome: `n` for `Ok(n)`; `-rawerr as u64` for a handler error
with an OS code; `-EINVAL as u64` for a handler error without one and for every other `Error` — the model's `ackVal`
(modulo `2^64`: see `ack_errno_zero`) -/
theorem ack_value_matches (st : FSt) (h : Hdr) (o : Model.FrontendSrv.Outcome) (hr : OutRange o) :
    send_ack_message.sendFields.map (fun f => f (ackEnv st h o)) = [ackVal o % 2^64] :=
  Lemmas.Proxy.ack_value_matches st h o hr

/-- … exactly `ackVal` for the outcomes `Props.C18.InRange` allows (a `u64`; an errno in `1 .. 2^31-1`) -/
theorem ack_value_exact (st : FSt) (h : Hdr) (ho : HOut) (hr : Props.C18.InRange ho) :
    send_ack_message.sendFields.map (fun f => f (ackEnv st h (.handler ho))) = [ackVal (.handler ho)] := by
  have hlt := Props.C18.ackVal_lt ho hr
  have hr' : OutRange (.handler ho) := by
    cases ho with
    | okv n => exact hr
    | errno e => exact hr.2
    | err => trivial
  rw [ack_value_matches st h _ hr', Nat.mod_eq_of_lt hlt]

/-- the header of the acknowledgement: the request's code, REPLY + version 1, size 8 -/
theorem ack_hdr_matches (st : FSt) (h : Hdr) (o : Model.FrontendSrv.Outcome) :
    send_ack_message.sendHdr.map (fun f => f (ackEnv st h o)) = [h.code, hdrNewFlags 4, 8] ∧
    send_ack_message.sendTy = "VhostUserU64" ∧ send_ack_message.steps = [] ∧ send_ack_message.ret = "Ok(())" :=
  ⟨Lemmas.Proxy.ack_hdr_matches st h o, rfl, rfl, rfl⟩

/-- inside the block nothing refuses and no arithmetic is undefined — for a known request code on an endpoint that has
not failed (both established by `handle_request` before: `check_state`, the header validator) -/
theorem ack_steps_pass (st : FSt) (h : Hdr) (o : Model.FrontendSrv.Outcome) (hr : OutRange o) (he : st.error = none)
    (hc : Base.codeOk Gen.Codes.BackendReq.table h.code = true) :
    HelperSig.run send_ack_message.bufLen send_ack_message.sendSteps (ackEnv st h o) = .pass := by
  rcases o with (n | e | _) | _ <;>
    simp [send_ack_message.sendSteps, HelperSig.run, ackEnv, feIn, resOf, he, hc]

/-- **sendAck_table**: the bytes `Model.FrontendSrv.sendAck` writes are, for every state, header and handler outcome,
those of the generated `send_ack_message`: nothing unless the condition holds, else header fields (4 bytes each) and the
value (8 bytes) -/
theorem sendAck_table (st : FSt) (h : Hdr) (o : Model.FrontendSrv.Outcome) (hr : OutRange o) :
    sendAck st h o =
      (if send_ack_message.sendCond (ackEnv st h o) then
        (send_ack_message.sendHdr.map (fun f => f (ackEnv st h o))).flatMap (leBytes 4) ++
          (send_ack_message.sendFields.map (fun f => f (ackEnv st h o))).flatMap (leBytes 8)
       else []) :=
  Lemmas.Proxy.sendAck_table st h o hr

/-- **what `handle_request` writes for a framed request** (`Model.FrontendSrv.dispatch`): nothing if the request left
through `?` before `send_ack_message` (`Props.C18.handled`); otherwise the bytes of the generated `send_ack_message` for
the result the arm produced (`Props.C18.outcomeOf`: the handler's, or `Err(InvalidMessage)` of the catch-all arm) -/
theorem dispatch_ack_table (st : FSt) (hdr : Hdr) (buf : Bytes) (files : Option (List Fd)) (h : HOut)
    (hr : OutRange (.handler h)) :
    (dispatch st hdr buf files h).out =
      (if Props.C18.handled hdr buf files && send_ack_message.sendCond (ackEnv st hdr (Props.C18.outcomeOf hdr h)) then
        (send_ack_message.sendHdr.map (fun f => f (ackEnv st hdr (Props.C18.outcomeOf hdr h)))).flatMap (leBytes 4) ++
          (send_ack_message.sendFields.map (fun f => f (ackEnv st hdr (Props.C18.outcomeOf hdr h)))).flatMap (leBytes 8)
       else []) := by
  have hr' : OutRange (Props.C18.outcomeOf hdr h) := by
    unfold Props.C18.outcomeOf
    split
    · trivial
    · exact hr
  rw [Props.C18.dispatch_out, sendAck_table st hdr _ hr']
  cases Props.C18.handled hdr buf files <;> simp

/-- `check_msg_size(hdr, size, expected)` = the model's `checkSize`; no `fault` -/
theorem check_msg_size_matches (st : FSt) (h : Hdr) (size expected : Nat) :
    HelperSig.run check_msg_size.bufLen check_msg_size.steps { feIn st h size with expected := expected } =
      (if checkSize h size expected then .pass else .err .invalidMessage) :=
  -- the program is `Gen.Helpers.check_request_size.steps`; `checkSize` unfolds to `Lemmas.Helpers.sizeOk` of these inputs
  Lemmas.Helpers.check_request_size_run _

/-- `extract_msg_body::<T>` (`check_msg_size` with `size_of::<T>()`, the read of `T` at offset 0 inside the buffer, the
validator) = the model's `extractOk` for an arm with a body type; `check_msg_size(.., 0)` for the arm without -/
theorem extract_msg_body_matches (st : FSt) (a : Arm) (h : Hdr) (buf : Bytes) :
    (∀ ty n, a.body = some ty → structSize ty = some n →
      HelperSig.run extract_msg_body.bufLen extract_msg_body.steps
        { feIn st h buf.length with sizeOfT := n, msgValid := bodyValid ty buf == some true } =
        (if extractOk a h buf then .pass else .err .invalidMessage)) ∧
    (a.body = none →
      HelperSig.run check_msg_size.bufLen check_msg_size.steps { feIn st h buf.length with expected := 0 } =
        (if extractOk a h buf then .pass else .err .invalidMessage)) := by
  constructor
  · intro ty n hb hn
    simp only [extractOk, hb, hn]
    -- likewise `Gen.Helpers.extract_request_body.steps`
    exact Lemmas.Helpers.extract_request_body_run _ (Nat.le_refl buf.length)
  · intro hb
    rw [check_msg_size_matches]
    simp [extractOk, hb]

/-- the arms of the dispatch use exactly these two helpers with the body types of the table (`Props.DispatchFe`), and
every body type has a size -/
theorem arm_body_sizes : ∀ a ∈ arms, ∀ ty, a.body = some ty → (structSize ty).isSome = true := by
  intro a ha ty hty
  obtain ⟨hb, _⟩ | ⟨hb, _⟩ | ⟨hb, _⟩ := Props.C18.arm_class ha <;> rw [hb] at hty <;> cases hty
  · simp [structSize, Lemmas.Layouts.layout_shared]
  · simp [structSize, Lemmas.Layouts.layout_mmap]

/-- `new_reply_header::<VhostUserU64>(req)`: passes for a known code on an endpoint that has not failed; the header is
the one `ackBytes` starts with -/
theorem new_reply_header_matches (st : FSt) (h : Hdr) (he : st.error = none)
    (hc : Base.codeOk Gen.Codes.BackendReq.table h.code = true) (v : Nat) :
    let e : HIn := { feIn st h 0 with sizeOfT := 8 }
    HelperSig.run new_reply_header.bufLen new_reply_header.steps e = .pass ∧
    new_reply_header.term.hdrOf e = some (h.code, hdrNewFlags 4, 8) ∧
    ackBytes h.code v = encHdr h.code (hdrNewFlags 4) 8 ++ leBytes 8 v := by
  simp [new_reply_header.steps, HelperSig.run, new_reply_header.term, Term.hdrOf, feIn, he, hc, hdrNewFlags, ackBytes]

/-- … and refuses with `SocketBroken` on a failed endpoint: `Model.FrontendSrv.sendAck` has no such case — it is only
reached behind the `check_state` of `step`, see `step_failed_sends_nothing` -/
theorem new_reply_header_broken (st : FSt) (h : Hdr) (e0 : Nat) (he : st.error = some e0) :
    HelperSig.run new_reply_header.bufLen new_reply_header.steps { feIn st h 0 with sizeOfT := 8 } = .err .socketBroken := by
  simp [new_reply_header.steps, HelperSig.run, feIn, he]

/-- `set_failed(error)`: `None` for 0, `Some(error)` otherwise — `FSt.setFailed` -/
theorem setFailed_matches (s : FSt) (e : Nat) :
    ∃ st ∈ Gen.ProxyOps.FeSrv.setters, st.name = "set_failed" ∧ st.field = "error" ∧
      (s.setFailed e).error = SetSrc.optVal st.src e ∧ (s.setFailed e).replyAck = s.replyAck := by
  refine ⟨⟨"set_failed", "error", .zeroNoneElseSome "error"⟩, by decide, rfl, rfl, ?_, rfl⟩
  simp [FSt.setFailed, SetSrc.optVal]

/-- a failed endpoint: `handle_request` returns before anything is received or written -/
theorem step_failed_sends_nothing {σ : Type} (ch : Chooser σ) (cl : Bool) (st : FSt) (cst : σ) (s : List Cell) (h : HOut)
    (e0 : Nat) (he : st.error = some e0) :
    (step ch cl st cst s h).o.out = [] ∧ (step ch cl st cst s h).o.res = .err .sockBroken ∧
    (step ch cl st cst s h).rest = s := by
  simp [step, he]

end FeSrv

/-! ## 3. where model and source are formulated differently -/
section Differences
open Model.FrontendSrv Gen.ProxyOps.FeSrv

/-- **D1 (errno 0)**: for `Err(io::Error::from_raw_os_error(0))` the source computes `-0 as u64 = 0`; the model's
`ackVal` is the natural number `2^64`.  Not observable: the eight bytes written are the same — and they say *success*
(`Props.C18.InRange` excludes the case). -/
theorem ack_errno_zero (st : FSt) (h : Hdr) :
    send_ack_message.sendFields.map (fun f => f (ackEnv st h (.handler (.errno 0)))) = [0] ∧
    ackVal (.handler (.errno 0)) = 2^64 ∧
    leBytes 8 (ackVal (.handler (.errno 0))) = leBytes 8 0 := by
  refine ⟨by simp [send_ack_message.sendFields, ackEnv, resOf], rfl, by decide⟩

/-- **D2 (negative OS codes)** are outside the model (`HOut.errno` carries a natural number).  The source acknowledges
`raw_os_error() = Some(-5)` with the *positive* value 5. -/
theorem ack_negative_errno (i : HelperSig.HIn) :
    send_ack_message.sendFields.map (fun f => f ⟨i, .err (.reqHandler (some (-5)))⟩) = [5] := by
  simp [send_ack_message.sendFields]

/-- **D3 (`i32::MIN`)**: `-rawerr` overflows for `rawerr = i32::MIN` — a panic under `overflow-checks` (the harness
profile), a wrap otherwise; the generated program records it as a `fault`.  Outside the model as well. -/
theorem ack_errno_min_faults (st : FSt) (h : Hdr) (he : st.error = none)
    (hc : Base.codeOk Gen.Codes.BackendReq.table h.code = true) :
    HelperSig.run send_ack_message.bufLen send_ack_message.sendSteps
      ⟨feIn st h 0, .err (.reqHandler (some (-2147483648)))⟩ = .fault := by
  simp [send_ack_message.sendSteps, HelperSig.run, feIn, he, hc]

end Differences

/-! ## non-vacuity -/
section Examples
open Model.BackendProxy in
example : (request { sharedObject := true, replyAck := true } ⟨.lookup, leBytes 16 7, [5]⟩).toOption.map
    (fun r => (r.hdr, r.fds)) = some (⟨8, 9, 16⟩, [5]) := by decide
open Model.BackendProxy in
example : request { shmem := true } ⟨.lookup, leBytes 16 7, [5]⟩ = .error .notNegotiated := by rfl
open Model.BackendProxy in
example : (methodOf .lookup).gateFails (pinOf { shmem := true } .lookup) = true := by decide
example : run { replyAck := true, value := 1 } (Gen.ProxyOps.Backend.wait_for_ack.stmts.drop 3) none =
    .err .frontendInternal := by rfl
example : run { rfdsIsSome := true } (Gen.ProxyOps.Gpu.recv_reply.stmts.drop 2) none = .err .invalidMessage := by rfl
example : (Model.GpuProxy.request {} { name := "get_edid", body := leBytes 4 1 }).toOption.map (·.hdr) =
    some ⟨11, 0, 4⟩ := by decide
open Model.FrontendSrv Gen.ProxyOps.FeSrv in
example : send_ack_message.sendFields.map (fun f => f (ackEnv {} ⟨6, 9, 16⟩ (.handler .err))) = [2^64 - 22] := by
  simp [send_ack_message.sendFields, ackEnv, resOf]
open Model.FrontendSrv Gen.ProxyOps.FeSrv in
example : send_ack_message.sendCond (ackEnv { replyAck := true } ⟨6, 1, 16⟩ (.handler (.okv 0))) = false := by decide
end Examples

end Props.ProxyOps
