import VhostModel.Gen.HandlerOps
import VhostModel.Lemmas.HandlerVringRows
import VhostModel.Lemmas.HandlerRingRows
import VhostModel.Lemmas.HandlerMemRows
import VhostModel.Lemmas.HandlerLogRows
/-!
# The daemon's request handler of the four models is the request handler of the source

`Gen.HandlerOps` is regenerated on every run from `vhost-user-backend/src/handler.rs` (`tools/rs2lean_handler.py`): for
every method of `impl VhostUserBackendReqHandlerMut for VhostUserHandler<T>`, in source order, the events of its body
(guards with their errors, effects, calls of private helpers with the helper's own events, loops, branches, the result),
the private helpers themselves, and the conditions / values that are pure arithmetic as Lean functions of `Base.HIn`.

Three layers, each a theorem:

1. **table = source** — `handler_ops_match_source` (the hand-written `Model.HandlerTable.modelHandlerOps` *is*
   `Gen.HandlerOps.rows`: no projection, every method, every event, in order), `helpers_match_source`,
   `helper_calls_consistent` (the events carried by a `helperCall` are the helper's body), `exprs_match_source` (same
   identifiers, and the same functions for all inputs).  A dropped, added, reordered or altered check, call, assignment
   or condition in `handler.rs` breaks these.  `source_guards`, `source_ring_calls`, `source_queue_calls`,
   `source_mem_shape` restate slices of the generated table on their own, so that a change shows up by name.
2. **table = executable models**, for all states and arguments — the operations of the models are the *interpretation* of
   the rows (one interpreter per model over the same event type):
   * C14 `Model.Vring`: `vring_step_is_row` (every per-ring message, SET_FEATURES, SET_PROTOCOL_FEATURES,
     SET_BACKEND_REQ_FD: state and result), `vring_refused_iff` (refused with `e` iff the first event of the row that does
     not let the method go on ends it with `e`);
   * C11 `Model.RingReg`: `ring_control_is_rows` (SET_VRING_KICK/CALL/ENABLE, GET_VRING_BASE, SET_FEATURES, RESET_DEVICE —
     the helper calls `update_vring_registration` / `unregister_vring_kick` / `initialize_vring` run through their own
     events down to `epollRegister` / `epollUnregister`), `ring_control_pinned_kick` (the pinned rule of F-C11-rekick is
     the row with the two calls the repair added removed);
   * C13 `Model.MemTable`: `mem_step_is_rows`, `mem_effects_after_fallible`, `mem_update_memory_window`;
   * C15 `Model.Bitmap`: `log_step_is_rows`, `log_old_is_rows_without_log_region`, `log_events_where`.
3. **non-vacuity** — examples at the end.

## Assumptions of the models that the table makes visible

No row on which a model and the source disagree.  Assumptions of the models that the table makes visible:

* **update_memory** (C13, known limit of `Model/MemTable.lean`): in `set_mem_table`, `add_mem_region`,
  `remove_mem_region` the source calls `self.backend.update_memory(..)` with `?` *after* `atomic_mem…replace(mem)` and
  *before* touching `self.mappings` (`mem_update_memory_window`).  The model takes the callback to be infallible; if it
  failed, the request would be refused with the new memory object installed and the old translation table kept — "a failed
  update changes nothing" holds of the source for every fallible step except this one.
* **queue masks** (C11 / C17): `update_vring_registration` and `unregister_vring_kick` compute `queues_mask >> index`;
  the extracted side condition of that expression is `index < 64` (`shift_needs_small_index`): for a ring index ≥ 64 the
  shift overflows (a panic in a build with overflow checks).  `Model.RingReg` reads the loop as "the one worker owns every
  ring" and identifies `index as u8` with `index`.
* **library steps outside a model**: `Model.Bitmap` takes `mmap_region`, `GuestRegionMmap::new`, `MmapLogReg::from_file`
  to succeed (it starts after the mapping was made); `Model.MemTable` reads `log_region` as the identity;
  `Model.Vring` does not read the epoll helpers; `Model.RingReg` keeps bit 30 of the feature word only.
-/
namespace Props.HandlerOps
open Base Model.HandlerTable

/-! ## 1. the table is the source -/

/-- **handler_ops_match_source**: every method of the `impl`, in source order, event by event -/
theorem handler_ops_match_source : modelHandlerOps = Gen.HandlerOps.rows := rfl

/-- the private helpers reached from the methods -/
theorem helpers_match_source : modelHelpers = Gen.HandlerOps.helpers := rfl

mutual
/-- every `helperCall` carries the body the helper has in `H` (`check_feature`: its one test, with the flag of the call) -/
def callsOk (H : List HRow) : HEvent → Bool
  | .act _ => true
  | .helperCall n _ _ b =>
    (match H.lookup n with
     | some hb =>
       HEvent.beqL hb b ||
       (n == "check_feature" &&
        HEvent.beqL hb [.ifCond "self.acked_features & feat.bits() != 0" [.ok] [.err "InactiveFeature"]] &&
        (match b with
         | [.act (.featureAcked _ e)] => e == "InactiveFeature"
         | _ => false))
     | none => false) && callsOkL H b
  | .forEachVring b => callsOkL H b
  | .forEach _ b => callsOkL H b
  | .ifCond _ t f => callsOkL H t && callsOkL H f
  | .ifSome _ t f => callsOkL H t && callsOkL H f
def callsOkL (H : List HRow) : List HEvent → Bool
  | [] => true
  | e :: es => callsOk H e && callsOkL H es
end

/-- the bodies carried by the `helperCall` events (in the methods and in the helpers) are the helpers' bodies -/
theorem helper_calls_consistent :
    (Gen.HandlerOps.rows.all fun r => callsOkL Gen.HandlerOps.helpers r.2) = true ∧
    (Gen.HandlerOps.helpers.all fun r => callsOkL Gen.HandlerOps.helpers r.2) = true := by
  decide +kernel

/-- **exprs_match_source**: the conditions and values the models compute are the translated ones — the same identifiers,
in order, and the same value and side condition for every input -/
theorem exprs_match_source :
    modelBoolExprs.map (·.1) = Gen.HandlerOps.boolExprs.map (·.1) ∧
    modelNatExprs.map (·.1) = Gen.HandlerOps.natExprs.map (·.1) ∧
    modelOpaqueExprs = Gen.HandlerOps.opaqueExprs ∧
    (∀ x : HIn, modelBoolExprs.map (fun e => (e.2.1 x, e.2.2 x)) = Gen.HandlerOps.boolExprs.map (fun e => (e.2.1 x, e.2.2 x))) ∧
    (∀ x : HIn, modelNatExprs.map (fun e => (e.2.1 x, e.2.2 x)) = Gen.HandlerOps.natExprs.map (fun e => (e.2.1 x, e.2.2 x))) :=
  ⟨rfl, rfl, rfl, fun _ => rfl, fun _ => rfl⟩

/-- the one constant the translator cannot read from /repo: `VIRTIO_RING_F_EVENT_IDX` of virtio-bindings; the model's value
(`Model.Vring.eventIdxBit`) is the same -/
theorem external_consts : Gen.HandlerOps.externalConsts = [("VIRTIO_RING_F_EVENT_IDX", Model.Vring.eventIdxBit)] := by decide

/-- `queues_mask >> index` is defined for ring indices below 64 only -/
theorem shift_needs_small_index (x : HIn) :
    ((Gen.HandlerOps.natExprs.lookup "queues_mask >> index").map (·.2 x)) = some (decide (x.index < 64)) := rfl

/-! ### slices of the generated table, by name -/

mutual
/-- the events of a row in order, loops and branches flattened; a helper call is listed by name as `bind "self" name`
(its body is not entered) -/
def flat : HEvent → List HAct
  | .act a => [a]
  | .helperCall n _ _ _ => [.bind "self" n]
  | .forEachVring b => flatL b
  | .forEach _ b => flatL b
  | .ifCond _ t f => flatL t ++ flatL f
  | .ifSome _ t f => flatL t ++ flatL f
def flatL : List HEvent → List HAct
  | [] => []
  | e :: es => flat e ++ flatL es
end

def isGuard : HAct → Bool
  | .indexBound _ | .featureAcked _ _ | .valueCheck _ _ | .requireSome _ _ | .addrTranslate _ _ _ | .vringTry _ _ _ _ => true
  | _ => false

def isRingCall : HAct → Bool
  | .vringCall m _ => m == "set_enabled" || m == "set_queue_ready" || m == "set_kick" || m == "set_call"
  | .bind "self" w => w == "update_vring_registration" || w == "unregister_vring_kick" || w == "initialize_vring"
  | _ => false

def isQueueCall : HAct → Bool
  | .vringCall m _ => !(m == "set_enabled" || m == "set_queue_ready" || m == "set_kick" || m == "set_call")
  | .vringTry _ _ _ _ => true
  | _ => false

def isMemStep : HAct → Bool
  | .libTry _ _ | .memReplace | .mappingsAssign | .mappingsPush _ | .mappingsRetain _ | .backendTry _ _ _ | .logAssign
  | .bitmapReplace => true
  | .bind "self" w => w == "log_region"
  | _ => false

def slice (p : HAct → Bool) (t : List HRow) : List (String × List HAct) :=
  (t.map fun r => (r.1, (flatL r.2).filter p)).filter fun r => !r.2.isEmpty

/-- **source_guards**: the guards of the source (own guards of the methods; `check_feature` is the helper call in front of
`set_vring_enable`'s), per method, in order -/
theorem source_guards : slice isGuard Gen.HandlerOps.rows = [
    ("set_owner", [.valueCheck "self.owned" "InvalidOperation"]),
    ("set_features", [.valueCheck "(features & !self.backend.features()) != 0" "InvalidParam"]),
    ("set_vring_num", [.indexBound "InvalidParam",
      .valueCheck "num == 0 || num as usize > self.max_queue_size" "InvalidParam"]),
    ("set_vring_addr", [.indexBound "InvalidParam",
      .addrTranslate "descriptor" "ReqHandlerError" "desc_table", .addrTranslate "available" "ReqHandlerError" "avail_ring",
      .addrTranslate "used" "ReqHandlerError" "used_ring",
      .vringTry "set_queue_info" ["desc_table", "avail_ring", "used_ring"] "InvalidParam" "",
      .vringTry "queue_used_idx" [] "BackendInternalError" "idx"]),
    ("set_vring_base", [.indexBound "InvalidParam"]),
    ("get_vring_base", [.indexBound "InvalidParam"]),
    ("set_vring_kick", [.indexBound "InvalidParam"]),
    ("set_vring_call", [.indexBound "InvalidParam"]),
    ("set_vring_err", [.indexBound "InvalidParam"]),
    ("set_vring_enable", [.indexBound "InvalidParam"]),
    ("postcopy_advice", [.valueCheck "uffd_dup < 0" "ReqHandlerError"]),
    ("postcopy_listen", [.requireSome "self.uffd" "ReqHandlerError"])] := by
  rfl

/-- **source_ring_calls**: per method, the state changes on the vring object that matter to the registration and the
calls of the three registration helpers, in source order (C11) -/
theorem source_ring_calls : slice isRingCall Gen.HandlerOps.rows = [
    ("reset_device", [.vringCall "set_enabled" ["false"], .bind "self" "update_vring_registration"]),
    ("set_features", [.vringCall "set_enabled" ["true"], .bind "self" "update_vring_registration"]),
    ("get_vring_base", [.vringCall "set_queue_ready" ["false"], .bind "self" "update_vring_registration",
      .vringCall "set_kick" ["None"], .vringCall "set_call" ["None"]]),
    ("set_vring_kick", [.bind "self" "unregister_vring_kick", .vringCall "set_kick" ["file"],
      .bind "self" "initialize_vring", .bind "self" "update_vring_registration"]),
    ("set_vring_call", [.vringCall "set_call" ["file"], .bind "self" "initialize_vring"]),
    ("set_vring_enable", [.vringCall "set_enabled" ["enable"], .bind "self" "update_vring_registration"])] := by
  decide +kernel

/-- **source_queue_calls**: per method, the calls that configure the queue, with the values handed over (C14) -/
theorem source_queue_calls : slice isQueueCall Gen.HandlerOps.rows = [
    ("set_features", [.vringCall "set_queue_event_idx" ["event_idx"]]),
    ("set_vring_num", [.vringCall "set_queue_size" ["num as u16"]]),
    ("set_vring_addr", [.vringTry "set_queue_info" ["desc_table", "avail_ring", "used_ring"] "InvalidParam" "",
      .vringTry "queue_used_idx" [] "BackendInternalError" "idx", .vringCall "set_queue_next_used" ["idx"]]),
    ("set_vring_base", [.vringCall "set_queue_next_avail" ["base as u16"]]),
    ("set_vring_err", [.vringCall "set_err" ["file"]])] := by
  decide +kernel

/-- **source_mem_shape**: the fallible library steps, the calls of `log_region`, and the changes of memory object,
translation table and log, per method, in source order (C13, C15) -/
theorem source_mem_shape :
    (slice isMemStep Gen.HandlerOps.rows).filter (fun r => Lemmas.HandlerMem.memRows.contains r.1 || r.1 == "set_log_base") = [
    ("set_mem_table", [.libTry "mmap_region" "*", .libTry "GuestRegionMmap::new" "ReqHandlerError",
      .bind "self" "log_region", .libTry "GuestMemoryMmap::from_regions" "ReqHandlerError", .memReplace,
      .backendTry "update_memory" ["self.atomic_mem.clone()"] "ReqHandlerError", .mappingsAssign]),
    ("add_mem_region", [.libTry "mmap_region" "*", .libTry "GuestRegionMmap::new" "ReqHandlerError",
      .bind "self" "log_region", .libTry "insert_region" "ReqHandlerError", .memReplace,
      .backendTry "update_memory" ["self.atomic_mem.clone()"] "ReqHandlerError", .mappingsPush "addr_mapping"]),
    ("remove_mem_region", [.libTry "remove_region" "ReqHandlerError", .memReplace,
      .backendTry "update_memory" ["self.atomic_mem.clone()"] "ReqHandlerError",
      .mappingsRetain "mapping.gpa_base != region.guest_phys_addr"]),
    ("set_log_base", [.libTry "MmapLogReg::from_file" "ReqHandlerError", .libTry "InnerBitmap::new" "ReqHandlerError",
      .bitmapReplace, .logAssign])] := by
  decide +kernel

/-! ## 2. the table is the executable models -/

section C14
open Model.Vring Lemmas.HandlerVring

/-- **vring_step_is_row** (C14): every message of `Model.Vring` that `handler.rs` serves with a method of its own is that
method's row, run on the daemon — state *and* result, for all states and arguments.  (`x`: the arguments by their Rust
names; the ring descriptor messages carry `payload as u8` as `index`.) -/
theorem vring_step_is_row (d : Daemon) :
    (∀ index num, step d (.setVringNum index num) = runRow "set_vring_num" d { index := index.toNat, num := num.toNat } none) ∧
    (∀ index desc used avail, step d (.setVringAddr index desc used avail) =
      runRow "set_vring_addr" d { index := index.toNat, descriptor := desc.toNat, used := used.toNat, available := avail.toNat } none) ∧
    (∀ index base, step d (.setVringBase index base) = runRow "set_vring_base" d { index := index.toNat, base := base.toNat } none) ∧
    (∀ index, step d (.getVringBase index) = runRow "get_vring_base" d { index := index.toNat } none) ∧
    (∀ payload fd, step d (.setVringKick payload fd) = runRow "set_vring_kick" d { index := fdIndex payload } fd) ∧
    (∀ payload fd, step d (.setVringCall payload fd) = runRow "set_vring_call" d { index := fdIndex payload } fd) ∧
    (∀ payload fd, step d (.setVringErr payload fd) = runRow "set_vring_err" d { index := fdIndex payload } fd) ∧
    (∀ index enable, step d (.setVringEnable index enable) =
      runRow "set_vring_enable" d { index := index.toNat, enable := enable } none) ∧
    (∀ f, step d (.setFeatures f) = runRow "set_features" d { features := f.toNat } none) ∧
    (∀ f, step d (.setProtocolFeatures f) = runRow "set_protocol_features" d { features := f.toNat } none) ∧
    step d .setBackendReqFd = runRow "set_backend_req_fd" d {} none :=
  ⟨set_vring_num_is_row d, set_vring_addr_is_row d, set_vring_base_is_row d, get_vring_base_is_row d,
   set_vring_kick_is_row d, set_vring_call_is_row d, set_vring_err_is_row d, set_vring_enable_is_row d,
   set_features_is_row d, set_protocol_features_is_row d, set_backend_req_fd_is_row d⟩

/-- **vring_refused_iff** (C14): whatever the method, it is refused with `e` exactly when some event of its row — the first,
in the row's order, that does not let the method go on — ends it with `e`, on the state the events before it produced -/
theorem vring_refused_iff (name : String) (d : Daemon) (x : HIn) (file : Option Nat) (e : Err) :
    (runRow name d x file).2 = .error e ↔
    ∃ pre g post, row name = pre ++ g :: post ∧ (evsV pre (startV d x file)).flow = .run ∧
      (evV g (evsV pre (startV d x file))).flow = .ret (.error e) := by
  rw [← first_refusing_event (row name) (startV d x file) rfl e]
  unfold runRow resultV
  cases h : (evsV (row name) (startV d x file)).flow with
  | run => simp
  | brk => simp
  | ret r => simp

/-- what the guards of the per-ring rows mean in `Model.Vring` (each by evaluation of `actV`) -/
theorem vring_guard_meaning (s : VS) (e : String) :
    (actV (.indexBound e) s).flow = (if s.d.vrings[s.x.index]?.isNone then .ret (.error (errOf e)) else s.flow) ∧
    (actV (.featureAcked 30 e) s).flow =
      (if s.d.ackedFeatures &&& protocolFeaturesBit == 0 then .ret (.error (errOf e)) else s.flow) ∧
    (actV (.valueCheck "num == 0 || num as usize > self.max_queue_size" e) s).flow =
      (if s.x.num == 0 || decide (s.x.num > s.d.maxQueueSize) then .ret (.error (errOf e)) else s.flow) := by
  refine ⟨?_, ?_, ?_⟩
  · cases h : s.d.vrings[s.x.index]? <;> simp [actV, VS.ring, h, fail]
  · rw [protocol_bit_clear]
    cases h : bitOf s.d.ackedFeatures 30 <;> simp [actV, h, fail]
  · by_cases h : (s.x.num == 0 || decide (s.x.num > s.d.maxQueueSize)) = true
    · simp only [actV, cond_num, sync, h, if_true, fail]
    · simp only [actV, cond_num, sync, h]; rfl

end C14

section C11
open Model.RingReg Lemmas.HandlerRing
open Spec.RingAutomaton (Msg)

/-- **ring_control_is_rows** (C11, repaired tree): with the connection open, every control message of `Model.RingReg` is
(a) what lies outside the handler — the descriptor carried by the message, the crate's own feature check in front of
SET_VRING_ENABLE, the reply owed for the handler's result — around (b) the method's row run by `evsR`, in which
`update_vring_registration`, `unregister_vring_kick`, `initialize_vring` are run through their own events where the row
has them -/
theorem ring_control_is_rows (s : St) (hc : s.conn = true) (hold : s.old = false) :
    (∀ r fd, control s (.setKick r fd) = ackReply (handle "set_vring_kick" (received s fd) r {} (carried s fd))) ∧
    (∀ r fd, control s (.setCall r fd) = ackReply (handle "set_vring_call" (received s fd) r {} (carried s fd))) ∧
    (∀ r on, control s (.setEnable r on) =
      if !s.ackedC then ({ s with conn := false }, .closed)
      else ackReply (handle "set_vring_enable" s r { enable := on } none)) ∧
    (∀ r, control s (.getBase r) = baseReply (handle "get_vring_base" s r {} none)) ∧
    (∀ proto, control s (.setFeatures proto) =
      ackReply (handle "set_features" { s with ackedC := proto } 0 { features := if proto then 0x40000000 else 0 } none)) ∧
    control s .reset = ackReply (handle "reset_device" s 0 {} none) := by
  obtain ⟨h1, h2⟩ := control_rows s hc
  exact ⟨fun r fd => by rw [h1, hold]; rfl, h2⟩

/-- **ring_control_pinned_kick** (C11, F-C11-rekick): the variant of the model with the pinned rule (`old = true`) is the
row of `set_vring_kick` with the call of `unregister_vring_kick` removed and nothing done for a ring that needs no
initialisation — the two calls the repair added; every other message is the same row in both variants
(`Lemmas.HandlerRing.control_rows`) -/
theorem ring_control_pinned_kick (s : St) (hc : s.conn = true) (hold : s.old = true) (r : Nat) (fd : Bool) :
    control s (.setKick r fd) =
      ackReply (handleEvs (pinned (row "set_vring_kick")) (received s fd) r {} (carried s fd)) ∧
    pinned (row "set_vring_kick") = [
      .indexBound "InvalidParam", .vringCall "set_kick" ["file"],
      .ifCond needsInit [initializeVring] [], .ok] :=
  ⟨by rw [(control_rows s hc).1, hold, if_pos rfl], pinned_row⟩

/-- the three helpers, event by event, are the model's functions -/
theorem ring_helpers (s : RS) (hs : s.flow = .run) (idx : String) :
    evR (updateReg idx) s = { s with st := Model.RingReg.updateReg s.st s.r } ∧
    evR (.helperCall "unregister_vring_kick" ["vring", "index"] false unregisterKickBody) s =
      { s with st := match (s.st.ring s.r).kick with
                     | some k => epollDel s.st k
                     | none => s.st } ∧
    evR initializeVring s = { s with st := Model.RingReg.initializeVring s.st s.r } :=
  ⟨evR_updateReg idx s hs, evR_unregister s hs, evR_initializeVring s hs⟩

end C11

section C13
open Model.MemTable Lemmas.HandlerMem
open Spec.MemTable (Req Op)

/-- **mem_step_is_rows** (C13): the three operations of `Model.MemTable` are their rows — refused exactly when one of the
row's fallible library steps fails, in the row's order, with the row's state changes otherwise -/
theorem mem_step_is_rows (s : St) (op : Op) :
    Model.MemTable.step s op =
      match op with
      | .setTable rs => runRow "set_mem_table" s rs ⟨0, 0, 0, 0, 0, false⟩
      | .add r => runRow "add_mem_region" s [] r
      | .remove g sz => runRow "remove_mem_region" s [] ⟨g, sz, 0, 0, 0, false⟩ := by
  cases op with
  | setTable rs => exact setMemTable_is_row s rs _
  | add r => exact addMemRegion_is_row s r []
  | remove g sz => exact removeMemRegion_is_row s g sz [] 0 0 0 false

/-- **mem_effects_after_fallible** (C13, the shape of "a failed update changes nothing"): in the three rows `self.mappings`
is assigned / pushed to / pruned only after every step that can fail; the memory object is replaced only after every
fallible step other than the backend's `update_memory` -/
theorem mem_effects_after_fallible :
    (memRows.all fun n => effectsLast HAct.fallible HAct.assignsMappings (row n)) = true ∧
    (memRows.all fun n => effectsLast HAct.fallibleLib HAct.replacesMemory (row n)) = true ∧
    (memRows.all fun n => anyEvs HAct.replacesMemory (row n) && anyEvs HAct.assignsMappings (row n)) = true := by
  simp only [memRows, List.all_cons, List.all_nil, Lemmas.HandlerTable.row_set_mem_table,
    Lemmas.HandlerTable.row_add_mem_region, Lemmas.HandlerTable.row_remove_mem_region]
  decide +kernel

/-- **mem_update_memory_window**: the one fallible step that follows a state change (see the header) -/
theorem mem_update_memory_window :
    (memRows.all fun n => effectsLast HAct.fallible HAct.replacesMemory (row n)) = false ∧
    (memRows.all fun n =>
      (row n).dropWhile (fun e => !anyEv HAct.replacesMemory e) |>.drop 1 |>.head? |>.any
        (fun e => e == HEvent.backendTry "update_memory" ["self.atomic_mem.clone()"] "ReqHandlerError")) = true := by
  simp only [memRows, List.all_cons, List.all_nil, Lemmas.HandlerTable.row_set_mem_table,
    Lemmas.HandlerTable.row_add_mem_region, Lemmas.HandlerTable.row_remove_mem_region]
  decide +kernel

end C13

/-- the shape "state changes last" read off the *generated* rows (see `mem_effects_after_fallible`) -/
theorem source_effects_after_fallible :
    (Lemmas.HandlerMem.memRows.all fun n =>
      Lemmas.HandlerMem.effectsLast Lemmas.HandlerMem.HAct.fallible Lemmas.HandlerMem.HAct.assignsMappings
        (rowOf Gen.HandlerOps.rows n)) = true ∧
    (Lemmas.HandlerMem.memRows.all fun n =>
      Lemmas.HandlerMem.effectsLast Lemmas.HandlerMem.HAct.fallibleLib Lemmas.HandlerMem.HAct.replacesMemory
        (rowOf Gen.HandlerOps.rows n)) = true := by
  rw [← handler_ops_match_source]
  exact ⟨mem_effects_after_fallible.1, mem_effects_after_fallible.2.1⟩

section C15
open Model.Bitmap Lemmas.HandlerLog

/-- **log_step_is_rows** (C15): `setLogBase`, `setMemTable`, `addMemReg`, `remMemReg` are their rows: `log_region` runs
(through its own events) for every region entering the table, before the table is replaced; `set_log_base` builds every
bitmap before it replaces any, and remembers the log last -/
theorem log_step_is_rows (s : HState) (op : Op) :
    Model.Bitmap.step s op =
      match op with
      | .setLogBase n => runRow "set_log_base" s n [] (0, 0)
      | .setMemTable regs => runRow "set_mem_table" s 0 regs (0, 0)
      | .addMemReg a l => runRow "add_mem_region" s 0 [] (a, l)
      | .remMemReg a l => runRow "remove_mem_region" s 0 [] (a, l) := by
  cases op with
  | setLogBase n => exact setLogBase_is_row s n [] (0, 0)
  | setMemTable regs => exact setMemTable_is_row s regs 0 (0, 0)
  | addMemReg a l => exact addMemReg_is_row s a l 0 []
  | remMemReg a l => exact remMemReg_is_row s a l 0 []

/-- **log_old_is_rows_without_log_region** (F-C15-retain): the operations of the unrepaired tree are the same rows with the
calls of `log_region` removed -/
theorem log_old_is_rows_without_log_region (s : HState) :
    (∀ regs, setMemTableOld s regs = runEvs (dropLogRegions (row "set_mem_table")) s 0 regs (0, 0)) ∧
    (∀ a l, addMemRegOld s a l = runEvs (dropLogRegions (row "add_mem_region")) s 0 [] (a, l)) :=
  ⟨fun regs => setMemTableOld_is_row s regs 0 (0, 0), fun a l => addMemRegOld_is_row s a l 0 []⟩

/-- **log_events_where**: `log_region` is called by `set_mem_table` and `add_mem_region` and by no other method; the log
is remembered by `set_log_base` only -/
theorem log_events_where :
    (modelHandlerOps.filter fun r => r.2.any (callsHelper "log_region")).map (·.1) = ["set_mem_table", "add_mem_region"] ∧
    (modelHandlerOps.filter fun r => r.2.any (fun e => e == HEvent.logAssign)).map (·.1) = ["set_log_base"] := by
  decide +kernel

/-- `log_region`, event by event, is `Model.Bitmap.logRegion` -/
theorem log_region_helper (s : LS) (hs : s.flow = .run) (r : Reg) (hc : s.cur = some r) (hb : r.bitmap = none)
    (ht : s.inTable = false) :
    match Model.Bitmap.logRegion s.st r.start r.len with
    | none => (evL Model.HandlerTable.logRegion s).flow = .ret false ∧ (evL Model.HandlerTable.logRegion s).st = s.st
    | some r' => ∃ b l, evL Model.HandlerTable.logRegion s = { s with cur := some r', bm := b, log := l } :=
  evL_logRegion s hs r hc hb ht

end C15

/-! ## 3. non-vacuity -/

section Examples
open Model.Vring Lemmas.HandlerVring

def exDaemon : Daemon :=
  { vrings := [⟨⟨256, 256, false, 0, 0, false, 0, 0, 0, 0⟩, none, none, none, false⟩], maxQueueSize := 256, offered := 0xffffffff,
    ackedFeatures := 0, featuresAcked := false, ackedProto := 0, mem := Model.MemTable.St.init, files := fun _ _ => 0,
    counters := fun _ => 0, log := [] }

/-- an accepted SET_VRING_NUM through the row: the size is installed -/
example : ((runRow "set_vring_num" exDaemon { index := 0, num := 64 } none).1.vrings.map (·.queue.size),
    (runRow "set_vring_num" exDaemon { index := 0, num := 64 } none).2) = ([64], .ok .unit) := by decide +kernel

/-- the second guard of the row fires: refused with its error, nothing changed -/
example : ((runRow "set_vring_num" exDaemon { index := 0, num := 257 } none).1.vrings.map (·.queue.size),
    (runRow "set_vring_num" exDaemon { index := 0, num := 257 } none).2) = ([256], .error .invalidParam) := by decide +kernel

/-- the first guard of the row fires before the second is looked at -/
example : (runRow "set_vring_num" exDaemon { index := 1, num := 0 } none).2 = .error .invalidParam := by decide +kernel

/-- SET_VRING_ENABLE without bit 30 acknowledged: the feature guard, not the index guard -/
example : (runRow "set_vring_enable" exDaemon { index := 7, enable := true } none).2 = .error .inactiveFeature := by decide +kernel

open Model.RingReg Lemmas.HandlerRing in
/-- C11: SET_FEATURES without bit 30, then two SET_VRING_KICK on ring 0 through the rows: the second descriptor is
registered and the first is gone (repaired rule); with the pinned rule the first stays and the second is missing -/
example :
    let s0 := (handle "set_features" (Model.RingReg.init 1 (fun _ => 0) false) 0 { features := 0 } none).1
    let s1 := (handle "set_vring_kick" (alloc s0) 0 {} (some 0)).1
    let s2 := (handle "set_vring_kick" (alloc s1) 0 {} (some 1)).1
    let p1 := (handleEvs (pinned (row "set_vring_kick")) (alloc s0) 0 {} (some 0)).1
    let p2 := (handleEvs (pinned (row "set_vring_kick")) (alloc p1) 0 {} (some 1)).1
    (s2.reg 0, s2.reg 1, p2.reg 0, p2.reg 1) = (none, some 0, some 0, none) := by decide +kernel

open Model.MemTable Lemmas.HandlerMem in
/-- C13: an overlapping table is refused by the row's `from_regions` step and nothing changes -/
example :
    Lemmas.HandlerMem.runRow "set_mem_table" St.init [⟨0x1000, 0x2000, 0x7000, 0, 0, true⟩, ⟨0x2000, 0x1000, 0x9000, 0, 1, true⟩]
      ⟨0, 0, 0, 0, 0, false⟩ = (St.init, false) := by decide +kernel

open Model.Bitmap Lemmas.HandlerLog in
/-- C15: after SET_LOG_BASE the row of `add_mem_region` gives the new region a bitmap on the log; the row without
`log_region` does not -/
example :
    let s1 := (Lemmas.HandlerLog.runRow "set_log_base" HState.init 16 [] (0, 0)).getD HState.init
    ((Lemmas.HandlerLog.runRow "add_mem_region" s1 0 [] (0x1000, 0x1000)).map fun s => s.regions.map (·.bitmap.isSome),
     (runEvs (dropLogRegions (row "add_mem_region")) s1 0 [] (0x1000, 0x1000)).map fun s => s.regions.map (·.bitmap.isSome)) =
    (some [true], some [false]) := by decide +kernel

end Examples

end Props.HandlerOps
