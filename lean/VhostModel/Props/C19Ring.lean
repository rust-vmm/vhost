import VhostModel.Props.C19Shapes
/-!
# C19: ring configuration (`set_vring_addr`, blanket impl and vDPA)

`is_valid` refuses exactly what the Spec says, before any ioctl; the closed form of `setVringAddr` (`setVringAddr_closed`), from it
the addresses in the argument (translated, or unchanged on vDPA) and `ring_meets`.  Rests on `ioCall_image` of
`Props/C19Shapes.lean` and `issued_at` / `issued_is_uapi` of `Props/C19Tables.lean`.
-/
namespace Props.C19
open Base Base.K Gen.Ioctl Model.Kern Lemmas.Kern

theorem isPow2b_iff (n : Nat) (hn : n < 2 ^ 16) : Spec.Uapi.isPow2b n = true ↔ Spec.Uapi.isPow2 n := by
  unfold Spec.Uapi.isPow2b Spec.Uapi.isPow2
  simp only [List.any_eq_true, List.mem_range, beq_iff_eq]
  constructor
  · rintro ⟨k, _, h⟩; exact ⟨k, h⟩
  · rintro ⟨k, h⟩
    refine ⟨k, ?_, h⟩
    by_cases hk : k < 17
    · exact hk
    · exfalso
      have : 2 ^ 17 ≤ 2 ^ k := Nat.pow_le_pow_right (by omega) (by omega)
      omega

/-- **`is_valid`, size part**: the code's test `size > max || size == 0 || size & (size - 1) != 0` refuses exactly
    the zero, non-power-of-two and over-maximum sizes -/
theorem sizeBad_iff (c : RingCfg) :
    sizeBad c = true ↔ (c.qsize = 0 ∨ ¬ Spec.Uapi.isPow2 c.qsize ∨ c.qmax < c.qsize) := by
  unfold sizeBad Spec.Uapi.isPow2
  simp only [Bool.or_eq_true, decide_eq_true_eq, beq_iff_eq, bne_iff_ne, ne_eq, gt_iff_lt]
  by_cases h0 : c.qsize = 0
  · simp [h0]
  · have := and_pred_eq_zero_iff c.qsize (by omega)
    rw [this]
    simp only [h0, false_or, or_false]
    exact Or.comm

/-- **`is_log_addr_valid`**: refused exactly when the log flag (bit 0) is set and no log address is given -/
theorem isLogAddrValid_false_iff (c : RingCfg) :
    isLogAddrValid c = false ↔ (c.flags.testBit Spec.Uapi.VHOST_VRING_F_LOG = true ∧ c.log = none) := by
  unfold isLogAddrValid Spec.Uapi.VHOST_VRING_F_LOG
  have h := and_two_pow_ne_zero_iff c.flags 0
  simp only [Nat.pow_zero] at h
  cases hl : c.log <;> simp [h]

/-- the ring configuration a scenario's argument list denotes -/
def cfgOf (qmax qsize flags desc used avail hasLog log : Nat) : RingCfg :=
  { qmax := qmax % 2 ^ 16, qsize := qsize % 2 ^ 16, flags := flags % 2 ^ 32, desc, used, avail,
    log := if hasLog != 0 then some log else none }

theorem ringRefusedb_iff (qmax qsize flags : Nat) (hasLog : Bool) (hq : qsize < 2 ^ 16) :
    Spec.Uapi.ringRefusedb qmax qsize flags hasLog = true ↔ Spec.Uapi.ringRefused qmax qsize flags hasLog := by
  unfold Spec.Uapi.ringRefusedb Spec.Uapi.ringRefused
  have := isPow2b_iff qsize hq
  cases hasLog <;> simp [← this, or_assoc]

theorem refused_invalid (qmax qsize flags desc used avail hasLog log : Nat)
    (h : Spec.Uapi.ringRefused (qmax % 2 ^ 16) (qsize % 2 ^ 16) (flags % 2 ^ 32) (hasLog != 0)) (m : Mem) :
    isValidKern m (cfgOf qmax qsize flags desc used avail hasLog log) = false ∧
    isValidVdpa (cfgOf qmax qsize flags desc used avail hasLog log) = false := by
  have hs := sizeBad_iff (cfgOf qmax qsize flags desc used avail hasLog log)
  have hl := isLogAddrValid_false_iff (cfgOf qmax qsize flags desc used avail hasLog log)
  unfold Spec.Uapi.ringRefused at h
  have key : sizeBad (cfgOf qmax qsize flags desc used avail hasLog log) = true ∨
      isLogAddrValid (cfgOf qmax qsize flags desc used avail hasLog log) = false := by
    rcases h with h | h | h | h
    · left; exact hs.2 (Or.inl h)
    · left; exact hs.2 (Or.inr (Or.inl h))
    · left; exact hs.2 (Or.inr (Or.inr h))
    · right; apply hl.2
      refine ⟨h.1, ?_⟩
      have h2 := h.2
      simp only [cfgOf]
      cases hh : (hasLog != 0) <;> simp_all
  unfold isValidKern isValidVdpa
  rcases key with k | k <;> simp [k]

/-- **refusal before any ioctl**: a ring configuration with a zero, non-power-of-two or over-maximum size, or with
    the log flag but no log address, makes `set_vring_addr` fail with `InvalidQueue` without issuing anything —
    on the blanket impl (kernel-vhost, vhost-net, vhost-vsock) and on vDPA, for every memory layout -/
theorem invalid_ring_config_refused_before_ioctl (be : String) (q qmax qsize flags desc used avail hasLog log : Nat) (e : Env)
    (translate : Bool)
    (h : Spec.Uapi.ringRefused (qmax % 2 ^ 16) (qsize % 2 ^ 16) (flags % 2 ^ 32) (hasLog != 0)) :
    setVringAddr (inp be "set_vring_addr" [q, qmax, qsize, flags, desc, used, avail, hasLog, log] e) translate =
      some ⟨[], .err "invalidqueue", none⟩ := by
  obtain ⟨h1, h2⟩ := refused_invalid qmax qsize flags desc used avail hasLog log h e.mem
  have hc : ringCfgOf [q, qmax, qsize, flags, desc, used, avail, hasLog, log] =
      some (q, cfgOf qmax qsize flags desc used avail hasLog log) := rfl
  unfold setVringAddr
  cases translate
  · simp [inp, hc, h2]
  · simp [inp, hc, h1]

/-- the hypothesis is satisfiable: size 3 of at most 256 -/
example : Spec.Uapi.ringRefused (256 % 2 ^ 16) (3 % 2 ^ 16) (0 % 2 ^ 32) ((0 : Nat) != 0) := by
  right; left
  rintro ⟨k, hk⟩
  have : k < 2 := by
    by_cases h : k < 2
    · exact h
    · have : 2 ^ 2 ≤ 2 ^ k := Nat.pow_le_pow_right (by omega) (by omega)
      omega
  have : k = 0 ∨ k = 1 := by omega
  rcases this with rfl | rfl <;> simp at hk

/-- members of the `vhost_vring_addr` image -/
def ringLeaves (q flags d u a lg : Nat) : List Leaf :=
  [(0, 4, q), (4, 4, flags), (8, 8, d), (16, 8, u), (24, 8, a), (32, 8, lg)]

theorem spec_hostAddr_eq : Spec.Uapi.hostAddr = Model.Kern.hostAddr := rfl

/-- the ring address handed over for guest address `g`: its host address in the blanket impl, `g` itself in
    `VhostKernVdpa` -/
abbrev ringAddr (translate : Bool) (mem : Mem) (g : Nat) : Option Nat := if translate then hostAddr mem g else some g

theorem setVringAddr_closed (be : String) (translate : Bool) (q qmax qsize flags desc used avail hasLog log : Nat) (e : Env) :
    setVringAddr (inp be "set_vring_addr" [q, qmax, qsize, flags, desc, used, avail, hasLog, log] e) translate =
      (let c := cfgOf qmax qsize flags desc used avail hasLog log
       if (if translate then isValidKern e.mem c else isValidVdpa c) = false then some ⟨[], .err "invalidqueue", none⟩ else
       match ringAddr translate e.mem desc, ringAddr translate e.mem avail, ringAddr translate e.mem used with
       | none, _, _ => some ⟨[], .err "desc", none⟩
       | some _, none, _ => some ⟨[], .err "avail", none⟩
       | some _, some _, none => some ⟨[], .err "used", none⟩
       | some d, some a, some u =>
         some ⟨[.io 0x4028af11 (imageOf 40 (ringLeaves q c.flags d u a (getLogAddr c)))], unitR e, none⟩) := by
  have hc : ringCfgOf [q, qmax, qsize, flags, desc, used, avail, hasLog, log] = some (q, cfgOf qmax qsize flags desc used avail hasLog log) := rfl
  unfold setVringAddr
  simp only [inp, hc, Option.bind_eq_bind, Option.bind_some]
  cases translate
  · by_cases hv : isValidVdpa (cfgOf qmax qsize flags desc used avail hasLog log) = true
    case neg =>
      have hv' : isValidVdpa (cfgOf qmax qsize flags desc used avail hasLog log) = false := by simpa using hv
      simp [hv']
    case pos =>
      simp only [hv, Bool.not_true, Bool.false_eq_true, ↓reduceIte, ringAddr]
      -- the struct image by evaluation (`rfl`), the request read off row 16 of `ops`
      exact ioCall_image _ (Option.some.inj (issued_at 16)) rfl (Nat.le_of_eq (imageOf_length 40 _ (by simp [ringLeaves])))
  · by_cases hv : isValidKern e.mem (cfgOf qmax qsize flags desc used avail hasLog log) = true
    case neg =>
      have hv' : isValidKern e.mem (cfgOf qmax qsize flags desc used avail hasLog log) = false := by simpa using hv
      simp [hv']
    case pos =>
      simp only [hv, Bool.not_true, Bool.false_eq_true, ↓reduceIte, toVhostVringAddr, ringAddr]
      cases hd : hostAddr e.mem desc with
      | none => simp [cfgOf, hd]
      | some d =>
        cases ha : hostAddr e.mem avail with
        | none => simp [cfgOf, hd, ha]
        | some a =>
          cases hu : hostAddr e.mem used with
          | none => simp [cfgOf, hd, ha, hu]
          | some u =>
            simp only [cfgOf, hd, ha, hu]
            exact ioCall_image _ (Option.some.inj (issued_at 8)) rfl (Nat.le_of_eq (imageOf_length 40 _ (by simp [ringLeaves])))

section
open Spec.Uapi

theorem ringExpect_closed (be : String) (translate : Bool) (q qmax qsize flags desc used avail hasLog log : Nat) (e : Env) :
    ringExpect (inp be "set_vring_addr" [q, qmax, qsize, flags, desc, used, avail, hasLog, log] e) translate =
      if ringRefusedb (qmax % 2 ^ 16) (qsize % 2 ^ 16) (flags % 2 ^ 32) (hasLog != 0) = true then .refuse else
      match ringAddr translate e.mem desc, ringAddr translate e.mem used, ringAddr translate e.mem avail with
      | some d, some u, some av =>
        .ioctl ((if translate then "VhostBackend" else "VhostKernVdpa") ++ ".set_vring_addr")
          (.fields "vhost_vring_addr"
            (if (flags % 2 ^ 32).testBit 0 then
              [(["index"], q), (["flags"], flags % 2 ^ 32), (["desc_user_addr"], d), (["used_user_addr"], u),
               (["avail_user_addr"], av), (["log_guest_addr"], log)]
            else
              [(["index"], q), (["flags"], flags % 2 ^ 32), (["desc_user_addr"], d), (["used_user_addr"], u),
               (["avail_user_addr"], av)])) .unit true
      | _, _, _ => .refuse := by
  rfl

theorem getLogAddr_of_flag (qmax qsize flags desc used avail hasLog log : Nat)
    (hr : ¬ ringRefusedb (qmax % 2 ^ 16) (qsize % 2 ^ 16) (flags % 2 ^ 32) (hasLog != 0) = true)
    (hf : (flags % 2 ^ 32).testBit 0 = true) :
    getLogAddr (cfgOf qmax qsize flags desc used avail hasLog log) = log := by
  have hl : (hasLog != 0) = true := by
    cases h : (hasLog != 0)
    · exfalso; apply hr
      simp [ringRefusedb, VHOST_VRING_F_LOG, hf, h]
    · rfl
  have h1 := and_two_pow_ne_zero_iff (flags % 2 ^ 32) 0
  simp only [Nat.pow_zero] at h1
  have h2 := h1.2 hf
  simp [getLogAddr, cfgOf, hl]
  intro h0
  exfalso
  rw [Nat.and_one_is_mod] at h2
  omega

theorem ring_fields_ok (q fl d u a lg log : Nat) (hlog : fl.testBit 0 = true → lg = log) :
    FieldsOk "vhost_vring_addr" (ringLeaves q fl d u a lg)
      (if fl.testBit 0 then
        [(["index"], q), (["flags"], fl), (["desc_user_addr"], d), (["used_user_addr"], u),
         (["avail_user_addr"], a), (["log_guest_addr"], log)]
      else
        [(["index"], q), (["flags"], fl), (["desc_user_addr"], d), (["used_user_addr"], u), (["avail_user_addr"], a)]) := by
  cases hf : fl.testBit 0
  · exact ⟨⟨_, rfl, rfl⟩, ⟨_, rfl, rfl⟩, ⟨_, rfl, rfl⟩, ⟨_, rfl, rfl⟩, ⟨_, rfl, rfl⟩, trivial⟩
  · rw [hlog hf]
    exact ⟨⟨_, rfl, rfl⟩, ⟨_, rfl, rfl⟩, ⟨_, rfl, rfl⟩, ⟨_, rfl, rfl⟩, ⟨_, rfl, rfl⟩, ⟨_, rfl, rfl⟩, trivial⟩

theorem ring_meets (be : String) (translate : Bool) (q qmax qsize flags desc used avail hasLog log : Nat) (e : Env)
    {i : Inp} (hi : i = inp be "set_vring_addr" [q, qmax, qsize, flags, desc, used, avail, hasLog, log] e)
    (hrun : run i = setVringAddr i translate) (hexp : expect i = ringExpect i translate) :
    ∀ o, run i = some o → problem i o = none := by
  subst hi
  intro o ho
  rw [hrun, setVringAddr_closed] at ho
  rw [ringExpect_closed] at hexp
  simp only at ho
  by_cases hr : ringRefusedb (qmax % 2 ^ 16) (qsize % 2 ^ 16) (flags % 2 ^ 32) (hasLog != 0) = true
  · -- the property demands refusal
    obtain ⟨h1, h2⟩ := refused_invalid qmax qsize flags desc used avail hasLog log
      ((ringRefusedb_iff _ _ _ _ (Nat.mod_lt _ (by decide))).1 hr) e.mem
    rw [if_pos (by cases translate <;> assumption)] at ho
    cases ho
    exact problem_refuse _ _ _ (by rw [hexp, if_pos hr]) rfl rfl
  · rw [if_neg hr] at hexp
    by_cases hv : (if translate then isValidKern e.mem (cfgOf qmax qsize flags desc used avail hasLog log)
        else isValidVdpa (cfgOf qmax qsize flags desc used avail hasLog log)) = false
    · -- refused for another reason (a ring end outside guest memory): allowed
      rw [if_pos hv] at ho
      cases ho
      revert hexp
      split
      · exact fun hexp => problem_mayRefuse _ _ _ _ _ _ hexp rfl rfl
      · exact fun hexp => problem_refuse _ _ _ hexp rfl rfl
    · rw [if_neg hv] at ho
      cases hd : ringAddr translate e.mem desc with
      | none =>
        simp only [hd] at ho hexp
        cases ho
        exact problem_refuse _ _ _ hexp rfl rfl
      | some d =>
        cases ha : ringAddr translate e.mem avail with
        | none =>
          simp only [hd, ha] at ho hexp
          cases ho
          cases hu : ringAddr translate e.mem used <;> simp only [hu] at hexp <;> exact problem_refuse _ _ _ hexp rfl rfl
        | some a =>
          cases hu : ringAddr translate e.mem used with
          | none =>
            simp only [hd, ha, hu] at ho hexp
            cases ho
            exact problem_refuse _ _ _ hexp rfl rfl
          | some u =>
            simp only [hd, ha, hu] at ho hexp
            cases ho
            obtain ⟨w, hw1, hw2, hw3⟩ : ∃ w, (requestFor ((if translate then "VhostBackend" else "VhostKernVdpa") ++
                ".set_vring_addr")).bind ioctlByName = some w ∧ w.request = some 0x4028af11 ∧ w.size = some 40 := by
              cases translate
              · exact (issued_is_uapi (scope := "VhostKernVdpa") (method := "set_vring_addr") (req := 0x4028af11)
                  (size := 40) (Option.some.inj (issued_at 16))).2
              · exact (issued_is_uapi (scope := "VhostBackend") (method := "set_vring_addr") (req := 0x4028af11)
                  (size := 40) (Option.some.inj (issued_at 8))).2
            refine problem_ioctl _ _ _ _ _ _ w 0x4028af11 40 _ hexp hw1 hw2 hw3 rfl ?_ (retProblem_unit _ _ _) (Or.inl rfl)
            exact argProblem_image 40 _ _ _ (by simp [ringLeaves]) (by simp [ringLeaves, LeafDisjoint])
              (ring_fields_ok q _ d u a _ log (getLogAddr_of_flag qmax qsize flags desc used avail hasLog log hr))

theorem ring_addr_fields (be : String) (translate : Bool) (q qmax qsize flags desc used avail hasLog log : Nat) (e : Env)
    (o : Obs) (h : setVringAddr (inp be "set_vring_addr" [q, qmax, qsize, flags, desc, used, avail, hasLog, log] e) translate = some o) (hc : o.calls ≠ []) :
    ∃ d u a, ringAddr translate e.mem desc = some d ∧ ringAddr translate e.mem used = some u ∧
      ringAddr translate e.mem avail = some a ∧ ∃ bs, o.calls = [.io 0x4028af11 bs] ∧ bs.length = 40 ∧
        peekField bs "vhost_vring_addr" ["desc_user_addr"] = some (d % 2 ^ 64) ∧
        peekField bs "vhost_vring_addr" ["used_user_addr"] = some (u % 2 ^ 64) ∧
        peekField bs "vhost_vring_addr" ["avail_user_addr"] = some (a % 2 ^ 64) := by
  rw [setVringAddr_closed] at h
  simp only at h
  by_cases hv : (if translate then isValidKern e.mem (cfgOf qmax qsize flags desc used avail hasLog log)
      else isValidVdpa (cfgOf qmax qsize flags desc used avail hasLog log)) = false
  · rw [if_pos hv] at h
    cases h; exact absurd rfl hc
  · rw [if_neg hv] at h
    split at h
    · cases h; exact absurd rfl hc
    · cases h; exact absurd rfl hc
    · cases h; exact absurd rfl hc
    · rename_i d a u hd ha hu
      cases h
      have hb : ∀ l ∈ ringLeaves q (cfgOf qmax qsize flags desc used avail hasLog log).flags d u a
          (getLogAddr (cfgOf qmax qsize flags desc used avail hasLog log)), l.1 + l.2.1 ≤ 40 := by simp [ringLeaves]
      have hp := peek_imageOf 40 _ hb (by simp [ringLeaves, LeafDisjoint])
      have hl := imageOf_length 40 _ hb
      exact ⟨d, u, a, hd, hu, ha, _, rfl, hl,
        peekField_of _ _ _ 8 8 _ (by decide +kernel) (by omega) (hp (8, 8, d) (by simp [ringLeaves])),
        peekField_of _ _ _ 16 8 _ (by decide +kernel) (by omega) (hp (16, 8, u) (by simp [ringLeaves])),
        peekField_of _ _ _ 24 8 _ (by decide +kernel) (by omega) (hp (24, 8, a) (by simp [ringLeaves]))⟩

end

/-- **ring address translation**: whenever the blanket `set_vring_addr` (kernel-vhost, vhost-net, vhost-vsock)
    issues its ioctl, it is `VHOST_SET_VRING_ADDR` and the three ring addresses in the argument — read at the UAPI
    offsets — are the host addresses of the given guest addresses: for each there is a region of the guest memory
    containing it, and the value handed over is that region's host base plus the distance from the region's start -/
theorem ring_addr_translation (be : String) (q qmax qsize flags desc used avail hasLog log : Nat) (e : Env) (o : Obs)
    (h : setVringAddr (inp be "set_vring_addr" [q, qmax, qsize, flags, desc, used, avail, hasLog, log] e) true = some o)
    (hc : o.calls ≠ []) :
    ∃ bs, o.calls = [.io 0x4028af11 bs] ∧ bs.length = 40 ∧
      ∀ fg ∈ [("desc_user_addr", desc), ("used_user_addr", used), ("avail_user_addr", avail)],
        ∃ r ∈ e.mem, r.1 ≤ fg.2 ∧ fg.2 < r.1 + r.2.1 ∧
          Spec.Uapi.peekField bs "vhost_vring_addr" [fg.1] = some ((r.2.2 + (fg.2 - r.1)) % 2 ^ 64) := by
  obtain ⟨d, u, a, hd, hu, ha, bs, h1, h2, pd, pu, pa⟩ := ring_addr_fields be true q qmax qsize flags desc used avail hasLog log e o h hc
  refine ⟨bs, h1, h2, ?_⟩
  have find : ∀ g v, hostAddr e.mem g = some v → ∃ r ∈ e.mem, r.1 ≤ g ∧ g < r.1 + r.2.1 ∧ v = r.2.2 + (g - r.1) := by
    intro g v hg
    unfold hostAddr at hg
    cases hf : e.mem.find? (fun r => decide (r.1 ≤ g ∧ g < r.1 + r.2.1)) with
    | none => rw [hf] at hg; cases hg
    | some r =>
      simp only [hf, Option.map_some, Option.some.injEq] at hg
      have hpr := List.find?_some hf
      simp only [decide_eq_true_eq] at hpr
      exact ⟨r, List.mem_of_find?_eq_some hf, hpr.1, hpr.2, hg.symm⟩
  intro fg hfg
  simp only [List.mem_cons, List.mem_nil_iff, or_false] at hfg
  rcases hfg with rfl | rfl | rfl
  · obtain ⟨r, hm, h1, h2, h3⟩ := find desc d hd
    exact ⟨r, hm, h1, h2, h3 ▸ pd⟩
  · obtain ⟨r, hm, h1, h2, h3⟩ := find used u hu
    exact ⟨r, hm, h1, h2, h3 ▸ pu⟩
  · obtain ⟨r, hm, h1, h2, h3⟩ := find avail a ha
    exact ⟨r, hm, h1, h2, h3 ▸ pa⟩

/-- **vDPA leaves ring addresses unchanged** -/
theorem ring_addr_unchanged_vdpa (be : String) (q qmax qsize flags desc used avail hasLog log : Nat) (e : Env) (o : Obs)
    (h : setVringAddr (inp be "set_vring_addr" [q, qmax, qsize, flags, desc, used, avail, hasLog, log] e) false = some o)
    (hc : o.calls ≠ []) :
    ∃ bs, o.calls = [.io 0x4028af11 bs] ∧ bs.length = 40 ∧
      Spec.Uapi.peekField bs "vhost_vring_addr" ["desc_user_addr"] = some (desc % 2 ^ 64) ∧
      Spec.Uapi.peekField bs "vhost_vring_addr" ["used_user_addr"] = some (used % 2 ^ 64) ∧
      Spec.Uapi.peekField bs "vhost_vring_addr" ["avail_user_addr"] = some (avail % 2 ^ 64) := by
  obtain ⟨d, u, a, hd, hu, ha, r⟩ := ring_addr_fields be false q qmax qsize flags desc used avail hasLog log e o h hc
  cases hd
  cases hu
  cases ha
  exact r

/-- the hypotheses of `ring_addr_translation` are satisfiable: a 256-entry ring inside one 1 MiB region mapped at
    host address 0x1000000000 is accepted and translated -/
example : ∃ o, setVringAddr (inp "net" "set_vring_addr" [1, 256, 256, 0, 0x1000, 0x3000, 0x2000, 0, 0]
      ⟨[], [(0, 0x100000, 0x1000000000)], 0, [], 0⟩) true = some o ∧ o.calls ≠ [] := by
  refine ⟨_, setVringAddr_closed _ _ _ _ _ _ _ _ _ _ _ _, ?_⟩
  decide

/-- `set_vring_addr` through the blanket impl: refused before any ioctl when the property says so (or when a ring
    address has no host address); otherwise, if anything is issued, it is `VHOST_SET_VRING_ADDR` with queue index,
    flags, the three **host** addresses and (with the log flag) the log address at the UAPI offsets -/
theorem set_vring_addr_meets_uapi (be : String) (hbe : be ∈ ["kern", "net", "vsock"])
    (q qmax qsize flags desc used avail hasLog log : Nat) (e : Env) :
    ∀ o, run (inp be "set_vring_addr" [q, qmax, qsize, flags, desc, used, avail, hasLog, log] e) = some o →
      Spec.Uapi.problem (inp be "set_vring_addr" [q, qmax, qsize, flags, desc, used, avail, hasLog, log] e) o = none := by
  simp only [List.mem_cons, List.mem_nil_iff, or_false] at hbe
  rcases hbe with rfl | rfl | rfl <;> exact ring_meets _ true _ _ _ _ _ _ _ _ _ _ rfl rfl rfl

/-- `VhostKernVdpa::set_vring_addr`: the same refusals; otherwise `VHOST_SET_VRING_ADDR` with the ring addresses
    **unchanged** -/
theorem set_vring_addr_vdpa_meets_uapi (q qmax qsize flags desc used avail hasLog log : Nat) (e : Env) :
    ∀ o, run (inp "vdpa" "set_vring_addr" [q, qmax, qsize, flags, desc, used, avail, hasLog, log] e) = some o →
      Spec.Uapi.problem (inp "vdpa" "set_vring_addr" [q, qmax, qsize, flags, desc, used, avail, hasLog, log] e) o = none :=
  ring_meets "vdpa" false _ _ _ _ _ _ _ _ _ _ rfl rfl rfl

end Props.C19
