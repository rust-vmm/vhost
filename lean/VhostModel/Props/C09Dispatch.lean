import VhostModel.Lemmas.FdLinear
import VhostModel.Props.C09
/-!
# C09 — descriptor linearity through the dispatch and the whole server turn

`Props/C09.lean` proves that the receive loops neither lose nor duplicate a descriptor.  Here the same is proved for
what happens to the descriptors after the header has been read, by counting occurrences of an arbitrary token `f`,
for **all** inputs (state, header, body bytes, files, handler outcome, chooser, stream, closed flag):
* `dispatch_fds_linear` — every descriptor that came with the header is, after the arm ran, in exactly one of: handed
  to the application handler (`Call.fds`), closed by the library (`Out.closed`);
* `step_fds_linear` — one `handle_request()`: every descriptor riding on the stream is in exactly one of: handed to
  the handler, closed by the library, still unread in the socket;
* `run_fds_linear` / `runT_fds_linear` — any history of server turns (the second one with cells arriving between the
  turns and a closed flag per turn): the same for the concatenated handler log and closed list.  The unread rest is
  what is in the socket when the connection is torn down and is closed with it, so no descriptor is lost or
  duplicated wherever the history stops;
* `…_perm` — the same as a permutation; `run_fds_nodup` — distinct descriptors stay distinct (no double hand-over,
  no hand-over *and* close).
The proof does not enumerate inputs: the 34 arms are checked once against a decidable well-formedness predicate
(`Lemmas.BackendSrv.arms_takers`: at most one file-taking guard; `Lemmas.FdLinear.Arm.wf`: none for actions that do not
account for `c.file`), the rest
is a generic induction over the guard list and a case split over the actions.
-/
namespace Props.C09Dispatch
open Base Model.Stream Model.BackendSrv Lemmas.Stream Lemmas.BackendSrv Lemmas.FdLinear Props.C09

theorem dispatch_fds_linear (st : BSt) (hdr : Hdr) (buf : Bytes) (files : Option (List Fd)) (h : HOut) (f : Fd) :
    (files.getD []).count f =
      ((dispatch st hdr buf files h).calls.flatMap (·.fds)).count f + (dispatch st hdr buf files h).closed.count f := by
  refine dispatch_cases (P := fun o => (files.getD []).count f = (o.calls.flatMap (·.fds)).count f + o.closed.count f)
    st hdr buf files h (fun _ => by simp) fun a ha _ hh => ?_
  have hwf := arms_wf a ha
  simp only [Arm.wf, Bool.or_eq_true, beq_iff_eq] at hwf
  have hgl := runGuards_leftover a.guards { hdr := hdr, buf := buf, files := files } _ (arms_takers a ha) rfl
    (runGuards_ok (arms_takers a ha) hh)
  have hl : (a.guards.foldl after { hdr := hdr, buf := buf, files := files }).leftover = files.getD [] := by
    rw [hgl.1]; simp [Ctx.leftover]
  rw [← hl]
  exact runAct_fds_linear _ _ _ _ _ (hwf.imp_right hgl.2)

theorem step_fds_linear {σ : Type} (ch : Chooser σ) (cl : Bool) (st : BSt) (cst : σ) (s : List Cell) (h : HOut) (f : Fd) :
    (fdsOf s).count f =
      ((step ch cl st cst s h).o.calls.flatMap (·.fds)).count f + (step ch cl st cst s h).o.closed.count f +
      (fdsOf (step ch cl st cst s h).rest).count f := by
  have key := step_cases (P := fun q => (fdsOf s).count f =
    (q.o.calls.flatMap (·.fds)).count f + q.o.closed.count f + (fdsOf q.rest).count f) ch cl st cst s h
  extract_lets r hdr files d framed at key
  have hr : (fdsOf s).count f = r.fds.count f + r.closed.count f + (fdsOf r.rest).count f :=
    recvAll_fds_linear ch 32 cl f 12 cst s true
  have hd : (fdsOf r.rest).count f = d.lost.count f + (fdsOf d.rest).count f :=
    recvData_fds_linear ch cl f hdr.size r.st r.rest
  have hfiles : (files.getD []).count f = r.fds.count f := by
    simp only [files]; cases r.fds <;> rfl
  have hlost : d.outcome ≠ .enobufs → d.lost = [] := recvData_lost_nil ch cl hdr.size r.st r.rest
  clear_value framed files d hdr r
  apply key
  · intro _
    simp only [List.count_append, List.flatMap_nil, List.count_nil]; omega
  · intro _ hne
    rw [hlost hne] at hd
    simp only [List.count_append, List.flatMap_nil, List.count_nil] at hd ⊢; omega
  · simp only [List.count_append, List.flatMap_nil, List.count_nil]; omega
  · rintro o rfl -
    have ho := dispatch_fds_linear st hdr [] files h f
    simp only [List.count_append]; omega
  · rintro o rfl - hfull
    have ho := dispatch_fds_linear st hdr d.bytes files h f
    rw [hlost (by rw [hfull]; decide)] at hd
    simp only [List.count_append, List.count_nil] at hd ⊢; omega

theorem dispatch_fds_perm (st : BSt) (hdr : Hdr) (buf : Bytes) (files : Option (List Fd)) (h : HOut) :
    (files.getD []).Perm
      ((dispatch st hdr buf files h).calls.flatMap (·.fds) ++ (dispatch st hdr buf files h).closed) := by
  rw [List.perm_iff_count]
  intro f
  rw [List.count_append]
  exact dispatch_fds_linear st hdr buf files h f

theorem step_fds_perm {σ : Type} (ch : Chooser σ) (cl : Bool) (st : BSt) (cst : σ) (s : List Cell) (h : HOut) :
    (fdsOf s).Perm ((step ch cl st cst s h).o.calls.flatMap (·.fds) ++ (step ch cl st cst s h).o.closed ++
      fdsOf (step ch cl st cst s h).rest) := by
  rw [List.perm_iff_count]
  intro f
  rw [List.count_append, List.count_append]
  exact step_fds_linear ch cl st cst s h f

structure RunOut (σ : Type) where
  st : BSt
  cst : σ
  rest : List Cell        -- what is still in the socket (closed with it at teardown)
  calls : List Call       -- the handler log of the whole history
  closed : List Fd        -- everything the library closed

/-- `handle_request()` called once per handler outcome, threading negotiation state, chooser state and stream -/
def run {σ : Type} (ch : Chooser σ) (cl : Bool) : BSt → σ → List Cell → List HOut → RunOut σ
  | st, cst, s, [] => ⟨st, cst, s, [], []⟩
  | st, cst, s, h :: hs =>
    let r := step ch cl st cst s h
    let q := run ch cl r.o.st r.cst r.rest hs
    { q with calls := r.o.calls ++ q.calls, closed := r.o.closed ++ q.closed }

/-- a turn of a history in which the peer keeps sending and may close its end at any point -/
structure Turn where
  arrive : List Cell := []   -- cells that arrived since the previous turn
  cl : Bool := false         -- whether the peer's end is closed when this turn runs
  h : HOut := {}

def runT {σ : Type} (ch : Chooser σ) : BSt → σ → List Cell → List Turn → RunOut σ
  | st, cst, s, [] => ⟨st, cst, s, [], []⟩
  | st, cst, s, t :: ts =>
    let r := step ch t.cl st cst (s ++ t.arrive) t.h
    let q := runT ch r.o.st r.cst r.rest ts
    { q with calls := r.o.calls ++ q.calls, closed := r.o.closed ++ q.closed }

/-- the same with cells arriving between the turns and the closed flag changing: what was in the socket plus what
arrived = handed over + closed + still in the socket -/
theorem runT_fds_linear {σ : Type} (ch : Chooser σ) (f : Fd) :
    ∀ (ts : List Turn) (st : BSt) (cst : σ) (s : List Cell),
      (fdsOf s).count f + (fdsOf (ts.flatMap (·.arrive))).count f =
        ((runT ch st cst s ts).calls.flatMap (·.fds)).count f + (runT ch st cst s ts).closed.count f +
        (fdsOf (runT ch st cst s ts).rest).count f := by
  intro ts
  induction ts with
  | nil => intro st cst s; simp [runT, fdsOf]
  | cons t ts ih =>
    intro st cst s
    have h1 := step_fds_linear ch t.cl st cst (s ++ t.arrive) t.h f
    have h2 := ih (step ch t.cl st cst (s ++ t.arrive) t.h).o.st (step ch t.cl st cst (s ++ t.arrive) t.h).cst
      (step ch t.cl st cst (s ++ t.arrive) t.h).rest
    simp only [fdsOf, runT, List.flatMap_append, List.flatMap_cons, List.count_append] at h1 h2 ⊢
    omega

theorem run_eq_runT {σ : Type} (ch : Chooser σ) (cl : Bool) :
    ∀ (hs : List HOut) (st : BSt) (cst : σ) (s : List Cell),
      run ch cl st cst s hs = runT ch st cst s (hs.map fun h => { cl := cl, h := h }) := by
  intro hs
  induction hs with
  | nil => intro st cst s; rfl
  | cons h hs ih => intro st cst s; simp only [run, runT, List.map_cons, List.append_nil, ih]

/-- **no descriptor is lost or duplicated over any history of server turns** -/
theorem run_fds_linear {σ : Type} (ch : Chooser σ) (cl : Bool) (f : Fd) :
    ∀ (hs : List HOut) (st : BSt) (cst : σ) (s : List Cell),
      (fdsOf s).count f =
        ((run ch cl st cst s hs).calls.flatMap (·.fds)).count f + (run ch cl st cst s hs).closed.count f +
        (fdsOf (run ch cl st cst s hs).rest).count f := by
  intro hs st cst s
  have h := runT_fds_linear ch f (hs.map fun h => { cl := cl, h := h }) st cst s
  rw [← run_eq_runT, List.flatMap_map, List.flatMap_eq_nil_iff.2 fun _ _ => rfl] at h
  exact h

theorem run_fds_perm {σ : Type} (ch : Chooser σ) (cl : Bool) (hs : List HOut) (st : BSt) (cst : σ) (s : List Cell) :
    (fdsOf s).Perm ((run ch cl st cst s hs).calls.flatMap (·.fds) ++ (run ch cl st cst s hs).closed ++
      fdsOf (run ch cl st cst s hs).rest) := by
  rw [List.perm_iff_count]
  intro f
  rw [List.count_append, List.count_append]
  exact run_fds_linear ch cl f hs st cst s

/-- distinct descriptors on the wire: none is handed to the handler twice, none is both handed over and closed,
none that was handed over or closed is still in the socket -/
theorem run_fds_nodup {σ : Type} (ch : Chooser σ) (cl : Bool) (hs : List HOut) (st : BSt) (cst : σ) (s : List Cell)
    (hn : (fdsOf s).Nodup) :
    ((run ch cl st cst s hs).calls.flatMap (·.fds) ++ (run ch cl st cst s hs).closed ++
      fdsOf (run ch cl st cst s hs).rest).Nodup :=
  (run_fds_perm ch cl hs st cst s).nodup_iff.mp hn

/-- nothing appears from nowhere and nothing disappears -/
theorem run_fds_mem {σ : Type} (ch : Chooser σ) (cl : Bool) (hs : List HOut) (st : BSt) (cst : σ) (s : List Cell)
    (f : Fd) :
    f ∈ fdsOf s ↔ (f ∈ (run ch cl st cst s hs).calls.flatMap (·.fds) ∨ f ∈ (run ch cl st cst s hs).closed ∨
      f ∈ fdsOf (run ch cl st cst s hs).rest) := by
  rw [(run_fds_perm ch cl hs st cst s).mem_iff]
  simp only [List.mem_append, or_assoc]

/-! ### non-vacuity: both sides of the dispatch equation are inhabited -/

/-- SET_VRING_CALL with one descriptor: handed to the handler -/
example : ((dispatch {} ⟨13, 1, 8⟩ (leBytes 8 0) (some [7]) {}).calls.flatMap (·.fds),
           (dispatch {} ⟨13, 1, 8⟩ (leBytes 8 0) (some [7]) {}).closed) = ([7], []) := by decide +kernel

/-- SET_VRING_CALL with two descriptors: the guard fails, both are closed -/
example : ((dispatch {} ⟨13, 1, 8⟩ (leBytes 8 0) (some [7, 9]) {}).calls.flatMap (·.fds),
           (dispatch {} ⟨13, 1, 8⟩ (leBytes 8 0) (some [7, 9]) {}).closed) = ([], [7, 9]) := by decide +kernel

/-- SET_BACKEND_REQ_FD without the protocol feature: the descriptor is closed, the handler is not called -/
example : ((dispatch {} ⟨21, 1, 0⟩ [] (some [7]) {}).calls.flatMap (·.fds),
           (dispatch {} ⟨21, 1, 0⟩ [] (some [7]) {}).closed) = ([], [7]) := by decide +kernel

/-- … and with it: handed to the handler -/
example : ((dispatch { ackedProto := 32 } ⟨21, 1, 0⟩ [] (some [7]) {}).calls.flatMap (·.fds),
           (dispatch { ackedProto := 32 } ⟨21, 1, 0⟩ [] (some [7]) {}).closed) = ([7], []) := by decide +kernel

/-- the well-formedness condition on the table is needed: an action that does not look at `c.file` (here the
SET_BACKEND_REQ_FD helper) run after a file-taking guard would lose the taken descriptor.  No arm of the table does this
(`Lemmas.FdLinear.arms_wf`). -/
example : ∃ (c : Ctx), c.leftover = [7] ∧
    (runAct {} c {} .backendReqFd).calls.flatMap (·.fds) ++ (runAct {} c {} .backendReqFd).closed = [] :=
  ⟨{ hdr := ⟨21, 1, 0⟩, buf := [], files := none, file := some 7 }, by decide +kernel, by decide +kernel⟩

end Props.C09Dispatch
