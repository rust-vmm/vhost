import VhostModel.Props.C12
import VhostModel.Lemmas.WorkerLive
import VhostModel.Lemmas.Fair

/-!
# C12, liveness half — a kick raised while the ring is (or becomes) active is eventually dispatched

`Props/C12.lean` proves the safety half of P2 for `Model.Worker` (no wake-up consumed without a handler call, the worker
never ends: `no_lost_wakeup_repaired`).  This file adds "eventually", under an explicit scheduler-fairness hypothesis, in
the style of `Props/C16.lean` (`shutdown_then_wait_ok_fair`).

## Executions, fairness, events

* `Exec` — an infinite schedule: `st : Nat → St`, `lbl : Nat → Lbl`, every label enabled (`step (st k) (lbl k) = some
  (st (k+1))`).  `Exec.run_pre` / `Exec.reach`: every prefix is a finite run of `Model.Worker.run`, so every state of
  an execution from `init cfg` is `Props.C12.Reach cfg` and everything that every step keeps applies (`Exec.good`).
* `WeakFair x` — weak fairness for the worker thread: if from some position on the worker's step `w` is always
  enabled, it is taken at some later position.  Because `w` is enabled in every state in which the worker thread has
  not ended, and (with `fix-c12-stale-eagain`) it never ends, this is the same as "the worker steps infinitely often"
  (`weakFair_iff_infinitely_often`); strong fairness would be no stronger.  Nothing is assumed about the control
  thread or the guest: they may stall, or act for ever.
* `EmitsAt x j e` — step `j` appends `e` to the history; `ConsumedAt x j` = `EmitsAt x j (.consumed true)` (a granted
  read of the kick counter), `DispatchAt x j` = `EmitsAt x j .dispatch` (handler entry; `dispatchAt_iff`: exactly the
  worker's step from `worker.dispatch`).  `Served x k` — at or after position `k` the counter is read with a grant and
  later the handler is entered: the kick that was pending at `k` has been *processed*, not merely followed by some
  handler call that had been granted earlier.  `ServedOn x d k` adds that the read is of `d`'s counter (`d` is the
  ring's kick descriptor at that moment); the theorems are proved in that form (`…_on`) and `ServedOn.served` forgets `d`.
* `Active d s` — ready ∧ enabled ∧ `kick = some d` ∧ `reg d`.

## Theorems (repaired configuration; the flags each one needs are hypotheses)

1. `kick_eventually_dispatched` (`fixLost`, `fixEagain`) — every execution from `init cfg` that is weakly fair to the
   worker: if `cnt d > 0` at position `k1` and the ring is `Active d` at every position from some `k0 ≥ k1` on, then
   `Served x k1`.  `fixStopped` and `nofdStarts = false` are **not** needed.  The stability hypothesis is persistence of
   `Active d` ("eventually always"), *not* finiteness of control traffic: the control thread may go on for ever with
   messages that keep the ring active (e.g. repeated SET_VRING_ENABLE 1).
   * `kick_served_on_of_active` — the core, for **every** configuration (pinned included) and every execution (no
     initial-state hypothesis beyond `kick d ⇒ d < next`): worker alive, `cnt d > 0` and `Active d` from `k0` on ⇒
     `ServedOn x d k0`.  Ranking argument: `Lemmas.WorkerLive.rank` (`toDispatch ↦ 4, wait ↦ 3, woken ↦ 2, checked ↦ 1`)
     strictly decreases with every worker step until the read (`w_progress`), is untouched by guest kicks and by
     control segments (`other_frame`; control segments cannot reset it — they can only destroy `Active`, which the
     hypothesis excludes); after the read the next worker step is the handler entry (`granted_dispatched`).  Both are
     instances of `fair_reach` (while an invariant holds the worker is enabled and no step raises a measure that
     the worker's steps lower: the target is reached), which rests on `finite_descent`.
   * `kick_eventually_dispatched_finite_control` — the "finitely many control messages" form: if no message arrives
     from `k0` on, it is enough that the ring is active **infinitely often** (`control_quiet`: the control thread then
     takes only finitely many more segments, after which the ring state is constant).
   * Why not weaker: `flapping_counterexample` — repaired configuration, one kick pending for ever, the control thread
     alternating SET_VRING_ENABLE 0 / SET_VRING_ENABLE 1 for ever (every message completed and answered), the worker
     stepping infinitely often (weakly *and* strongly fair), the ring `Active 0` infinitely often — and no handler
     entry, ever: the worker happens to run only while the ring is disabled.  So "infinitely often active" (or "every
     started message is eventually completed") does not suffice without finiteness of control traffic; persistence does.
2. `worker_never_exits` (`fixEagain`) — along every execution, no fairness: `wpc ≠ dead`, the worker's step is
   enabled, `workerExit` is not in the history.  `worker_never_exits_run` is the same for finite runs.
3. `retained_kick_delivered_after_enable` (`fixLost`, `fixEagain`) — a guest kick on `d` at position `k1` (whatever
   the ring state — disabled, stopped, mid-message): (a) retention: at every later position `cnt d > 0` unless a
   granted read happened in between, and no `consumed false` ever; (b) if the reply of an activating message
   (SET_VRING_ENABLE 1 or SET_VRING_KICK with a descriptor) is sent at `k2 ≥ k1` and the ring is `Active d` from then
   on, then `Served x (k1+1)`.  `retained_kick_delivered_after_enable_quiet` derives the activity instead of assuming
   it: reply of SET_VRING_ENABLE(1) at `k2`, ring started on `d` at that moment, no further message ⇒ served.
4. Counterexamples: `unfair_counterexample` (no worker fairness: the guest kicks for ever, the worker is never
   scheduled, all other hypotheses of 1 hold, no dispatch); `pinned_retained_kick_lost` (`fixLost = false`): the
   kick that arrives after the reply of SET_VRING_ENABLE(0) is consumed by the worker's stale wake-up, then
   SET_VRING_ENABLE(1) completes, the ring is active for ever, the worker runs for ever — no handler entry in the
   whole execution; `pinned_no_dispatch_without_new_kick`: from the state after that read, **no** continuation without
   a new guest kick (fair or not, whatever the control thread does) ever enters the handler.

The hypotheses of 1 and 3 are satisfiable: the `example` at the end of the file (disable · kick · enable · worker runs,
repaired configuration, weakly fair, `Served`).  Executions are built with `Exec.cons`, `exists_prepend`, `exists_lasso`
(a finite schedule that leaves the worker waiting with nothing pending, then the worker's step for ever) and, for the periodic one, by iterating `step` (`flapSt`, `flap_inv`).
`Lemmas/WorkerLive.lean` holds the step-level lemmas (frames, `rank`, `w_progress`, `retained_step_on`,
`InvE` / `active_after_enable_reply` / `active_after_restart_reply`, `cnt_noninc`, `drained_step`) and `Good`, all that
every step keeps.

Assumed, not proved: OS scheduling is fair to the worker (hypothesis `WeakFair`); the modelling assumptions of
`Model/Worker.lean` (atomic segments, level-triggered epoll, one ring / one worker).
-/

namespace Props.C12Live
open Model.Worker Spec.KickDelivery Lemmas.Worker Lemmas.WorkerLive Lemmas.Fair Props.C12

/-! ## infinite executions -/

/-- an infinite schedule: a sequence of states and labels in which every label is enabled -/
structure Exec where
  st : Nat → St
  lbl : Nat → Lbl
  ok : ∀ k, step (st k) (lbl k) = some (st (k + 1))

/-- the first `k` labels -/
def Exec.pre (x : Exec) (k : Nat) : List Lbl := (List.range k).map x.lbl

/-- every prefix of an execution is a finite run in the sense of `Model.Worker.run` -/
theorem Exec.run_pre (x : Exec) (k : Nat) : run (x.st 0) (x.pre k) = some (x.st k) := by
  -- from any position `j`, so that the induction can go by the first label
  have h : ∀ n j, run (x.st j) ((List.range' j n).map x.lbl) = some (x.st (j + n)) := by
    intro n
    induction n with
    | zero => exact fun _ => rfl
    | succ n ih =>
      intro j
      rw [List.range'_succ, List.map_cons, isRun.cons, x.ok j]
      exact Nat.add_right_comm j 1 n ▸ ih (j + 1)
  simpa [Exec.pre, List.range_eq_range'] using h k 0

/-- … so every state of an execution from `init cfg` is reachable in the sense of `Props.C12` -/
theorem Exec.reach (x : Exec) (cfg : Cfg) (h0 : x.st 0 = init cfg) (k : Nat) : Reach cfg (x.st k) :=
  ⟨x.pre k, by rw [← h0]; exact x.run_pre k⟩

theorem Exec.good (x : Exec) (cfg : Cfg) (h0 : x.st 0 = init cfg) (k : Nat) : Good cfg (x.st k) :=
  (x.reach cfg h0 k).good

/-! ## fairness and events -/

/-- the worker's step is enabled -/
def WorkerEnabled (s : St) : Prop := (step s .w).isSome = true

/-- weak fairness for the worker thread: if from some position on its step is always enabled, it eventually steps -/
def WeakFair (x : Exec) : Prop :=
  ∀ k, (∀ j, k ≤ j → WorkerEnabled (x.st j)) → ∃ j, k ≤ j ∧ x.lbl j = .w

/-- step `j` appends `e` to the history -/
def EmitsAt (x : Exec) (j : Nat) (e : Ev) : Prop := (x.st (j + 1)).trace = (x.st j).trace ++ [e]
/-- step `j` is a read of the kick counter that grants a handler call -/
abbrev ConsumedAt (x : Exec) (j : Nat) : Prop := EmitsAt x j (.consumed true)
/-- step `j` enters the backend's event handler -/
abbrev DispatchAt (x : Exec) (j : Nat) : Prop := EmitsAt x j .dispatch

/-- a kick pending at position `k` is processed: the counter is read (granted) at some `i ≥ k` and the handler is
entered at some `j > i` -/
def Served (x : Exec) (k : Nat) : Prop := ∃ i j, k ≤ i ∧ i < j ∧ ConsumedAt x i ∧ DispatchAt x j

/-- … and the read is of descriptor `d`'s counter: `d` is the ring's kick descriptor when it happens -/
def ServedOn (x : Exec) (d : Evt) (k : Nat) : Prop :=
  ∃ i j, k ≤ i ∧ i < j ∧ ConsumedAt x i ∧ (x.st i).kick = some d ∧ DispatchAt x j

theorem ServedOn.served {x : Exec} {d : Evt} {k : Nat} : ServedOn x d k → Served x k :=
  fun ⟨i, j, h1, h2, h3, _, h5⟩ => ⟨i, j, h1, h2, h3, h5⟩

theorem dispatchAt_iff (x : Exec) (j : Nat) : DispatchAt x j ↔ x.lbl j = .w ∧ (x.st j).wpc = .toDispatch :=
  emits_dispatch_iff (x.ok j)

/-- the history only grows -/
theorem Exec.mem_trace_mono (x : Exec) {j k : Nat} (h : j ≤ k) {e : Ev} (he : e ∈ (x.st j).trace) :
    e ∈ (x.st k).trace :=
  from_on (P := fun k => e ∈ (x.st k).trace) he (fun i _ => mem_trace_step (x.ok i)) k h

theorem Served.dispatch {x : Exec} {k : Nat} (h : Served x k) :
    ∃ j, k < j ∧ x.lbl j = .w ∧ (x.st j).wpc = .toDispatch ∧ Ev.dispatch ∈ (x.st (j + 1)).trace := by
  obtain ⟨i, j, h1, h2, _, h4⟩ := h
  have := (dispatchAt_iff x j).1 h4
  refine ⟨j, by omega, this.1, this.2, ?_⟩
  rw [show (x.st (j + 1)).trace = _ from h4]; simp

theorem never_served {x : Exec} (h : ∀ j, Ev.dispatch ∉ (x.st j).trace) :
    (∀ j, ¬ DispatchAt x j) ∧ ∀ k, ¬ Served x k := by
  have hd : ∀ j, ¬ DispatchAt x j := fun j (hd : (x.st (j + 1)).trace = (x.st j).trace ++ [Ev.dispatch]) =>
    h (j + 1) (by rw [hd]; exact List.mem_append_right _ (.head _))
  exact ⟨hd, fun k ⟨_, j, _, _, _, h'⟩ => hd j h'⟩

/-- least witness at or after `k` -/
theorem exists_least (p : Nat → Prop) : ∀ n k, p (k + n) → ∃ j, k ≤ j ∧ p j ∧ ∀ i, k ≤ i → i < j → ¬ p i := by
  intro n
  induction n with
  | zero => intro k h; exact ⟨k, Nat.le_refl _, h, fun i h1 h2 => by omega⟩
  | succ n ih =>
    intro k h
    by_cases hk : p k
    · exact ⟨k, Nat.le_refl _, hk, fun i h1 h2 => by omega⟩
    · obtain ⟨j, h1, h2, h3⟩ := ih (k + 1) (by rw [Nat.add_assoc, Nat.add_comm 1 n]; exact h)
      refine ⟨j, by omega, h2, ?_⟩
      intro i hi hij
      by_cases hik : i = k
      · subst hik; exact hk
      · exact h3 i (by omega) hij

/-! ## 2. the worker never exits (safety) -/

/-- **`worker_never_exits`**, finite runs: with `fix-c12-stale-eagain` the worker thread has not ended in any reachable
state. -/
theorem worker_never_exits_run (cfg : Cfg) (hE : cfg.fixEagain = true) (s : St) (h : Reach cfg s) :
    s.wpc ≠ .dead ∧ Ev.workerExit ∉ s.trace :=
  alive h.good hE

/-- **`worker_never_exits`**: along every execution of a configuration with `fix-c12-stale-eagain` (no fairness
needed) the worker thread is alive at every position — its step is enabled, and its exit is not in the history. -/
theorem worker_never_exits (cfg : Cfg) (hE : cfg.fixEagain = true) (x : Exec) (h0 : x.st 0 = init cfg) (k : Nat) :
    (x.st k).wpc ≠ .dead ∧ WorkerEnabled (x.st k) ∧ Ev.workerExit ∉ (x.st k).trace := by
  have := worker_never_exits_run cfg hE (x.st k) (x.reach cfg h0 k)
  exact ⟨this.1, (w_enabled_iff _).2 this.1, this.2⟩

/-- the hypothesis is needed: the pinned worker does end (`Props.C12.stale_event_reads_new_fd_counterexample`) -/
example : (run (init Cfg.pinned) schedStale).map (fun s => s.wpc) = some .dead := by decide

/-- while the worker lives, weak fairness is "the worker steps infinitely often" (and so is strong fairness) -/
theorem weakFair_iff_infinitely_often (x : Exec) (ha : ∀ k, (x.st k).wpc ≠ .dead) :
    WeakFair x ↔ ∀ k, ∃ j, k ≤ j ∧ x.lbl j = .w :=
  ⟨fun hf k => hf k (fun j _ => (w_enabled_iff _).2 (ha j)), fun h k _ => h k⟩

/-! ## 1. a pending kick on an active ring is served -/

/-- after a granted read the next worker step is the handler entry, and fairness provides it — any configuration -/
theorem granted_dispatched (x : Exec) (hf : WeakFair x) (i : Nat) (hc : ConsumedAt x i) : ∃ j, i < j ∧ DispatchAt x j := by
  refine fair_reach hf (fun j => (x.st j).wpc = .toDispatch) (DispatchAt x) (fun _ => 0) (i + 1)
    (step_emits (x.ok i) hc).2 fun j _ hw => ?_
  by_cases hl : x.lbl j = .w
  · exact .inl ((dispatchAt_iff x j).2 ⟨hl, hw⟩)
  · exact .inr ⟨(w_enabled_iff _).2 (by rw [hw]; nofun), by rw [(other_frame (x.ok j) hl).1]; exact hw, Nat.le_refl _,
      fun h => absurd h hl⟩

/-- **Core of 1, every configuration** (pinned included), every execution (whatever its first state, as long as the
current kick descriptor is one that has been allocated): if the worker is alive, a kick is pending on `d` and the ring is
`Active d` from `k0` on, then under weak fairness for the worker the counter of `d` is read and the handler entered. -/
theorem kick_served_on_of_active (x : Exec) (hf : WeakFair x)
    (hn : ∀ k d, (x.st k).kick = some d → d < (x.st k).next)
    (d : Evt) (k0 : Nat) (halive : (x.st k0).wpc ≠ .dead) (hpend : 0 < (x.st k0).cnt d)
    (hact : ∀ j, k0 ≤ j → Active d (x.st j)) : ServedOn x d k0 := by
  -- the ranking argument: while the kick is pending and unread, every worker step lowers `rank`, no other step raises it
  obtain ⟨i, hi, hc⟩ : ∃ i, k0 ≤ i ∧ ConsumedAt x i := by
    refine fair_reach hf (fun j => 0 < (x.st j).cnt d ∧ (x.st j).wpc ≠ .dead) (ConsumedAt x) (fun j => rank (x.st j).wpc)
      k0 ⟨hpend, halive⟩ fun j hj ⟨hc, ha⟩ => ?_
    have hen := (w_enabled_iff _).2 ha
    have hok := x.ok j
    by_cases hl : x.lbl j = .w
    · rw [hl] at hok
      rcases w_progress (hn j d (hact j hj).2.2.1) (hact j hj) hc hok with h | ⟨h1, h2, h3⟩
      · exact .inl h
      · exact .inr ⟨hen, ⟨h2 ▸ hc, h3⟩, Nat.le_of_lt h1, fun _ => h1⟩
    · obtain ⟨h1, h2⟩ := other_frame hok hl
      exact .inr ⟨hen, ⟨Nat.lt_of_lt_of_le hc (h2 d), h1 ▸ ha⟩, Nat.le_of_eq (congrArg rank h1), fun h => absurd h hl⟩
  obtain ⟨j, hj, hd⟩ := granted_dispatched x hf i hc
  exact ⟨i, j, hi, hj, hc, (hact i hi).2.2.1, hd⟩

/-- retention along an execution (`fix-c12-lost-kick`): a counter that is positive at `k1` is positive at every later
position up to the first granted read of it -/
theorem retained_on (cfg : Cfg) (hL : cfg.fixLost = true) (x : Exec) (h0 : x.st 0 = init cfg) (d : Evt) (k1 : Nat)
    (hpend : 0 < (x.st k1).cnt d) (n : Nat) :
    0 < (x.st (k1 + n)).cnt d ∨ ∃ i, k1 ≤ i ∧ i < k1 + n ∧ ConsumedAt x i ∧ (x.st i).kick = some d := by
  induction n with
  | zero => exact .inl hpend
  | succ n ih =>
    rcases ih with h | ⟨i, h1, h2, h3⟩
    · rcases retained_step_on (by rw [(x.good cfg h0 _).link.cfg_eq]; exact hL) h (x.ok (k1 + n)) with h' | h'
      · exact .inl h'
      · exact .inr ⟨k1 + n, by omega, by omega, h'⟩
    · exact .inr ⟨i, h1, by omega, h3⟩

/-- … without saying whose counter the read is of -/
theorem retained (cfg : Cfg) (hL : cfg.fixLost = true) (x : Exec) (h0 : x.st 0 = init cfg) (d : Evt) (k1 : Nat)
    (hpend : 0 < (x.st k1).cnt d) (n : Nat) :
    0 < (x.st (k1 + n)).cnt d ∨ ∃ i, k1 ≤ i ∧ i < k1 + n ∧ ConsumedAt x i :=
  (retained_on cfg hL x h0 d k1 hpend n).imp_right fun ⟨i, h1, h2, h3, _⟩ => ⟨i, h1, h2, h3⟩

/-- **1, with the descriptor.**  Configuration with `fix-c12-lost-kick` and `fix-c12-stale-eagain`; every infinite
execution from `init cfg` that is weakly fair to the worker.  If a kick is pending on descriptor `d` at position `k1` and
from some position `k0 ≥ k1` on the ring stays `Active d`, then at or after `k1` the counter of `d` is read with a grant and
later the handler is entered. -/
theorem kick_eventually_dispatched_on (cfg : Cfg) (hL : cfg.fixLost = true) (hE : cfg.fixEagain = true)
    (x : Exec) (h0 : x.st 0 = init cfg) (hf : WeakFair x) (d : Evt) (k1 k0 : Nat) (hk : k1 ≤ k0)
    (hpend : 0 < (x.st k1).cnt d) (hact : ∀ j, k0 ≤ j → Active d (x.st j)) : ServedOn x d k1 := by
  obtain ⟨n, rfl⟩ : ∃ n, k0 = k1 + n := ⟨k0 - k1, by omega⟩
  rcases retained_on cfg hL x h0 d k1 hpend n with h | ⟨i, h1, _, h3, h4⟩
  · obtain ⟨i, j, h1, hs⟩ := kick_served_on_of_active x hf (fun k d h => (x.good cfg h0 k).inv.c.c5 d h) d (k1 + n)
      (worker_never_exits cfg hE x h0 _).1 h hact
    exact ⟨i, j, Nat.le_trans hk h1, hs⟩
  · obtain ⟨j, hj, hd⟩ := granted_dispatched x hf i h3
    exact ⟨i, j, h1, hj, h3, h4, hd⟩

/-- **1. `kick_eventually_dispatched`.**  Configuration with `fix-c12-lost-kick` and `fix-c12-stale-eagain` (in
particular `Cfg.repaired`); every infinite execution from `init cfg` that is weakly fair to the worker.  If a kick is
pending on descriptor `d` at position `k1` and from some position `k0 ≥ k1` on the ring stays started and enabled with
`d` its registered kick descriptor, then at or after `k1` the counter is read with a grant and later the handler is
entered.  No hypothesis on the control thread or the guest. -/
theorem kick_eventually_dispatched (cfg : Cfg) (hL : cfg.fixLost = true) (hE : cfg.fixEagain = true)
    (x : Exec) (h0 : x.st 0 = init cfg) (hf : WeakFair x) (d : Evt) (k1 k0 : Nat) (hk : k1 ≤ k0)
    (hpend : 0 < (x.st k1).cnt d) (hact : ∀ j, k0 ≤ j → Active d (x.st j)) : Served x k1 :=
  (kick_eventually_dispatched_on cfg hL hE x h0 hf d k1 k0 hk hpend hact).served

/-- 1, for the repaired configuration, in terms of labels: a later step of the execution is the worker's step from
`worker.dispatch`, and it puts `dispatch` into the history -/
theorem kick_eventually_dispatched_repaired (x : Exec) (h0 : x.st 0 = init Cfg.repaired) (hf : WeakFair x) (d : Evt)
    (k1 k0 : Nat) (hk : k1 ≤ k0) (hpend : 0 < (x.st k1).cnt d) (hact : ∀ j, k0 ≤ j → Active d (x.st j)) :
    ∃ j, k1 < j ∧ x.lbl j = .w ∧ (x.st j).wpc = .toDispatch ∧ Ev.dispatch ∈ (x.st (j + 1)).trace :=
  (kick_eventually_dispatched Cfg.repaired rfl rfl x h0 hf d k1 k0 hk hpend hact).dispatch

/-! ### finitely many control messages -/

/-- segments the control thread can still take without a new message -/
def cRemain (s : St) : Nat :=
  match s.cpc with
  | .idle => 0
  | .inMsg _ stage => 4 - stage

theorem cRemain_c {s s' : St} (h : step s .c = some s') : cRemain s' < cRemain s := by
  obtain ⟨m, k, hc, hseg⟩ := c_seg h
  unfold cRemain
  rw [hc]
  cases hseg
  case newKick => show 4 - (if s.ready = true then 2 else 1) < 4 - 0; split <;> decide
  case noKick => show 4 - (if (s.cfg.nofdStarts && !s.ready) = true then 1 else 2) < 4 - 0; split <;> decide
  case epoll => show 4 - (epollStage m + 1) < 4 - epollStage m; cases m <;> decide
  case reply => show 0 < 4 - replyStage m; cases m <;> decide
  all_goals show 4 - _ < 4 - _; decide

theorem cRemain_other {s s' : St} {l : Lbl} (h : step s l = some s') (h1 : l ≠ .c) (h2 : ∀ m, l ≠ .send m) :
    cRemain s' = cRemain s := by
  cases l with
  | c => exact absurd rfl h1
  | send m => exact absurd rfl (h2 m)
  | w => simp only [cRemain, (w_frame h).cpc]
  | kick d => simp only [cRemain, (kick_frame h).cpc]

/-- if no control message arrives from `k` on, the control thread takes only finitely many more segments -/
theorem control_quiet (x : Exec) (k : Nat) (hs : ∀ j, k ≤ j → ∀ m, x.lbl j ≠ .send m) :
    ∃ k', k ≤ k' ∧ ∀ j, k' ≤ j → x.lbl j ≠ .c := by
  refine finite_descent (fun j => cRemain (x.st j)) (fun j => x.lbl j = .c) k fun j hj => ?_
  by_cases hc : x.lbl j = .c
  · have := cRemain_c (hc ▸ x.ok j)
    exact ⟨Nat.le_of_lt this, fun _ => this⟩
  · exact ⟨Nat.le_of_eq (cRemain_other (x.ok j) hc (hs j hj)), fun h => absurd h hc⟩

theorem control_idle (x : Exec) (k : Nat) (hs : ∀ j, k ≤ j → ∀ m, x.lbl j ≠ .send m) (hi : (x.st k).cpc = .idle) :
    ∀ j, k ≤ j → x.lbl j ≠ .c := by
  have h0 : ∀ j, k ≤ j → cRemain (x.st j) = 0 := from_on (by unfold cRemain; rw [hi]) fun j hj ih => by
    by_cases hc : x.lbl j = .c
    · have := cRemain_c (hc ▸ x.ok j); omega
    · rw [cRemain_other (x.ok j) hc (hs j hj), ih]
  intro j hj hc
  have := cRemain_c (hc ▸ x.ok j)
  rw [h0 j hj] at this; cases this

/-- without control activity an active ring stays active -/
theorem active_stable (x : Exec) (d : Evt) (k : Nat) (hs : ∀ j, k ≤ j → ∀ m, x.lbl j ≠ .send m)
    (hc : ∀ j, k ≤ j → x.lbl j ≠ .c) (ha : Active d (x.st k)) : ∀ j, k ≤ j → Active d (x.st j) :=
  from_on ha fun j hj ih => by
    have hok := x.ok j
    cases hl : x.lbl j with
    | c => exact absurd hl (hc j hj)
    | send m => exact absurd hl (hs j hj m)
    | w => rw [hl] at hok; exact ih.of_frame (w_frame hok)
    | kick e => rw [hl] at hok; exact ih.of_frame (kick_frame hok)

/-- **1, finite control traffic.**  If no control message arrives from `k0` on (the control thread performs finitely
many messages), it is enough that the ring is active *infinitely often*: the ring state is eventually constant. -/
theorem kick_eventually_dispatched_finite_control (cfg : Cfg) (hL : cfg.fixLost = true) (hE : cfg.fixEagain = true)
    (x : Exec) (h0 : x.st 0 = init cfg) (hf : WeakFair x) (d : Evt) (k1 k0 : Nat) (hk : k1 ≤ k0)
    (hpend : 0 < (x.st k1).cnt d) (hs : ∀ j, k0 ≤ j → ∀ m, x.lbl j ≠ .send m)
    (hact : ∀ j, ∃ j', j ≤ j' ∧ Active d (x.st j')) : Served x k1 := by
  obtain ⟨k', hk', hq⟩ := control_quiet x k0 hs
  obtain ⟨j', hj', ha⟩ := hact k'
  exact kick_eventually_dispatched cfg hL hE x h0 hf d k1 j' (by omega) hpend
    (active_stable x d j' (fun j hj => hs j (by omega)) (fun j hj => hq j (by omega)) ha)

/-! ## 3. a kick that arrives while the ring is not active is retained, and delivered once it is -/

/-- **3. `retained_kick_delivered_after_enable`.**  `fix-c12-lost-kick` + `fix-c12-stale-eagain`, fair execution from
`init cfg`, a guest kick on `d` at position `k1` — in whatever state the ring is (disabled, stopped, in the middle of a
message).  (a) The kick is retained: at every later position the counter of `d` is positive unless a *granted* read
happened since the kick, and the history never contains a read without a handler call.  (b) If the reply of an activating
message (SET_VRING_ENABLE 1, or SET_VRING_KICK with a descriptor) is sent at `k2 ≥ k1` and the ring is `Active d` from then
on, the kick is served after `k1`. -/
theorem retained_kick_delivered_after_enable (cfg : Cfg) (hL : cfg.fixLost = true) (hE : cfg.fixEagain = true)
    (x : Exec) (h0 : x.st 0 = init cfg) (hf : WeakFair x) (d : Evt) (k1 : Nat) (hkick : x.lbl k1 = .kick d) :
    (∀ j, k1 < j → 0 < (x.st j).cnt d ∨ ∃ i, k1 < i ∧ i < j ∧ ConsumedAt x i) ∧
    (∀ j, Ev.consumed false ∉ (x.st j).trace) ∧
    (∀ k2 m, k1 ≤ k2 → m.activates = true → EmitsAt x k2 (.reply m) → (∀ j, k2 < j → Active d (x.st j)) →
      Served x (k1 + 1)) := by
  have hok := x.ok k1
  rw [hkick] at hok
  obtain ⟨-, -, hp⟩ := kick_cnt hok
  refine ⟨?_, ?_, ?_⟩
  · intro j hj
    obtain ⟨n, rfl⟩ : ∃ n, j = k1 + 1 + n := ⟨j - (k1 + 1), by omega⟩
    rcases retained cfg hL x h0 d (k1 + 1) hp n with h | ⟨i, h1, h2, h3⟩
    · exact Or.inl h
    · exact Or.inr ⟨i, by omega, h2, h3⟩
  · intro j
    exact (no_lost_wakeup_repaired cfg hL hE (x.st j) (x.reach cfg h0 j)).1
  · intro k2 m hk2 _ _ hact
    exact kick_eventually_dispatched cfg hL hE x h0 hf d (k1 + 1) (k2 + 1) (by omega) hp (fun j hj => hact j (by omega))

/-- **3, with the activity derived instead of assumed.**  A guest kick on `d` at `k1`; the reply of SET_VRING_ENABLE(1) is
sent at `k2 ≥ k1`; at that moment the ring is started on descriptor `d`; no control message arrives afterwards.  Then the
ring is `Active d` for ever after the reply (`Lemmas.WorkerLive.active_after_enable_reply`) and the kick is served. -/
theorem retained_kick_delivered_after_enable_quiet (cfg : Cfg) (hL : cfg.fixLost = true) (hE : cfg.fixEagain = true)
    (x : Exec) (h0 : x.st 0 = init cfg) (hf : WeakFair x) (d : Evt) (k1 k2 : Nat) (hk : k1 ≤ k2)
    (hkick : x.lbl k1 = .kick d) (hreply : EmitsAt x k2 (.reply .enable))
    (hready : (x.st (k2 + 1)).ready = true) (hdesc : (x.st (k2 + 1)).kick = some d)
    (hs : ∀ j, k2 < j → ∀ m, x.lbl j ≠ .send m) : Served x (k1 + 1) := by
  have hok := x.ok k2
  rw [(step_emits hok hreply).1] at hok
  obtain ⟨hidle, _, hact⟩ := active_after_enable_reply (x.good cfg h0 k2).ctl hok hreply
  have hstable := active_stable x d (k2 + 1) (fun j hj => hs j (by omega))
    (control_idle x (k2 + 1) (fun j hj => hs j (by omega)) hidle) (hact hready d hdesc)
  exact (retained_kick_delivered_after_enable cfg hL hE x h0 hf d k1 hkick).2.2 k2 .enable hk rfl hreply
    (fun j hj => hstable j (by omega))

/-! ## constructing executions -/

/-- prepend one step -/
def Exec.cons (s : St) (l : Lbl) (x : Exec) (h : step s l = some (x.st 0)) : Exec where
  st := fun k => match k with | 0 => s | k + 1 => x.st k
  lbl := fun k => match k with | 0 => l | k + 1 => x.lbl k
  ok := by
    intro k
    cases k with
    | zero => exact h
    | succ k => exact x.ok k

theorem exists_prepend (ls : List Lbl) : ∀ (s0 : St) (x : Exec), run s0 ls = some (x.st 0) →
    ∃ y : Exec, y.st 0 = s0 ∧ (∀ k, y.st (ls.length + k) = x.st k) ∧ (∀ k, y.lbl (ls.length + k) = x.lbl k) ∧
      (∀ i, i < ls.length → some (y.lbl i) = ls[i]?) := by
  induction ls with
  | nil =>
    intro s0 x h
    simp only [run, Option.some.injEq] at h
    exact ⟨x, h.symm, by simp, by simp, by simp⟩
  | cons l ls ih =>
    intro s0 x h
    simp only [run] at h
    cases hst : step s0 l with
    | none => simp [hst] at h
    | some s1 =>
      simp only [hst] at h
      obtain ⟨y, h1, h2, h3, h4⟩ := ih s1 x h
      have hlen : ∀ k, (l :: ls).length + k = (ls.length + k) + 1 := fun k => by simp; omega
      refine ⟨Exec.cons s0 l y (by rw [h1]; exact hst), rfl, fun k => ?_, fun k => ?_, ?_⟩
      · rw [hlen]; exact h2 k
      · rw [hlen]; exact h3 k
      · intro i hi
        cases i with
        | zero => simp [Exec.cons]
        | succ i =>
          have := h4 i (by simpa using hi)
          simpa [Exec.cons] using this

theorem pre_eq_take (y : Exec) (ls : List Lbl) (h : ∀ i, i < ls.length → some (y.lbl i) = ls[i]?) (i : Nat)
    (hi : i ≤ ls.length) : y.pre i = ls.take i := by
  apply List.ext_getElem?
  intro n
  simp only [Exec.pre, List.getElem?_map, List.getElem?_take]
  by_cases hn : n < i
  · simp only [hn, if_true]
    have := h n (by omega)
    rw [← this]; simp [hn]
  · simp [hn]

theorem run_map_eq {α : Type} {s t : St} {ls : List Lbl} {f : St → α} {v : α} (hr : run s ls = some t)
    (h : (run s ls).map f = some v) : f t = v := by
  rw [hr] at h; simpa using h

/-- a finite schedule that leaves the worker waiting with nothing pending, then the worker's step for ever; the last clause
transfers what a prefix evaluates to (`decide`) to the execution's state at that position -/
theorem exists_lasso (s0 : St) (ls : List Lbl)
    (h : (run s0 ls).map (fun s => (s.wpc, s.next, s.cnt 0)) = some (.wait, 1, 0)) :
    ∃ y : Exec, y.st 0 = s0 ∧ WeakFair y ∧ (∀ j, ls.length ≤ j → y.st j = y.st ls.length ∧ y.lbl j = .w) ∧
      (∀ i, i < ls.length → some (y.lbl i) = ls[i]?) ∧
      (∀ i, i ≤ ls.length → ∀ {α : Type} (f : St → α) (v : α), (run s0 (ls.take i)).map f = some v → f (y.st i) = v) := by
  cases hr : run s0 ls with
  | none => rw [hr] at h; cases h
  | some sF =>
    have hF := run_map_eq hr h
    simp only [Prod.mk.injEq] at hF
    have hloop := w_stay hF.1 (show readyAny sF = false by simp [readyAny, hF.2.1, List.range_succ, hF.2.2])
    obtain ⟨y, h1, h2, h3, h4⟩ := exists_prepend ls s0 ⟨fun _ => sF, fun _ => .w, fun _ => hloop⟩ hr
    have hc : ∀ j, ls.length ≤ j → y.st j = y.st ls.length ∧ y.lbl j = .w := by
      intro j hj
      obtain ⟨n, rfl⟩ : ∃ n, j = ls.length + n := ⟨j - ls.length, by omega⟩
      exact ⟨(h2 n).trans (h2 0).symm, h3 n⟩
    refine ⟨y, h1, fun k _ => ⟨max k ls.length, Nat.le_max_left _ _, (hc _ (Nat.le_max_right _ _)).2⟩, hc, h4, ?_⟩
    intro i hi α f v hv
    refine run_map_eq ?_ hv
    rw [← pre_eq_take y ls h4 i hi, ← h1]
    exact y.run_pre i

/-! ## 4a. without fairness for the worker -/

/-- one more guest kick on descriptor 0 -/
def kickSt (s : St) : St := emit { s with cnt := upd s.cnt 0 (s.cnt 0 + 1) } (.kick 0)

def unfairSt : Nat → St
  | 0 => init Cfg.repaired
  | k + 1 => kickSt (unfairSt k)

/-- the guest kicks for ever and the worker is never scheduled -/
def unfairExec : Exec := ⟨unfairSt, fun _ => .kick 0, fun _ => rfl⟩

/-- **4a.**  Without fairness for the worker the conclusion of 1 fails, in the repaired configuration, with every other
hypothesis in force: a kick is pending from position 1 on, the ring is `Active 0` at every position, the worker's step is
enabled at every position — and never taken; the handler is never entered. -/
theorem unfair_counterexample :
    unfairExec.st 0 = init Cfg.repaired ∧
    (∀ k, 0 < (unfairExec.st (k + 1)).cnt 0) ∧ (∀ k, Active 0 (unfairExec.st k)) ∧
    (∀ k, WorkerEnabled (unfairExec.st k)) ∧ (∀ k, unfairExec.lbl k ≠ .w) ∧
    ¬ WeakFair unfairExec ∧
    (∀ j, ¬ DispatchAt unfairExec j) ∧ (∀ k, ¬ Served unfairExec k) := by
  have hfr : ∀ k, Active 0 (unfairSt k) ∧ (unfairSt k).wpc = .wait := by
    intro k
    induction k with
    | zero => simp [unfairSt, Active, init]
    | succ k ih => simpa [unfairSt, kickSt, emit, Active] using ih
  have hen : ∀ k, WorkerEnabled (unfairExec.st k) := fun k => (w_enabled_iff _).2 (by
    show (unfairSt k).wpc ≠ .dead
    rw [(hfr k).2]; simp)
  have hnd : ∀ j, ¬ DispatchAt unfairExec j := fun j h => by
    have := ((dispatchAt_iff _ j).1 h).1
    simp [unfairExec] at this
  refine ⟨rfl, ?_, fun k => (hfr k).1, hen, fun k => by simp [unfairExec], ?_, hnd, ?_⟩
  · intro k; simp [unfairExec, unfairSt, kickSt, emit, upd]
  · intro hf
    obtain ⟨j, _, hj⟩ := hf 0 (fun j _ => hen j)
    simp [unfairExec] at hj
  · rintro k ⟨i, j, _, _, _, hd⟩
    exact hnd j hd

/-! ## 4b. the pinned configuration loses the kick that arrives while the ring is disabled -/

/-- worker woken by a first kick · SET_VRING_ENABLE(0) handled and answered · **a kick arrives (position 6)** · the worker
serves its stale wake-up: ready-check, `read_kick` consumes the counter and only then sees `enabled = false` ·
SET_VRING_ENABLE(1) handled and answered (position 12) -/
def schedRetLost : List Lbl :=
  [.kick 0, .w, .send .disable, .c, .c, .c, .kick 0, .w, .w, .send .enable, .c, .c, .c]

/-- the state of the pinned code after the stale read: every counter is 0, the worker waits, a wake-up has been consumed
without a handler call and the handler has not been entered -/
theorem pinned_lost_state : ∃ s, run (init Cfg.pinned) (schedRetLost.take 9) = some s ∧ Drained s ∧
    s.trace = [.kick 0, .start .disable, .reply .disable, .kick 0, .consumed false] := by
  have hd : (run (init Cfg.pinned) (schedRetLost.take 9)).map (fun s => (s.cnt 0, s.wpc, s.trace)) =
      some (0, .wait, [.kick 0, .start .disable, .reply .disable, .kick 0, .consumed false]) := by decide
  cases hr : run (init Cfg.pinned) (schedRetLost.take 9) with
  | none => rw [hr] at hd; simp at hd
  | some s =>
    have h := run_map_eq hr hd
    simp only [Prod.mk.injEq] at h
    refine ⟨s, rfl, ⟨?_, h.2.1⟩, h.2.2⟩
    intro d
    by_cases hd0 : d = 0
    · subst hd0; exact h.1
    · have := isRun.inv_on (P := fun t => t.cnt d ≤ (init Cfg.pinned).cnt d) (L := (· ≠ .kick d))
        (ls := schedRetLost.take 9) (fun _ _ _ hl h hst => Nat.le_trans (cnt_noninc d hst hl) h) (by
          rintro l hl rfl
          simp [schedRetLost] at hl
          exact hd0 hl) (Nat.le_refl _) hr
      simpa [init] using this

/-- **4b, every continuation.**  Pinned configuration.  After the prefix (a kick that arrived after the reply of
SET_VRING_ENABLE(0) has been consumed by the stale wake-up) **no** continuation without a new guest kick — whatever the
control thread does (enable, restart, …), however often the worker runs — ever enters the handler: the counters are 0 and
stay 0.  The kick is lost for good; only a *new* kick can cause a handler call. -/
theorem pinned_no_dispatch_without_new_kick :
    ∃ s, run (init Cfg.pinned) (schedRetLost.take 9) = some s ∧ Ev.consumed false ∈ s.trace ∧ Ev.dispatch ∉ s.trace ∧
      ∀ (ls : List Lbl) (s' : St), (∀ l, l ∈ ls → ∀ d, l ≠ .kick d) → run s ls = some s' →
        Ev.dispatch ∉ s'.trace ∧ ∀ d, s'.cnt d = 0 := by
  obtain ⟨s, hr, hd, ht⟩ := pinned_lost_state
  refine ⟨s, hr, by simp [ht], by simp [ht], ?_⟩
  intro ls s' hl hr'
  obtain ⟨h1, h2⟩ := isRun.inv_on (P := fun t => Drained t ∧ (Ev.dispatch ∈ t.trace → Ev.dispatch ∈ s.trace))
    (fun _ _ _ hl ⟨h1, h2⟩ hst => (drained_step h1 hl hst).imp_right fun h hm => h2 (h hm)) hl ⟨hd, id⟩ hr'
  exact ⟨fun hm => by have := h2 hm; simp [ht] at this, h1.1⟩

/-- **4b, a fair execution.**  Pinned configuration (`fixLost = false`): statement 3 fails even under fairness.  There
is an execution from `init Cfg.pinned`, weakly fair to the worker (which stays alive and runs for ever), in which a guest
kick arrives at position 6 — after the reply of SET_VRING_ENABLE(0): the ring is disabled and its descriptor unregistered —
is *not* retained (position 9: counter 0, `consumed false` in the history), the reply of SET_VRING_ENABLE(1) is sent at
position 12, the ring is `Active 0` at every later position, and the handler is never entered. -/
theorem pinned_retained_kick_lost : ∃ x : Exec,
    x.st 0 = init Cfg.pinned ∧ WeakFair x ∧ (∀ k, (x.st k).wpc ≠ .dead) ∧ (∀ k, 13 ≤ k → x.lbl k = .w) ∧
    (x.lbl 6 = .kick 0 ∧ (x.st 6).enabled = false ∧ (x.st 6).reg 0 = false ∧
      (x.st 6).trace = [.kick 0, .start .disable, .reply .disable]) ∧
    ((x.st 9).cnt 0 = 0 ∧ Ev.consumed false ∈ (x.st 9).trace) ∧
    EmitsAt x 12 (.reply .enable) ∧ (∀ j, 12 < j → Active 0 (x.st j)) ∧
    (∀ j, Ev.dispatch ∉ (x.st j).trace) ∧ (∀ j, ¬ DispatchAt x j) ∧ (∀ k, ¬ Served x k) := by
  obtain ⟨x, h0, hfair, hconst, hlbl, hat⟩ := exists_lasso (init Cfg.pinned) schedRetLost (by decide)
  have e6 := hat 6 (by decide) (fun s => (s.enabled, s.reg 0, s.trace))
    (false, false, [.kick 0, .start .disable, .reply .disable]) (by decide)
  have e9 := hat 9 (by decide) (fun s => (s.cnt 0, s.trace))
    (0, [.kick 0, .start .disable, .reply .disable, .kick 0, .consumed false]) (by decide)
  have e12 := hat 12 (by decide) (fun s => s.trace)
    [.kick 0, .start .disable, .reply .disable, .kick 0, .consumed false, .start .enable] (by decide)
  -- the state after the whole prefix
  have eF := hat 13 (by decide) (fun s => (s.wpc, s.ready, s.enabled, s.kick)) (.wait, true, true, some 0) (by decide)
  have eF' := hat 13 (by decide) (fun s => (s.reg 0, s.trace))
    (true, [.kick 0, .start .disable, .reply .disable, .kick 0, .consumed false, .start .enable, .reply .enable])
    (by decide)
  simp only [Prod.mk.injEq] at e6 e9 eF eF'
  obtain ⟨hwpc, hready, hen, hkick⟩ := eF
  obtain ⟨hreg, htrace⟩ := eF'
  have hF : ∀ j, 13 ≤ j → x.st j = x.st 13 := fun j hj => (hconst j hj).1
  have hnd : ∀ j, Ev.dispatch ∉ (x.st j).trace := by
    intro j hm
    have : Ev.dispatch ∈ (x.st (max j 13)).trace := x.mem_trace_mono (Nat.le_max_left _ _) hm
    rw [hF _ (Nat.le_max_right _ _), htrace] at this
    simp at this
  refine ⟨x, h0, hfair, ?_, fun k hk => (hconst k hk).2, ⟨?_, e6.1, e6.2.1, e6.2.2⟩,
    ⟨e9.1, by rw [e9.2]; simp⟩, ?_, ?_, hnd, (never_served hnd).1, (never_served hnd).2⟩
  · intro k hdead
    -- a dead worker stays dead, but the final state is alive
    have hstay : ∀ j, k ≤ j → (x.st j).wpc = .dead := from_on hdead fun j _ ih => by
      by_cases hl : x.lbl j = .w
      · have := x.ok j; rw [hl] at this; simp [step, wStep, ih] at this
      · rw [(other_frame (x.ok j) hl).1]; exact ih
    have := hstay (k + 13) (Nat.le_add_right _ _)
    rw [hF _ (Nat.le_add_left _ _), hwpc] at this
    cases this
  · simpa [schedRetLost] using hlbl 6 (by decide)
  · show (x.st 13).trace = (x.st 12).trace ++ [Ev.reply .enable]
    rw [htrace, e12]; rfl
  · intro j hj
    rw [hF j hj]
    exact ⟨hready, hen, hkick, hreg⟩

/-! ## why persistence: SET_VRING_ENABLE 0 / 1 for ever -/

/-- one period: SET_VRING_ENABLE(0) handled and answered · one worker step · SET_VRING_ENABLE(1) handled and answered -/
def flapLbl (p : Nat) : Lbl :=
  match p with
  | 0 => .send .disable
  | 4 => .w
  | 5 => .send .enable
  | _ => .c

def flapSched (k : Nat) : Lbl := flapLbl (k % 9)

/-- the states of the flapping execution, by position in the period -/
def FlapInv (p : Nat) (s : St) : Prop :=
  (s.wpc = .wait ∧ s.kick = some 0 ∧ s.ready = true ∧ s.next = 1 ∧ 0 < s.cnt 0 ∧ Ev.dispatch ∉ s.trace) ∧
  match p with
  | 0 => s.cpc = .idle ∧ s.enabled = true ∧ s.reg 0 = true
  | 1 => s.cpc = .inMsg .disable 0
  | 2 => s.cpc = .inMsg .disable 1 ∧ s.enabled = false
  | 3 => s.cpc = .inMsg .disable 2 ∧ s.enabled = false ∧ s.reg 0 = false
  | 4 => s.cpc = .idle ∧ s.enabled = false ∧ s.reg 0 = false
  | 5 => s.cpc = .idle
  | 6 => s.cpc = .inMsg .enable 0
  | 7 => s.cpc = .inMsg .enable 1 ∧ s.enabled = true
  | _ => s.cpc = .inMsg .enable 2 ∧ s.enabled = true ∧ s.reg 0 = true

theorem flap_step (p : Nat) (hp : p < 9) (s : St) (h : FlapInv p s) :
    ∃ s', step s (flapLbl p) = some s' ∧ FlapInv ((p + 1) % 9) s' := by
  obtain ⟨⟨h1, h2, h3, h4, h5, h6⟩, hph⟩ := h
  have h6' : ∀ {e : Ev}, e ≠ .dispatch → Ev.dispatch ∉ s.trace ++ [e] := fun he hm =>
    (List.mem_append.1 hm).elim h6 fun hm => he (List.mem_singleton.1 hm).symm
  have hreg := epollUpdate_reg_kick s 0 h2
  match p, hp with
  | 0, _ => exact ⟨_, send_step .disable hph.1, ⟨h1, h2, h3, h4, h5, h6' nofun⟩, rfl⟩
  | 1, _ => exact ⟨_, c_step hph (.disable rfl), ⟨h1, h2, h3, h4, h5, h6⟩, rfl, rfl⟩
  | 2, _ => exact ⟨_, c_step hph.1 .epoll, ⟨h1, h2, h3, h4, h5, h6⟩, rfl, hph.2, by rw [hreg, hph.2, Bool.and_false]⟩
  | 3, _ => exact ⟨_, c_step hph.1 .reply, ⟨h1, h2, h3, h4, h5, h6' nofun⟩, rfl, hph.2⟩
  | 4, _ =>
    have hra : readyAny s = false := by simp [readyAny, h4, List.range_succ, hph.2.2]
    exact ⟨s, w_stay h1 hra, ⟨h1, h2, h3, h4, h5, h6⟩, hph.1⟩
  | 5, _ => exact ⟨_, send_step .enable hph, ⟨h1, h2, h3, h4, h5, h6' nofun⟩, rfl⟩
  | 6, _ => exact ⟨_, c_step hph .enable, ⟨h1, h2, h3, h4, h5, h6⟩, rfl, rfl⟩
  | 7, _ => exact ⟨_, c_step hph.1 .epoll, ⟨h1, h2, h3, h4, h5, h6⟩, rfl, hph.2, by rw [hreg, h3, hph.2]; rfl⟩
  | 8, _ => exact ⟨_, c_step hph.1 .reply, ⟨h1, h2, h3, h4, h5, h6' nofun⟩, rfl, hph.2⟩

/-- the states, by iterating `step` along `flapSched` from the initial state with one kick pending -/
def flapSt : Nat → St
  | 0 => kickSt (init Cfg.repaired)
  | k + 1 => (step (flapSt k) (flapSched k)).getD (flapSt k)

theorem flap_inv (k : Nat) : FlapInv (k % 9) (flapSt k) ∧ step (flapSt k) (flapSched k) = some (flapSt (k + 1)) := by
  have hstep : ∀ k, FlapInv (k % 9) (flapSt k) →
      FlapInv ((k + 1) % 9) (flapSt (k + 1)) ∧ step (flapSt k) (flapSched k) = some (flapSt (k + 1)) := by
    intro k hk
    obtain ⟨s', h1, h2⟩ := flap_step (k % 9) (Nat.mod_lt _ (by omega)) _ hk
    have he : flapSt (k + 1) = s' := by
      show (step (flapSt k) (flapSched k)).getD (flapSt k) = s'
      simp [flapSched, h1]
    have hm : (k % 9 + 1) % 9 = (k + 1) % 9 := by omega
    rw [he]
    exact ⟨hm ▸ h2, h1⟩
  have hall : ∀ k, FlapInv (k % 9) (flapSt k) := by
    intro k
    induction k with
    | zero => simp [FlapInv, flapSt, kickSt, init, emit, upd]
    | succ k ih => exact (hstep k ih).1
  exact ⟨hall k, (hstep k (hall k)).2⟩

def flapExec : Exec := Exec.cons (init Cfg.repaired) (.kick 0) ⟨flapSt, flapSched, fun k => (flap_inv k).2⟩ rfl

/-- **Persistence of `Active` cannot be weakened to "infinitely often".**  Repaired configuration.  One guest kick
(position 0), pending for ever; the control thread alternates SET_VRING_ENABLE 0 / SET_VRING_ENABLE 1 for ever, every
message handled to its reply (the control thread is idle infinitely often); the worker steps infinitely often (weakly, and
strongly, fair); the ring is `Active 0` infinitely often — and the handler is never entered: the worker's turn always comes
while the ring is disabled and unregistered, so `epoll.wait` blocks.  Hence some bound on control interference is needed
(here: `Active d` from some position on — or finitely many messages, `kick_eventually_dispatched_finite_control`). -/
theorem flapping_counterexample :
    flapExec.st 0 = init Cfg.repaired ∧ flapExec.lbl 0 = .kick 0 ∧
    WeakFair flapExec ∧ (∀ k, ∃ j, k ≤ j ∧ flapExec.lbl j = .w) ∧
    (∀ k, 0 < (flapExec.st (k + 1)).cnt 0) ∧
    (∀ k, ∃ j, k ≤ j ∧ Active 0 (flapExec.st j)) ∧
    (∀ k, ∃ j, k ≤ j ∧ (flapExec.st j).cpc = .idle) ∧
    (∀ j, Ev.dispatch ∉ (flapExec.st j).trace) ∧ (∀ j, ¬ DispatchAt flapExec j) ∧ (∀ k, ¬ Served flapExec k) := by
  have hw : ∀ k, ∃ j, k ≤ j ∧ flapExec.lbl j = .w := by
    intro k
    refine ⟨(9 * k + 4) + 1, by omega, ?_⟩
    show flapSched (9 * k + 4) = .w
    have : (9 * k + 4) % 9 = 4 := by omega
    simp [flapSched, this, flapLbl]
  have hst : ∀ k, flapExec.st (k + 1) = flapSt k := fun _ => rfl
  have h0 : ∀ k, FlapInv 0 (flapSt (9 * k)) := by
    intro k
    have := (flap_inv (9 * k)).1
    have hm : (9 * k) % 9 = 0 := by omega
    rw [hm] at this; exact this
  have hnd : ∀ j, Ev.dispatch ∉ (flapExec.st j).trace := by
    intro j
    cases j with
    | zero => show Ev.dispatch ∉ (init Cfg.repaired).trace; simp [init]
    | succ j => obtain ⟨⟨⟨-, -, -, -, -, h6⟩, -⟩, -⟩ := flap_inv j; exact h6
  refine ⟨rfl, rfl, fun k _ => hw k, hw, ?_, ?_, ?_, hnd, (never_served hnd).1, (never_served hnd).2⟩
  · intro k; obtain ⟨⟨⟨-, -, -, -, h5, -⟩, -⟩, -⟩ := flap_inv k; exact h5
  · intro k
    refine ⟨9 * k + 1, by omega, ?_⟩
    rw [hst]
    obtain ⟨⟨_, a2, a3, _⟩, _, b2, b3⟩ := h0 k
    exact ⟨a3, b2, a2, b3⟩
  · intro k
    refine ⟨9 * k + 1, by omega, ?_⟩
    rw [hst]
    exact (h0 k).2.1

/-! ## the hypotheses are satisfiable -/

/-- SET_VRING_ENABLE(0) answered · **kick (position 4)** · SET_VRING_ENABLE(1) answered (position 8) · the worker runs -/
def schedServed : List Lbl := [.send .disable, .c, .c, .c, .kick 0, .send .enable, .c, .c, .c, .w, .w, .w, .w]

/-- An execution that satisfies the hypotheses of `retained_kick_delivered_after_enable_quiet` (hence, by its proof, those
of `retained_kick_delivered_after_enable` and of `kick_eventually_dispatched` with `k1 = 5`, `k0 = 9`): repaired
configuration, weakly fair, a kick at position 4 while the ring is disabled and unregistered, the reply of
SET_VRING_ENABLE(1) at position 8, the ring started on descriptor 0, no message afterwards; and the history it produces
(the kick is read and the handler entered after the enable). -/
example : ∃ x : Exec, x.st 0 = init Cfg.repaired ∧ WeakFair x ∧
    x.lbl 4 = .kick 0 ∧ (x.st 4).enabled = false ∧ (x.st 4).reg 0 = false ∧
    EmitsAt x 8 (.reply .enable) ∧ (x.st 9).ready = true ∧ (x.st 9).kick = some 0 ∧
    (∀ j, 8 < j → ∀ m, x.lbl j ≠ .send m) ∧
    0 < (x.st 5).cnt 0 ∧ (∀ j, 9 ≤ j → Active 0 (x.st j)) ∧ Served x 5 ∧
    (x.st 13).trace = [.start .disable, .reply .disable, .kick 0, .start .enable, .reply .enable, .consumed true,
      .dispatch] := by
  obtain ⟨x, h0, hfair, hconst, hlbl, hat⟩ := exists_lasso (init Cfg.repaired) schedServed (by decide)
  have e4 := hat 4 (by decide) (fun s => (s.enabled, s.reg 0)) (false, false) (by decide)
  have e5 := hat 5 (by decide) (fun s => s.cnt 0) 1 (by decide)
  have e8 := hat 8 (by decide) (fun s => s.trace) [.start .disable, .reply .disable, .kick 0, .start .enable] (by decide)
  have e9 := hat 9 (by decide) (fun s => (s.ready, s.enabled, s.kick, s.reg 0, s.trace))
    (true, true, some 0, true, [.start .disable, .reply .disable, .kick 0, .start .enable, .reply .enable]) (by decide)
  simp only [Prod.mk.injEq] at e4 e9
  obtain ⟨hready, hen, hkick, hreg, htrace⟩ := e9
  have hl4 : x.lbl 4 = .kick 0 := by simpa [schedServed] using hlbl 4 (by decide)
  have hreply : EmitsAt x 8 (.reply .enable) := by
    show (x.st 9).trace = (x.st 8).trace ++ [Ev.reply .enable]
    rw [htrace, e8]; rfl
  have hlate : ∀ j, 8 < j → x.lbl j = .w := by
    intro j hj
    by_cases h13 : 13 ≤ j
    · exact (hconst j h13).2
    · have := hlbl j (Nat.lt_of_not_le h13)
      have hj' : j = 9 ∨ j = 10 ∨ j = 11 ∨ j = 12 := by omega
      rcases hj' with rfl | rfl | rfl | rfl <;> simpa [schedServed] using this
  have hquiet : ∀ j, 8 < j → ∀ m, x.lbl j ≠ .send m := fun j hj m => by rw [hlate j hj]; nofun
  have hact : ∀ j, 9 ≤ j → Active 0 (x.st j) :=
    active_stable x 0 9 (fun j hj => hquiet j (by omega)) (fun j hj => by rw [hlate j (by omega)]; nofun)
      ⟨hready, hen, hkick, hreg⟩
  exact ⟨x, h0, hfair, hl4, e4.1, e4.2, hreply, hready, hkick, hquiet, by rw [e5]; decide, hact,
    retained_kick_delivered_after_enable_quiet Cfg.repaired rfl rfl x h0 hfair 0 4 8 (by omega) hl4 hreply hready hkick
      hquiet,
    hat 13 (by decide) (fun s => s.trace) _ (by decide)⟩

end Props.C12Live
