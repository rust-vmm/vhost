import VhostModel.Lemmas.BackendSrv
import VhostModel.Props.C01
/-!
# C04 — the backend emits exactly the replies the protocol prescribes; peers stay in step

Proved over `Model.BackendSrv` (tied to `backend_req_handler.rs` by the `srv` correspondence family),
for every state, header, body, descriptor list and handler script:
* `step_inv` — one `handle_request` keeps: the "REPLY_ACK in force" flag equals (PROTOCOL_FEATURES offered ∧
  REPLY_ACK acknowledged); it holds initially (`inv_init`);
* `replyHdr_shape` — whatever an arm writes starts with a 12-byte header carrying the
  request's code, flags = version 1 | REPLY (NEED_REPLY clear) and size = length of what follows;
* `ack_iff` — an acknowledgement is written iff the flag is set and the request carries NEED_REPLY, and
  its value is 0 iff the handler succeeded.
That every reply is byte for byte what `Spec.Proto.owed` prescribes is `Props.C04Owed.reply_as_owed`; the spec driver
checks the same on each observed reply (family `srv`).
-/
namespace Props.C04
open Base Model.Stream Model.BackendSrv Lemmas.BackendSrv

def Inv (st : BSt) : Prop := st.replyAck = (bitSet st.virtio 30 && bitSet st.ackedProto 3)

theorem inv_init : Inv {} := by simp [Inv, bitSet]

theorem updateFlag_inv (st : BSt) : Inv st.updateFlag := by simp [Inv, BSt.updateFlag]

theorem runAct_inv (st : BSt) (c : Ctx) (h : HOut) (act : Act) (hi : Inv st) : Inv (runAct st c h act).st := by
  rw [runAct_st]
  cases act with
  | getFeatures | getProtocolFeatures =>
    dsimp only
    split
    · exact updateFlag_inv _
    · exact hi
  | setFeatures | setProtocolFeatures => exact updateFlag_inv _
  | _ => exact hi

theorem dispatch_inv (st : BSt) (hdr : Hdr) (buf : Bytes) (files : Option (List Fd)) (h : HOut) (hi : Inv st) :
    Inv (dispatch st hdr buf files h).st :=
  dispatch_cases (P := fun o => Inv o.st) st hdr buf files h (fun _ => hi) fun a _ _ _ => runAct_inv st _ h a.act hi

/-- over any stream, segmentation and handler script, one `handle_request` keeps the invariant -/
theorem step_inv {σ : Type} (ch : Chooser σ) (cl : Bool) (st : BSt) (cst : σ) (s : List Cell) (h : HOut) (hi : Inv st) :
    Inv (step ch cl st cst s h).o.st :=
  step_cases (P := fun r => Inv r.o.st) ch cl st cst s h (fun _ => hi) (fun _ _ => hi) hi
    (fun _ ho _ => ho ▸ dispatch_inv _ _ _ _ _ hi) (fun _ ho _ _ => ho ▸ dispatch_inv _ _ _ _ _ hi)

/-- the acknowledgement written for a request without a defined reply -/
theorem ack_iff (st : BSt) (hdr : Hdr) (ok : Bool) :
    (ackOf st hdr ok ≠ [] ↔ (st.replyAck = true ∧ hdr.needReply = true)) ∧
    (ackOf st hdr ok ≠ [] → ackOf st hdr ok = replyHdr hdr 8 ++ leBytes 8 (if ok then 0 else 1)) := by
  unfold ackOf
  have hne := replyHdr_ne_nil hdr 8 (leBytes 8 (if ok = true then 0 else 1))
  by_cases h : (st.replyAck && hdr.needReply) = true
  · rw [if_pos h]
    simp only [Bool.and_eq_true] at h
    exact ⟨⟨fun _ => h, fun _ => hne⟩, fun _ => rfl⟩
  · rw [if_neg h]
    simp only [Bool.and_eq_true] at h
    exact ⟨⟨fun hh => absurd rfl hh, fun hh => absurd hh h⟩, fun hh => absurd rfl hh⟩

/-- header of everything the server writes: request's code, flags 5 (version 1 | REPLY, NEED_REPLY clear), declared size -/
theorem replyHdr_shape (hdr : Hdr) (n : Nat) (hn : n < 2^32) (hc : hdr.code < 2^32) :
    (replyHdr hdr n).length = 12 ∧ leVal ((replyHdr hdr n).take 4) = hdr.code ∧
    leVal (((replyHdr hdr n).drop 4).take 4) = 5 ∧ leVal (((replyHdr hdr n).drop 8).take 4) = n := by
  exact Props.C01.encHdr_fields hdr.code (hdrNewFlags 4) n hc (by decide) hn

example : Inv ({ virtio := 0x40000000, ackedProto := 8 } : BSt).updateFlag := updateFlag_inv _
example : (dispatch ({ virtio := 0x40000000, ackedProto := 8 } : BSt).updateFlag ⟨3, 9, 0⟩ [] none {}).out =
    replyHdr ⟨3, 9, 0⟩ 8 ++ leBytes 8 0 := by decide +kernel

end Props.C04
