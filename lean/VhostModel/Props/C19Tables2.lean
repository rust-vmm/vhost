import VhostModel.Props.C19Tables
/-!
# C19, tables: what else the generated tables say

No operation of the UAPI map is missing, wrappers fit directions, binding layouts and constants are the UAPI's, the source still
initialises arguments as `Model.Kern` assumes, the `layout:` and `request:` scenarios.  Rests on the joins of `Props/C19Tables.lean`.
-/
namespace Props.C19
open Base Base.K Gen.Ioctl Model.Kern Lemmas.Kern

/-- the converse of `op_issues_uapi_ioctl`: no operation of the UAPI map is missing from the source -/
theorem every_uapi_operation_is_issued :
    ∀ kv ∈ Spec.Uapi.opTable, ∃ o ∈ ops, o.scope ++ "." ++ o.method = kv.1 ∧ o.request = kv.2 := by
  -- the UAPI map lists the operations in the order of the source: compared row by row, not by lookup
  have h : Spec.Uapi.opTable = ops.map fun o => (o.scope ++ "." ++ o.method, o.request) := by decide +kernel
  intro kv hkv
  obtain ⟨o, ho, rfl⟩ := List.mem_map.1 (h ▸ hkv)
  exact ⟨o, ho, rfl, rfl⟩

/-- requests without argument go through `ioctl()`, requests the kernel writes to go through a mutable reference / pointer -/
theorem op_wrapper_fits_direction :
    ∀ o ∈ ops, ∃ u ∈ Spec.Uapi.ioctls, u.name = o.request ∧
      (u.dir = Spec.Uapi.IOC_NONE ↔ o.wrapper = "ioctl") ∧
      (u.dir / 2 = 1 → o.wrapper = "ioctl_with_mut_ref" ∨ o.wrapper = "ioctl_with_ptr") := by
  intro o ho
  obtain ⟨-, r, hr, hw0, hw1⟩ := ops_joined o ho
  obtain ⟨u, hu, hd, -⟩ := table_rows_are_uapi r (List.mem_of_find?_eq_some hr)
  refine ⟨u, List.mem_of_find?_eq_some hu, ?_, ?_, ?_⟩
  · exact (by simpa using List.find?_some hu : u.name = r.name).trans (by simpa using List.find?_some hr)
  -- `u.dir = dirOf r.kind`: what is left speaks of the four kinds only
  · rw [hd, ← hw0]; cases r.kind <;> decide
  · rw [hd]; intro h; apply hw1; revert h; cases r.kind <;> decide

/-- size, alignment and every member offset/width of every UAPI struct, computed from the binding's `#[repr(C)]`
    definitions by the C layout algorithm -/
theorem binding_layouts_match_uapi :
    ∀ sl ∈ Spec.Uapi.layouts,
      (layoutOf sl.1).map (fun l => (l.size, l.align)) = some (sl.2.size, sl.2.align) ∧
      ∀ f ∈ sl.2.fields, leafAt sl.1 (Spec.Uapi.bindingPath sl.1 f.1) = some (f.2.1, f.2.2) := by
  decide +kernel

theorem binding_consts_match_uapi :
    ∀ nv ∈ Spec.Uapi.constTable, constOf (if nv.1 == "VHOST_VIRTIO" then "VHOST" else nv.1) = some nv.2 := by
  decide +kernel

/-- the source still initialises every ioctl argument the way the hand-written model assumes -/
theorem ops_as_modelled :
    ops.map (fun o => (o.scope, o.method, o.wrapper, o.fd, o.arg, o.inits)) = modelledOps ∧
    modelledLits.all (fun l => lits.contains l) = true ∧ delegates = modelledDelegates ∧
    iotlbWriter.map (fun b => (b.cond, b.struct, b.writeArgs)) = modelledWriter := by
  refine ⟨by rfl, by decide +kernel, by rfl, by rfl⟩

/-- scenario with default environment (used for the operations that take no arguments) -/
def inp0 (op : String) : Inp := { be := "none", op, a := [], buf := [], mem := [], feat := 0, wb := [], rc := 0 }

/-- the layout the model computes for every binding struct is accepted by the Spec's layout comparison
    (size, alignment, offset of every UAPI member), i.e. what `kern be=none op=layout:<struct>` checks on rustc's layout -/
theorem layout_scenarios_meet_uapi :
    ∀ s ∈ structs.map (·.name), ∃ o, run (inp0 ("layout:" ++ s)) = some o ∧ Spec.Uapi.problem (inp0 ("layout:" ++ s)) o = none := by
  decide +kernel

/-- only the string tests of the `request:` dispatch are evaluated per name (cutting the name off is `drop_prefix`); the
    lookups are compared once, in `table_rows_are_uapi` -/
theorem request_strings : ∀ r ∈ table, ("request:" ++ r.name == "parse_v1") = false ∧ ("request:" ++ r.name == "parse_v2") = false ∧
    ("request:" ++ r.name).startsWith "layout:" = false ∧ ("request:" ++ r.name).startsWith "request:" = true := by
  decide +kernel

/-- … and the request number the model computes for every `ioctl_io*_nr!` item is the UAPI's -/
theorem request_scenarios_meet_uapi :
    ∀ r ∈ table, ∃ o, run (inp0 ("request:" ++ r.name)) = some o ∧ Spec.Uapi.problem (inp0 ("request:" ++ r.name)) o = none := by
  intro r hr
  obtain ⟨h1, h2, h3, h4⟩ := request_strings r hr
  have h5 : (("request:" ++ r.name).drop 8).toString = r.name := drop_prefix "request:" r.name
  have hrun : run (inp0 ("request:" ++ r.name)) =
      ((rowByName r.name).bind requestOfRow).map (fun v => ⟨[], .okv v, none⟩) := by
    unfold run
    rw [show (inp0 ("request:" ++ r.name)).op = "request:" ++ r.name from rfl, h1, h2, h3, h4, h5]
    rfl
  have hexp : Spec.Uapi.expect (inp0 ("request:" ++ r.name)) = .request r.name := by
    unfold Spec.Uapi.expect
    rw [show (inp0 ("request:" ++ r.name)).op = "request:" ++ r.name from rfl, h1, h2, h3, h4, h5]
    rfl
  cases hf : rowByName r.name with
  | none => exact absurd (List.find?_eq_none.1 hf r hr) (by simp)
  | some r' =>
    obtain ⟨u, hu, -, -, -, -, hq, hs⟩ := table_rows_are_uapi r' (List.mem_of_find?_eq_some hf)
    have hn : r'.name = r.name := by simpa using List.find?_some hf
    obtain ⟨v, hv⟩ := Option.isSome_iff_exists.1 hs
    refine ⟨⟨[], .okv v, none⟩, by rw [hrun, hf]; simp [hv], ?_⟩
    unfold Spec.Uapi.problem
    rw [hexp]
    simp [Spec.Uapi.requestNr, ← hn, show Spec.Uapi.ioctlByName r'.name = some u from hu, hq, hv]

end Props.C19
