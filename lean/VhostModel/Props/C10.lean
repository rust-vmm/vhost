import VhostModel.Spec.Locks
import VhostModel.Model.Locks
import VhostModel.Lemmas.Locks

/-!
# C10 — concurrent callers get their own replies: request/response pairs are atomic

`Model.Locks` is the transition system of N caller threads over one `Arc<Mutex<…Internal>>` endpoint
(`Frontend`, `Backend` proxy, `GpuBackend`), with the per-call steps `acquire · send · recv|skip ·
release` of the Rust methods and a peer that answers in arrival order.  All theorems are for every
configuration `c` (any number of callers, any mix of reply-bearing / acknowledged / fire-and-forget /
locally-rejected calls, REPLY_ACK on or off, any assignment of reply faults `bad` / `close` to callers) and every schedule, i.e. every label sequence `ls`
accepted by `step` from `init`.

* `pending_implies_holder` — state invariant: a request whose reply has not been consumed is on the
  wire ⇒ it is the only one, and its sender holds the lock;
* `transaction_atomic` — the history satisfies `Spec.Locks.Atomic`: between `req i` and the
  consumption of its reply no `req j` occurs;
* `own_reply` — every reply consumed is tagged with the consumer's own request, and every completed
  reply-reading call did consume one;
* `all_complete` — no deadlock (some label enabled while a caller is unfinished), the measure
  "remaining steps" strictly decreases with every step, hence every maximal run finishes all callers and
  no run is longer than `8·n` steps;
* `faulty_reply_releases_lock`, `faulty_call_returns_error` — a caller whose reply is faulty (refused by the reader,
  or end-of-file because the peer closed the socket) consumes it, returns an error and never a value, and its
  release frees the lock with nothing outstanding;
* `others_unaffected_by_faulty_reply` — atomicity and own-reply hold for everybody under any assignment of faults; a
  caller without a fault of its own gets its own reply and no error, unless it wrote nothing (local rejection, or a
  socket the peer had closed before);
* `model_fault_clauses` — Model ⊨ `Spec.Locks.FaultClauses` (a mistreated request ⇒ its caller gets an error; an
  answered one ⇒ its own reply; one the peer never saw ⇒ an error); `faultClausesB_sound` for the executable form;
* `relock_on_error_deadlocks` (+ `relock_reached_by_every_faulty_reply`) — the *mutated* rule `Cfg.relock` (the error
  path of the reply reader takes the endpoint lock again): every schedule that reaches it is stuck for good with the
  lock held; `no_deadlock` / `all_complete` are for the code's rule `relock = false`, the safety theorems for both;
* `scan_sound`, `ownReplyB_iff` — the executable judges used by the spec driver on the implementation's
  observed histories imply the declarative Spec clauses;
* `trace_is_projection` — the ghost history is exactly the projection of the schedule to its send/recv
  labels;
* `broken_variant_not_atomic`, `broken_variant_wrong_reply` — in the variant that drops the guard
  between send and receive a schedule violates atomicity, and one hands a caller another caller's reply.

The invariant (`Lemmas.Locks.Inv`: lock ⇔ program counters, at most one outstanding reply and it
belongs to the lock holder, consumed tags are own tags, the history is accepted by `Spec.Locks.scan`
with the outstanding caller as its state) and its preservation by each label, and the measure lemmas,
are in `Lemmas/Locks.lean`.

Assumed (DESIGN §6): `std::sync::Mutex` gives mutual exclusion; the socket is a FIFO per direction;
the peer produces a reply exactly for the requests whose caller reads one (a faulty reply has the size of the correct
one, so the reader consumes exactly it; a closing peer closes instead of that reply); fairness of the OS
scheduler for liveness ("every maximal run").
-/

namespace Props.C10
open Model.Locks Spec.Locks Lemmas.Locks

/-! ## the judges of `Spec.Locks` are sound -/

/-- A history accepted by the executable judge satisfies the declarative atomicity clause. -/
theorem scan_sound (ex : Nat → Bool) (o0 o : Option Nat) (tr : List Ev)
    (h : scan ex o0 tr = some o) : Atomic ex tr := by
  intro pre mid post i j htr hex
  subst htr
  rw [scan_append] at h
  cases h1 : scan ex o0 pre with
  | none => simp [h1] at h
  | some o1 =>
    simp only [h1, Option.bind_some] at h
    cases o1 with
    | some k => simp [scan, scanStep] at h
    | none =>
      simp only [scan, scanStep, hex, if_true] at h
      exact scan_open_mid ex i j mid post o h

theorem atomicB_sound (ex : Nat → Bool) (tr : List Ev) (h : atomicB ex tr = true) : Atomic ex tr := by
  unfold atomicB at h
  cases h1 : scan ex none tr with
  | none => simp [h1] at h
  | some o => exact scan_sound ex none o tr h1

theorem ownReplyB_iff (tr : List Ev) : ownReplyB tr = true ↔ OwnReply tr := by
  unfold ownReplyB OwnReply
  rw [List.all_eq_true]
  constructor
  · intro h i t hm
    have := h _ hm
    simpa using this
  · intro h e he
    cases e with
    | req i => rfl
    | rep i t => simpa using h i t he

example : atomicB (fun _ => true) [.req 0, .rep 0 0, .req 1, .rep 1 1] = true := by decide
example : atomicB (fun _ => true) [.req 0, .req 1, .rep 0 0, .rep 1 1] = false := by decide
example : ¬ Atomic (fun _ => true) [.req 0, .req 1] := by
  intro h
  obtain ⟨t, ht⟩ := h [] [] [] 0 1 rfl rfl
  simp at ht

/-! ## C10, clause 1: transactions are atomic -/

/-- State form: a reply that is owed or in flight (its request has been written, the reply has not
been consumed) is the only one, and the caller it belongs to holds the lock and sits between its send
and its receive. -/
theorem pending_implies_holder (c : Cfg) (ls : List Lbl) (s : St) (hr : run c init ls = some s)
    (i : Nat) (hi : i ∈ outstanding c s) :
    outstanding c s = [i] ∧ s.holder = some i ∧ s.pc i = .sent := by
  have h := inv_reachable c ls s hr
  rcases h.out with h0 | ⟨j, hj, hpc, _⟩
  · rw [h0] at hi; cases hi
  · rw [hj] at hi; simp at hi; subst hi
    exact ⟨hj, h.lock i (Or.inr (Or.inl hpc)), hpc⟩

/-- Consequently no caller other than the one with the outstanding reply can write a request. -/
theorem no_foreign_send_while_pending (c : Cfg) (ls : List Lbl) (s : St) (hr : run c init ls = some s)
    (i j : Nat) (hi : i ∈ outstanding c s) : step c s (.send j) = none := by
  obtain ⟨_, hold, hpc⟩ := pending_implies_holder c ls s hr i hi
  have h := inv_reachable c ls s hr
  simp only [step]
  split
  · rename_i hc
    have := h.lock j (Or.inl hc.1)
    rw [hold] at this; cases this
    rw [hpc] at hc; cases hc.1
  · rfl

/-- Trace form (the property's first clause): in the history of every schedule, between a request that
has a reply and the consumption of that reply no other request is written. -/
theorem transaction_atomic (c : Cfg) (ls : List Lbl) (s : St) (hr : run c init ls = some s) :
    Atomic c.reads s.trace :=
  scan_sound c.reads none _ s.trace (inv_reachable c ls s hr).tr

/-! The ghost history is the projection of the schedule to its wire labels. -/

def wireLbl : Ev → Lbl
  | .req i => .send i
  | .rep i _ => .recv i

def isWire : Lbl → Bool
  | .send _ => true
  | .recv _ => true
  | _ => false

theorem trace_is_projection_from (c : Cfg) (s s' : St) (ls : List Lbl) (hr : run c s ls = some s') :
    s'.trace.map wireLbl = s.trace.map wireLbl ++ ls.filter isWire := by
  induction ls generalizing s with
  | nil => cases hr; simp
  | cons l ls ih =>
    obtain ⟨s1, hs1, hr⟩ := (isRun c).cons_some.1 hr
    rw [ih s1 hr]
    cases Step.of_step hs1 <;> simp [List.filter, isWire, wireLbl]

theorem trace_is_projection (c : Cfg) (ls : List Lbl) (s : St) (hr : run c init ls = some s) :
    s.trace.map wireLbl = ls.filter isWire := by
  simpa [init] using trace_is_projection_from c init s ls hr

/-! ## C10, clause 2: every caller receives the reply to its own request -/

/-- Every reply consumed is the consumer's own; a finished reply-reading call that did not end in an error
(faulty reply, dead socket — see `others_unaffected_by_faulty_reply`) consumed its own reply; no caller ever holds a foreign value. -/
theorem own_reply (c : Cfg) (ls : List Lbl) (s : St) (hr : run c init ls = some s) :
    OwnReply s.trace ∧
    (∀ i, s.pc i = .done → c.reads i = true → s.err i = false → s.got i = some i) ∧
    (∀ i t, s.got i = some t → t = i) := by
  have h := inv_reachable c ls s hr
  exact ⟨h.trOwn, fun i hd hrd he => h.gotOwn i (Or.inr ⟨hd, hrd⟩) he,
    fun i => ((finv_reachable c ls s hr).caller i).gotOwn⟩

/-! ## C10, clause 3: all calls complete -/

/-- No deadlock (in particular no self-deadlock), faulty replies and a closed socket included: in every reachable
state of the code's rule (`relock = false`) in which some caller has not finished, some label is enabled. -/
theorem no_deadlock (c : Cfg) (hrl : c.relock = false) (ls : List Lbl) (s : St) (hr : run c init ls = some s)
    (i : Nat) (hi : i < c.n) (hnd : s.pc i ≠ .done) : enabled c s ≠ [] :=
  have ⟨_, hl, hsome⟩ := live (inv_reachable c ls s hr) (finv_reachable c ls s hr) hrl hi hnd
  List.ne_nil_of_mem (List.mem_filter.2 ⟨hl, by simpa using hsome⟩)

/-- Progress, faulty replies included.  For every schedule `ls` reaching `s`:
(1) if some caller is unfinished, some label is enabled (no deadlock, no self-deadlock) — for the code's rule;
(2) every further step strictly decreases the measure "remaining steps" (a faulty reply costs the same steps as a
    good one), and `|ls| + measure s ≤ 8·n`, so no run is longer than `8·n` steps — for both rules;
(3) hence a maximal run (no label enabled at its end) has finished all callers — for the code's rule. -/
theorem all_complete (c : Cfg) (ls : List Lbl) (s : St) (hr : run c init ls = some s) :
    (c.relock = false → ∀ i, i < c.n → s.pc i ≠ .done → enabled c s ≠ []) ∧
    (∀ l s', step c s l = some s' → Model.Locks.measure c s' < Model.Locks.measure c s) ∧
    ls.length + Model.Locks.measure c s ≤ 8 * c.n ∧
    (c.relock = false → enabled c s = [] → ∀ i, i < c.n → s.pc i = .done) := by
  have h := inv_reachable c ls s hr
  refine ⟨fun hrl i hi hnd => no_deadlock c hrl ls s hr i hi hnd,
          fun l s' hs => measure_step c s s' l h hs, ?_, ?_⟩
  · have := run_measure c init s ls (inv_init c) hr
    rw [measure_init] at this; exact this
  · intro hrl hnil i hi
    cases hp : s.pc i with
    | done => rfl
    | _ => exact absurd hnil (no_deadlock c hrl ls s hr i hi (by rw [hp]; simp))

/-! ## faulty replies: the error paths of the reply readers

`Cfg.fault` lets the peer answer chosen requests with a reply the reader refuses (`bad`) or close the socket instead
of answering (`close`); see the header of `Model/Locks.lean`.  All theorems above are for every `fault` assignment.
The ones below say what a faulty reply does to its own caller, that it does nothing to the others, and that the
mutated rule `Cfg.relock` (error path takes the lock again) is a deadlock. -/

/-- while caller `i` holds the lock, an enabled label other than `peer` is a label of caller `i` -/
theorem only_holder_moves (c : Cfg) (s : St) (h : Inv c s) (i : Nat) (hh : s.holder = some i) (l : Lbl) (s1 : St)
    (hs : step c s l = some s1) : l = .peer ∨ l = .send i ∨ l = .recv i ∨ l = .release i := by
  have own : ∀ j, Held (s.pc j) → j = i := fun j hj => by
    have := h.lock j hj; rw [hh] at this; cases this; rfl
  cases Step.of_step hs with
  | peer => exact .inl rfl
  | acquire hc => rw [hh] at hc; cases hc.2.2
  | reacquire hc => rw [hh] at hc; cases hc.2
  | send hc => cases own _ (.inl hc.1); exact .inr (.inl rfl)
  | recv hc => cases own _ (.inr (.inl hc.1)); exact .inr (.inr (.inl rfl))
  | release hc => rw [hh] at hc; cases hc.1; exact .inr (.inr (.inr rfl))

/-- **A faulty reply releases the lock.**  For every configuration of the code's rule and every schedule: the
`recv` step of a caller whose reply is faulty (refused by the reader, or end-of-file) leaves that caller with an
error and without a value, still holding the lock; the only labels enabled then are the peer and `release i`; and
that release frees the lock with the caller done — with the error, without a value — and nothing outstanding on
the wire (the faulty reply was consumed whole: the next caller starts on an aligned stream). -/
theorem faulty_reply_releases_lock (c : Cfg) (hrl : c.relock = false) (ls : List Lbl) (s s1 : St) (i : Nat)
    (hr : run c init ls = some s) (hf : c.faulty i = true) (hs : step c s (.recv i) = some s1) :
    s1.err i = true ∧ s1.got i = none ∧ s1.holder = some i ∧
    (∀ l s', step c s1 l = some s' → l = .peer ∨ l = .release i) ∧
    ∃ s2, step c s1 (.release i) = some s2 ∧ s2.holder = none ∧ s2.pc i = .done ∧
          s2.err i = true ∧ s2.got i = none ∧ outstanding c s2 = [] := by
  have h0 := inv_reachable c ls s hr
  have h1 := inv_step c s s1 _ h0 hs
  have f1 := finv_step c s s1 _ h0 (finv_reachable c ls s hr) hs
  have hpc : s1.pc i = .got ∧ s1.holder = some i := by
    cases Step.of_step hs with
    | recv hc => exact ⟨by simp [hrl, upd_same], h0.lock i (Or.inr (Or.inl hc.1))⟩
  have herr := (f1.caller i).faultyErr hf (Or.inl hpc.1)
  have hgot := (f1.caller i).faultyNoVal hf
  have hne : ¬ (s1.pc i = .locked) := by rw [hpc.1]; simp
  refine ⟨herr, hgot, hpc.2, ?_, ?_⟩
  · intro l s' hl
    rcases only_holder_moves c s1 h1 i hpc.2 l s' hl with e | e | e | e
    · exact Or.inl e
    · subst e; simp [step, hpc.1] at hl
    · subst e; simp [step, hpc.1] at hl
    · exact Or.inr e
  · have hstep : step c s1 (.release i) =
        some { s1 with pc := upd s1.pc i .done, holder := none,
                       err := if s1.pc i = .locked then upd s1.err i true else s1.err } := by
      simp [step, hpc.1, hpc.2]
    refine ⟨_, hstep, rfl, by simp [upd_same], ?_, hgot, ?_⟩
    · simp [hne, herr]
    · have h2 := inv_step c s1 _ _ h1 hstep
      exact h2.out.resolve_right fun ⟨j, _, hj, _⟩ => h2.free rfl j (.inr (.inl hj))

/-- The faulted call returns an error, never a value — in every state of every schedule, under both rules. -/
theorem faulty_call_returns_error (c : Cfg) (ls : List Lbl) (s : St) (hr : run c init ls = some s)
    (i : Nat) (hf : c.faulty i = true) :
    s.got i = none ∧ (s.pc i = .done → s.err i = true) := by
  have f := finv_reachable c ls s hr
  exact ⟨(f.caller i).faultyNoVal hf, fun hd => (f.caller i).faultyErr hf (Or.inr (Or.inr hd))⟩

/-- **The other callers are unaffected.**  With any assignment of faults, in every schedule: the history is atomic
and every consumed reply is the consumer's own (clauses 1 and 2 for everybody); a caller whose own reply is not
faulty and whose request was written gets the reply to its own request and no error; such a caller ends in an error
only if it wrote nothing — refused locally, or the peer had closed the socket before its send; and the socket is
never closed unless some configured fault is a `close`. -/
theorem others_unaffected_by_faulty_reply (c : Cfg) (ls : List Lbl) (s : St) (hr : run c init ls = some s) :
    Atomic c.reads s.trace ∧ OwnReply s.trace ∧
    (∀ j, c.faulty j = false → s.pc j = .done → c.reads j = true → Ev.req j ∈ s.trace →
        s.got j = some j ∧ s.err j = false) ∧
    (∀ j, c.faulty j = false → s.err j = true →
        Ev.req j ∉ s.trace ∧ (c.sends j = false ∨ s.closed = true)) ∧
    ((∀ k, c.closes k = false) → s.closed = false) := by
  have h := inv_reachable c ls s hr
  have f := finv_reachable c ls s hr
  have nf : ∀ {j}, c.faulty j = false → ¬c.faulty j = true := fun hnf hf => by rw [hnf] at hf; cases hf
  refine ⟨transaction_atomic c ls s hr, h.trOwn, ?_, ?_, ?_⟩
  · intro j hnf hd hrd hreq
    have he : s.err j = false := Bool.eq_false_iff.2 fun he => ((f.caller j).errWhy he).resolve_left (nf hnf) hreq
    exact ⟨h.gotOwn j (Or.inr ⟨hd, hrd⟩) he, he⟩
  · intro j hnf he
    exact ⟨((f.caller j).errWhy he).resolve_left (nf hnf), ((f.caller j).errClosed he).resolve_left (nf hnf)⟩
  · intro hno
    cases hcl : s.closed with
    | false => rfl
    | true =>
      obtain ⟨k, hk⟩ := f.closedWhy hcl
      rw [hno k] at hk; cases hk

/-- a caller at `relock` holds the lock it is waiting for: only the peer can move, and it moves no caller -/
theorem relock_step {c : Cfg} {i : Nat} {s s1 : St} {l : Lbl} (h : Inv c s) (hp : s.pc i = .relock)
    (hs : step c s l = some s1) : l = .peer ∧ s1.pc = s.pc := by
  rcases only_holder_moves c s h i (h.lock i (.inr (.inr (.inr hp)))) l s1 hs with e | e | e | e <;> subst e
  · cases Step.of_step hs; exact ⟨rfl, rfl⟩
  all_goals simp [step, hp] at hs

theorem relock_stuck (c : Cfg) (i : Nat) (s : St) (h : Inv c s) (hp : s.pc i = .relock) :
    s.holder = some i ∧ (∀ l, l ≠ .peer → step c s l = none) ∧
    (∀ ls' s', run c s ls' = some s' → (∀ l ∈ ls', l = .peer) ∧ s'.pc = s.pc ∧ s'.holder = some i) := by
  have hh := h.lock i (.inr (.inr (.inr hp)))
  refine ⟨hh, fun l hl => ?_, fun ls' => ?_⟩
  · cases hs : step c s l with
    | none => rfl
    | some s1 => exact absurd (relock_step h hp hs).1 hl
  · induction ls' generalizing s with
    | nil => intro s' hr'; cases hr'; exact ⟨nofun, rfl, hh⟩
    | cons l ls' ih =>
      intro s' hr'
      obtain ⟨s1, hs1, hr1⟩ := (isRun c).cons_some.1 hr'
      obtain ⟨rfl, hsame⟩ := relock_step h hp hs1
      have h1 := inv_step c s s1 _ h hs1
      have hp1 : s1.pc i = .relock := by rw [hsame]; exact hp
      have := ih s1 h1 hp1 (h1.lock i (.inr (.inr (.inr hp1)))) s' hr1
      exact ⟨List.forall_mem_cons.2 ⟨rfl, this.1⟩, this.2.1.trans hsame, this.2.2⟩

/-- **The mutated rule deadlocks.**  In the variant in which the error path of the reply reader takes the endpoint
lock again (`Cfg.relock`), every schedule that reaches that point — caller `i` has read a faulty reply — is stuck for
good with the lock held: no label of any caller is enabled (`i` waits for the lock it holds itself, everybody else
waits for `i`), in every continuation only the peer moves, no program counter ever changes again — `i` never returns
and neither does any caller that had not finished. -/
theorem relock_on_error_deadlocks (c : Cfg) (ls : List Lbl) (s : St) (hr : run c init ls = some s)
    (i : Nat) (hp : s.pc i = .relock) :
    c.relock = true ∧ c.faulty i = true ∧ s.holder = some i ∧
    (∀ l, l ≠ .peer → step c s l = none) ∧
    (∀ ls' s', run c s ls' = some s' → (∀ l ∈ ls', l = .peer) ∧ s'.pc = s.pc ∧ s'.holder = some i) := by
  have f := finv_reachable c ls s hr
  have := relock_stuck c i s (inv_reachable c ls s hr) hp
  exact ⟨((f.caller i).relockPc hp).1, ((f.caller i).relockPc hp).2, this.1, this.2.1, this.2.2⟩

/-- … and every faulty reply leads there: under the mutated rule the receipt of a faulty reply *is* that point. -/
theorem relock_reached_by_every_faulty_reply (c : Cfg) (hrl : c.relock = true) (s s1 : St) (i : Nat)
    (hf : c.faulty i = true) (hs : step c s (.recv i) = some s1) : s1.pc i = .relock := by
  cases Step.of_step hs
  simp [hf, hrl, upd]

/-- the mutated configuration of the examples: caller 0's reply is faulty, caller 1 is an ordinary call -/
def rlCfg : Cfg := { n := 2, kind := fun _ => .reply, ackMode := false,
                     fault := fun i => if i = 0 then .bad else .none, relock := true }

/-- the same configuration under the code's rule -/
def okCfg : Cfg := { n := 2, kind := fun _ => .reply, ackMode := false,
                     fault := fun i => if i = 0 then .bad else .none }

/-- the hypothesis of `relock_on_error_deadlocks` is reachable, nothing is enabled there, and caller 1 (which has
not even started) can never run: the whole endpoint is dead -/
example : (run rlCfg init [.acquire 0, .send 0, .peer, .recv 0]).map
    (fun s => (s.pc 0, s.pc 1, s.holder, enabled rlCfg s)) = some (.relock, .idle, some 0, []) := by decide
/-- the code's rule on the same configuration and schedule: the faulty reply is an error for caller 0 only,
caller 1 gets its own reply, everything completes -/
example : (run okCfg init
      [.acquire 0, .send 0, .peer, .recv 0, .release 0, .acquire 1, .send 1, .peer, .recv 1, .release 1]).map
    (fun s => ([s.err 0, s.err 1], [s.got 0, s.got 1, s.holder], enabled okCfg s)) =
    some ([true, false], [none, some 1, none], []) := by decide

/-- the executable form of the fault clauses implies the declarative one for the callers it looks at -/
theorem faultClausesB_sound (n : Nat) (ex fl an : Nat → Bool) (out : Nat → Outcome)
    (hpend : ∀ i, n ≤ i → out i = .pending) (h : faultClausesB n ex fl an out = true) :
    FaultClauses ex fl an out := by
  intro i hne hex
  have hi : i < n := by
    cases Nat.lt_or_ge i n with
    | inl h => exact h
    | inr h => exact absurd (hpend i h) hne
  unfold faultClausesB at h
  rw [List.all_eq_true] at h
  have := h i (List.mem_range.mpr hi)
  cases hf : fl i <;> cases ha : an i <;> simp [hf, ha, hex, hne] at this ⊢ <;> exact this

/-- **Model ⊨ fault clauses.**  In every state of every schedule, with any assignment of faults: the callers'
outcomes satisfy `Spec.Locks.FaultClauses`, where a request counts as answered correctly when it was written and
is not one the peer mistreats. -/
theorem model_fault_clauses (c : Cfg) (ls : List Lbl) (s : St) (hr : run c init ls = some s) :
    FaultClauses c.reads c.faulty (fun i => !c.faulty i && decide (Ev.req i ∈ s.trace)) (outcome s) := by
  have h := inv_reachable c ls s hr
  have f := finv_reachable c ls s hr
  intro i hne hex
  have hd : s.pc i = .done := by
    unfold outcome at hne
    by_cases hd : s.pc i = .done
    · exact hd
    · simp [hd] at hne
  refine ⟨?_, ?_, ?_⟩
  · intro hf
    have := (f.caller i).faultyErr hf (Or.inr (Or.inr hd))
    simp [outcome, hd, this]
  · intro hf ha
    simp only [hf, Bool.not_false, Bool.true_and, decide_eq_true_eq] at ha
    have := (others_unaffected_by_faulty_reply c ls s hr).2.2.1 i hf hd hex ha
    simp [outcome, hd, this.1, this.2]
  · intro hf ha
    simp only [hf, Bool.not_false, Bool.true_and, decide_eq_false_iff_not] at ha
    have := (f.caller i).doneNoReq hd ha
    simp [outcome, hd, this]

example : faultClausesB 2 (fun _ => true) (fun i => i == 0) (fun i => i == 1)
    (fun i => if i = 0 then .error else .value 1) = true := by decide
example : faultClausesB 2 (fun _ => true) (fun i => i == 0) (fun i => i == 1)
    (fun i => if i = 0 then .value 0 else .value 1) = false := by decide

/-- a closing peer: caller 0's request is answered by closing the socket; caller 1 comes later, finds the socket
dead and returns an error without having written anything; caller 2 (a locally rejected call) is as always -/
def clCfg : Cfg := { n := 3, kind := fun i => if i = 2 then .rejected else .reply, ackMode := false,
                     fault := fun i => if i = 0 then .close else .none }

example : (run clCfg init [.acquire 0, .send 0, .peer, .recv 0, .release 0, .acquire 1, .release 1,
                            .acquire 2, .release 2]).map
    (fun s => ([s.err 0, s.err 1, s.err 2, s.closed], [s.got 0, s.got 1], s.trace, enabled clCfg s)) =
    some ([true, true, true, true], [none, none], [.req 0, .rep 0 0], []) := by decide
/-- on the dead socket the send is not enabled -/
example : (run clCfg init [.acquire 0, .send 0, .peer, .recv 0, .release 0, .acquire 1, .send 1]).isSome = false := by
  decide
/-- before the close everybody is served as usual -/
example : (run clCfg init [.acquire 1, .send 1, .peer, .recv 1, .release 1, .acquire 0, .send 0, .peer, .recv 0,
                            .release 0]).map (fun s => ([s.err 0, s.err 1], [s.got 0, s.got 1])) =
    some ([true, false], [none, some 1]) := by decide

/-! ## the hypotheses are satisfiable: a concrete mixed configuration and schedule -/

/-- three callers: reply-bearing, acknowledged (REPLY_ACK on), fire-and-forget -/
def exCfg : Cfg := { n := 3, kind := fun i => match i with | 0 => .reply | 1 => .ack | _ => .fire, ackMode := true }

def exSched : List Lbl :=
  [.acquire 1, .send 1, .peer, .recv 1, .release 1,
   .acquire 2, .send 2, .release 2,
   .acquire 0, .send 0, .peer, .peer, .recv 0, .release 0]

example : (run exCfg init exSched).isSome = true := by decide
example : (run exCfg init exSched).map (fun s => (s.trace, enabled exCfg s)) =
    some ([.req 1, .rep 1 1, .req 2, .req 0, .rep 0 0], []) := by decide
example : (run exCfg init exSched).map (fun s => [s.got 0, s.got 1, s.got 2]) =
    some [some 0, some 1, none] := by decide
/-- a blocked acquire: caller 0 cannot take the lock while caller 1 is between send and receive -/
example : (run exCfg init [.acquire 1, .send 1, .acquire 0]).isSome = false := by decide
/-- a blocked read: the peer has not answered yet -/
example : (run exCfg init [.acquire 1, .send 1, .recv 1]).isSome = false := by decide
/-- an outstanding reply exists in a reachable state (hypothesis of `pending_implies_holder`) -/
example : (run exCfg init [.acquire 1, .send 1]).map (fun s => outstanding exCfg s) = some [1] := by decide

/-! ## the invariant is not vacuous: the variant that drops the guard between send and receive -/

def brCfg : Cfg := { n := 2, kind := fun _ => .reply, ackMode := false }

/-- In the broken variant a second request is written between a request and the consumption of its reply. -/
theorem broken_variant_not_atomic :
    ∃ (ls : List Lbl) (s : St), runBroken brCfg init ls = some s ∧ ¬ Atomic brCfg.reads s.trace := by
  refine ⟨[.acquire 0, .send 0, .acquire 1, .send 1], _, rfl, ?_⟩
  intro h
  obtain ⟨t, ht⟩ := h [] [] [] 0 1 rfl rfl
  simp at ht

/-- … and a caller consumes the reply to another caller's request. -/
theorem broken_variant_wrong_reply :
    ∃ (ls : List Lbl) (s : St), runBroken brCfg init ls = some s ∧ ¬ OwnReply s.trace ∧ s.got 1 = some 0 := by
  refine ⟨[.acquire 0, .send 0, .acquire 1, .send 1, .peer, .peer, .recv 1], _, rfl, ?_, rfl⟩
  intro h
  have := h 1 0 (by decide)
  cases this

/-- the same schedule is refused by the faithful model (the second acquire blocks) -/
example : (run brCfg init [.acquire 0, .send 0, .acquire 1, .send 1]).isSome = false := by decide

end Props.C10
