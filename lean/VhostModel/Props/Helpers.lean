import VhostModel.Lemmas.HelpersModel
import VhostModel.Props.C04Owed
/-!
# The helper logic of the model is the helper code of the source

`Gen/Helpers.lean` is regenerated on every run from the bodies of the private helper functions of
`impl BackendReqHandler` (`backend_req_handler.rs`) and of `take_single_file` (`mod.rs`): for each helper the ordered
early exits (the Rust condition translated to a `Bool` function of the inputs, the side condition under which its `usize`
arithmetic is defined, the error), the raw reads of the message buffer (raw pointer casts) and the terminal action (which
handler method with which argument expressions / which reply / what is returned); vocabulary and evaluation
(`HelperSig.run`: first failing check, or `pass`, or `fault` when undefined arithmetic or a read outside the buffer is
reached first) in `Base/HelperSig.lean`.

The theorems say, for **all** states, headers, bodies, file lists and handler outcomes, that the hand-transcribed helper
logic of `Model.BackendSrv.runGuard` / `runAct` does what the generated program does: it refuses exactly when a generated
check fails (with that check's error), it never reaches a `fault`, and when every check passes it invokes the same
handler method with the values of the generated argument expressions.  The inputs of the generated program are read off
the model's context by `Lemmas.Helpers.inOf` & co. (`size = buf.len() =` length of the received body).

A helper with several checks has a closed form `…_run` (`run … = if <the model's condition> then .pass else .err e`),
proved check by check (`Lemmas.Helpers.run_check`); its `…_matches` theorem joins that with the equation of the model's
action (`Lemmas.BackendSrv.runAct_…`).

Preconditions under which the model's formulation is the source's (each is established by an earlier stage of
`handle_request`, and the statement is false without it — see the `…_counterexample`s):
* `check_request_size` tests `hdr.get_version() != 1`; the model's `checkSize` does not: every header that reaches the
  dispatch passed the header validator, which demands version 1 (`version_of_valid_header`,
  `step_dispatch_version_1`);
* `handle_vring_fd_request` tests `buf.len() > MAX_MSG_SIZE`; the model's `.vringFd` guard does not: in every arm it
  directly follows `.sizeIs (.ofT "VhostUserU64")`, after which the body has 8 bytes (`vring_fd_preceded_by_size`).
Redundant in the source, absent from the model: `VhostUserConfigFlags::from_bits(msg.flags)` after `msg.is_valid()`
(`Lemmas.Helpers.cfg_flags_of_valid`).
-/
namespace Props.Helpers
open Base HelperSig Model.Stream Model.Msgs Model.BackendSrv Gen.Helpers Lemmas.Helpers Lemmas.BackendSrv

-- as in `Lemmas/HelpersBase`: keeps the unifier from evaluating `g` where it meets a field of `memN`, `cfgN`, `regionN`
attribute [local irreducible] g

/-- `mem::size_of::<T>()` as the translator computed it = the size the generated layout table gives -/
theorem sizes_match_layout : Gen.Helpers.sizes.all (fun p => structSize p.1 == some p.2) = true := by decide +kernel

/-! ## (a) `check_request_size` -/

/-- the model's size guard accepts exactly when the generated check of `check_request_size` passes -/
theorem check_request_size_matches (h : Hdr) (size expected : Nat) (hv : h.flags &&& 3 = 1) :
    checkSize h size expected = true ↔
      run check_request_size.bufLen check_request_size.steps
        { size := size, expected := expected, hdrSize := h.size, hdrFlags := h.flags } = .pass := by
  simp only [check_request_size_run, checkSize_eq h size expected hv]
  cases checkSize h size expected <;> simp

/-- … and refuses with `InvalidMessage` otherwise; the program has no `fault` -/
theorem check_request_size_refuses (h : Hdr) (size expected : Nat) (hv : h.flags &&& 3 = 1) :
    checkSize h size expected = false ↔
      run check_request_size.bufLen check_request_size.steps
        { size := size, expected := expected, hdrSize := h.size, hdrFlags := h.flags } = .err .invalidMessage := by
  simp only [check_request_size_run, checkSize_eq h size expected hv]
  cases checkSize h size expected <;> simp

/-- without the version precondition the two differ: version 2, everything else in order -/
theorem check_request_size_version_counterexample :
    checkSize ⟨3, 2, 0⟩ 0 0 = true ∧
      run check_request_size.bufLen check_request_size.steps { size := 0, expected := 0, hdrSize := 0, hdrFlags := 2 } =
        .err .invalidMessage := by decide

/-- the protocol rule for headers (which `Props.C20` proves equivalent to the generated header validator) gives version 1 -/
theorem version_of_valid_header {codes : List Nat} {code flags size : Nat}
    (h : Spec.validHeader codes code flags size) : flags &&& 3 = 1 := by
  rw [and3_eq_mod]; exact h.2.2.1

/-- whatever one `handle_request` hands to the handler went through `dispatch` with a header of version 1 -/
theorem step_dispatch_version_1 {σ : Type} (ch : Chooser σ) (cl : Bool) (st : BSt) (cst : σ) (s : List Cell) (h : HOut) :
    (step ch cl st cst s h).o.calls = [] ∨
      ∃ hdr buf files, (step ch cl st cst s h).o.calls = (dispatch st hdr buf files h).calls ∧ hdr.flags &&& 3 = 1 := by
  rcases Props.C04Owed.step_calls_via_guarded_dispatch ch cl st cst s h with h0 | ⟨hdr, buf, files, hc, _, _, hvh, _⟩
  · exact Or.inl h0
  · exact Or.inr ⟨hdr, buf, files, hc, version_of_valid_header hvh⟩

/-- the three size guards of the model are `check_request_size` with the expected size the arm passes -/
theorem sizeIs_matches (st : BSt) (c : Ctx) (s : SizeReq) (n : Nat) (hv : c.hdr.flags &&& 3 = 1)
    (hn : match s with | .zero => n = 0 | .any => n = c.hdr.size | .ofT ty => structSize ty = some n) :
    (runGuard st c (.sizeIs s) = .ok c ∧
      run check_request_size.bufLen check_request_size.steps { inOf st c with expected := n } = .pass) ∨
    (runGuard st c (.sizeIs s) = .error .invalidMsg ∧
      run check_request_size.bufLen check_request_size.steps { inOf st c with expected := n } = .err .invalidMessage) := by
  have hg : runGuard st c (.sizeIs s) = if checkSize c.hdr c.buf.length n then .ok c else .error .invalidMsg := by
    cases s <;> simp only [runGuard, hn]
  simp only [hg, check_request_size_run, inOf, checkSize_eq c.hdr c.buf.length n hv]
  cases checkSize c.hdr c.buf.length n <;> simp

/-! ## (b) `check_attached_files` -/

theorem fdCodes_match : fdCodes = check_attached_files.fileCodes := by decide

/-- the attached-file policy `step` applies (`files.isSome && !fdCodes.contains code` ⇒ `InvalidMessage`) is the generated one -/
theorem check_attached_files_matches (code : Nat) (files : Option (List Fd)) :
    run check_attached_files.bufLen check_attached_files.steps
        { code := code, filesIsSome := files.isSome, nfiles := (files.getD []).length } =
      if files.isSome && !fdCodes.contains code then .err .invalidMessage else .pass := by
  simp only [check_attached_files.steps, run, ← fdCodes_match]
  cases files.isSome <;> cases fdCodes.contains code <;> rfl

/-! ## (c) `handle_vring_fd_request` -/

/-- the model's `.vringFd` guard accepts exactly when the generated checks pass, never faults, and hands over the ring
index `value % 256` and the single received file, which is present iff bit 8 of the value is clear -/
theorem vring_fd_matches (st : BSt) (c : Ctx) (hlen : c.buf.length ≤ 0x1000) :
    (run handle_vring_fd_request.bufLen handle_vring_fd_request.steps (vringEnv st c) = .err .invalidMessage ∧
      runGuard st c .vringFd = .error .invalidMsg) ∨
    (run handle_vring_fd_request.bufLen handle_vring_fd_request.steps (vringEnv st c) = .pass ∧
      ∃ c', runGuard st c .vringFd = .ok c' ∧
        Val.nats handle_vring_fd_request.rets (vringEnv st c) = [c'.index8] ∧
        Val.optFileOf handle_vring_fd_request.rets (vringEnv st c) = some c'.file.isSome ∧
        c'.file = (takeSingle c.files).1 ∧
        c'.index8 = (u64N c.buf).value % 256 ∧
        c'.file.isSome = !bitSet (u64N c.buf).value 8) := by
  have hb := and_two_pow_beq_zero (u64N c.buf).value 8
  simp only [Nat.reducePow] at hb
  by_cases h8 : c.buf.length < 8
  · left
    simp [handle_vring_fd_request.steps, run, vringEnv, inOf, runGuard, h8]
  · have h8' : 8 ≤ c.buf.length := by omega
    have hv : (u64N c.buf).value = leVal (c.buf.take 8) := Lemmas.Owed.g_of Lemmas.Layouts.lay_u64.2 (by omega)
    simp only [handle_vring_fd_request.steps, run, handle_vring_fd_request.bufLen, vringEnv, inOf, runGuard,
      handle_vring_fd_request.rets, Val.nats, Val.optFileOf, take_single_file.isSome, hb, ← hv, bitSet,
      Gen.VhostUserU64.isValid]
    -- bit 8 set ("no fd"): both sides accept exactly when no file arrived; bit 8 clear: exactly when one arrived,
    -- which is when `takeSingle` and `take_single_file(files).is_some()` yield a file; 0, 1, 2 or more files
    cases hbit : (u64N c.buf).value.testBit 8 <;>
      rcases hf : c.files with _ | (_ | ⟨f, _ | ⟨f2, t⟩⟩) <;>
      simp [takeSingle, h8, hlen, h8'] <;> omega

/-- in every arm of the dispatch table the `.vringFd` guard directly follows the 8-byte size guard … -/
theorem vring_fd_preceded_by_size :
    ∀ a ∈ arms, Guard.vringFd ∈ a.guards → a.guards = [.sizeIs (.ofT "VhostUserU64"), .vringFd] := by decide +kernel

/-- … after which the body has exactly 8 bytes, so the hypothesis `hlen` of `vring_fd_matches` is met wherever the
table runs the guard.  (`vring_fd_matches` is about the guard alone, in any context; the two table facts are kept
beside it and not composed with it.) -/
theorem size_guard_gives_8 (st : BSt) (c c' : Ctx) (h : runGuard st c (.sizeIs (.ofT "VhostUserU64")) = .ok c') :
    c' = c ∧ c.buf.length = 8 := by
  obtain ⟨⟨n, hn, hc⟩, rfl⟩ := runGuard_eq_ok.1 h
  rw [Lemmas.Layouts.lay_u64.1, Option.some.injEq] at hn
  simp only [checkSize, Bool.and_eq_true, beq_iff_eq] at hc
  exact ⟨rfl, hn ▸ hc.2⟩

/-- taken alone, the model's `.vringFd` guard lacks the upper bound of the source: any body of 4097 bytes that starts
with eight zero bytes, with one file -/
theorem vring_fd_upper_bound_counterexample (tail : Bytes) (ht : tail.length = 4089) :
    let c : Ctx := { hdr := ⟨12, 1, 8⟩, buf := [0, 0, 0, 0, 0, 0, 0, 0] ++ tail, files := some [5] }
    (∃ c', runGuard {} c .vringFd = .ok c') ∧
      run handle_vring_fd_request.bufLen handle_vring_fd_request.steps (vringEnv {} c) = .err .invalidMessage := by
  refine ⟨?_, ?_⟩
  · simp [runGuard, takeSingle, bitSet, leVal, ht]
  · simp [handle_vring_fd_request.steps, run, vringEnv, inOf, ht]

/-! ## (d) `set_mem_table` -/

/-- the generated checks of `set_mem_table` are the conjuncts of the model's `memTableOk`, one by one and in its order
(`files.ok_or` and `files.len() != n` together are its test of the file count), and no step faults: each read and each
sum is covered by the checks in front of it -/
theorem set_mem_table_run (st : BSt) (c : Ctx) (hv : c.hdr.flags &&& 3 = 1) :
    run set_mem_table.bufLen set_mem_table.steps (memEnv st c) =
      if memTableOk c then .pass else .err .invalidMessage := by
  have hn : (memEnv st c).msg.num_regions < _ := memN_lt c.buf
  have hfiles (n : Nat) : (c.files.map List.length == some n) = (c.files.isSome && (c.files.getD []).length == n) := by
    cases c.files <;> simp
  simp only [memTableOk, hfiles, Bool.and_assoc]
  refine run_check _ _ rfl ((size_cond ..).trans (congrArg not (checkSize_eq _ _ _ hv))) fun _ => ?_
  refine run_check _ _ rfl (decide_lt_eq_not ..) fun h2 => (run_decode (of_decide_eq_true h2)).trans ?_
  refine run_check _ _ rfl (congrArg not (bodyValid_memory_take (of_decide_eq_true h2))) fun _ =>
    run_check _ _ ?_ rfl fun h4 => ?_
  · simp only [Bool.and_eq_true, decide_eq_true_eq]; omega
  have h4 := beq_iff_eq.1 h4
  refine run_check _ _ rfl rfl fun _ => run_check _ _ rfl rfl fun _ =>
    (run_skip ?_ rfl).trans <| (run_decode (Nat.le_of_eq h4.symm)).trans <|
      run_last _ rfl (regions_any_eq _ _ h4) fun _ => rfl
  simp only [decide_eq_true_eq]; omega

/-- the model's memory-table action is refused (with `InvalidMessage`, handler not invoked) exactly when one of the
generated checks of `set_mem_table` fails — request size consistent, `size ≥ header`, header valid,
`size = header + n·region`, files present, `files.len() = n`, every region valid, evaluated in the order of the source
(no read of the buffer is reached before the length checks that cover it: no `fault`) — and otherwise invokes
`set_mem_table` with the `n` regions decoded at offset 8 and all the received files, returning the handler's result -/
theorem set_mem_table_matches (st : BSt) (c : Ctx) (h : HOut) (hv : c.hdr.flags &&& 3 = 1) :
    (run set_mem_table.bufLen set_mem_table.steps (memEnv st c) = .err .invalidMessage ∧
      runAct st c h .memTable = refused st c) ∨
    (run set_mem_table.bufLen set_mem_table.steps (memEnv st c) = .pass ∧
      ∃ fs, c.files = some fs ∧
        Val.sliceOf set_mem_table.args (memEnv st c) = some (8, (memN c.buf).num_regions) ∧
        Val.hasFiles set_mem_table.args = true ∧
        runAct st c h .memTable =
          { st := st,
            calls := [⟨"set_mem_table",
              (regionsOf c.buf (memN c.buf).num_regions 8).flatMap (fun r =>
                [(regionN r).guest_phys_addr, (regionN r).memory_size, (regionN r).user_addr, (regionN r).mmap_offset]),
              [], fs⟩],
            out := ackOf st c.hdr h.ok, res := if h.ok then .ok else .err .handlerErr }) := by
  rw [set_mem_table_run st c hv, runAct_memTable]
  cases hc : memTableOk c
  · exact .inl ⟨rfl, rfl⟩
  · obtain ⟨-, -, -, -, ⟨fs, h5, -⟩, -⟩ := memTableOk_iff.1 hc
    exact .inr ⟨rfl, fs, h5, rfl, rfl, by rw [h5]; rfl⟩

/-- the handler's result is what `set_mem_table` returns -/
theorem set_mem_table_returns : set_mem_table.term.retOf = some .res := rfl

/-- the reads of `set_mem_table`: the 8-byte head at 0, then `n` regions of 32 bytes at 8 -/
theorem set_mem_table_reads (st : BSt) (c : Ctx) :
    decodes set_mem_table.steps (memEnv st c) = [(0, 8), (8, (memN c.buf).num_regions * 32)] := rfl

/-- corollary: the handler is not invoked iff the generated program does not pass -/
theorem set_mem_table_refused_iff (st : BSt) (c : Ctx) (h : HOut) (hv : c.hdr.flags &&& 3 = 1) :
    (runAct st c h .memTable).calls = [] ↔
      run set_mem_table.bufLen set_mem_table.steps (memEnv st c) ≠ .pass := by
  rw [set_mem_table_run st c hv, runAct_memTable]
  cases memTableOk c <;> simp

/-! ## (e) `get_config`, `set_config` -/

/-- the generated checks of `get_config` are the conjuncts of the model's `cfgOk`, in its order; the subtraction is
covered by the first check, and `from_bits` cannot fail after the validator (`cfg_flags_of_valid`) -/
theorem get_config_run (st : BSt) (c : Ctx) (h : HOut) : run get_config.bufLen get_config.steps (getCfgEnv st c h) =
    if cfgOk c.buf then .pass else .err .invalidMessage := by
  rw [cfgOk, Bool.and_assoc]
  refine run_check _ _ rfl ?_ fun h12 => ?_
  · rw [Bool.not_and, ← decide_lt_eq_not, ← decide_lt_eq_not]; rfl
  have h12 : 12 ≤ c.buf.length := of_decide_eq_true (Bool.and_eq_true_iff.1 h12).2
  exact (run_decode h12).trans <| run_check _ _ rfl (congrArg not (bodyValid_config_take h12)) fun hv =>
    run_last _ (decide_eq_true h12) rfl fun _ => run_skip rfl (cfg_flags_of_valid h12 hv)

/-- the model's GET_CONFIG action refuses exactly when a generated check of `get_config` fails (no acknowledgement: the
error leaves `handle_request` through `?`), never faults, and otherwise invokes `get_config(msg.offset, msg.size, flags)`
and replies by the first arm of the generated `match res` whose guard holds: the handler's buffer is echoed (reply
`(offset, buf.len(), flags)` + payload) iff the handler returned `Ok(buf)` with `buf.len() = msg.size`, otherwise the
zero-size reply `(offset, 0, flags)`; the reply always fits `new_reply_header`'s bound -/
theorem get_config_matches (st : BSt) (c : Ctx) (h : HOut) :
    (run get_config.bufLen get_config.steps (getCfgEnv st c h) = .err .invalidMessage ∧
      runAct st c h .getConfig = refusedNoAck st c) ∨
    (run get_config.bufLen get_config.steps (getCfgEnv st c h) = .pass ∧
      ∃ arm, selectArm get_config.arms (getCfgEnv st c h) = some arm ∧
        arm.payload = (h.ok && h.b.length == (cfgN c.buf).size) ∧
        12 + arm.payloadLen (getCfgEnv st c h) ≤ 0x1000 ∧
        runAct st c h .getConfig =
          { st := st, calls := [⟨"get_config", Val.nats get_config.args (getCfgEnv st c h), [], []⟩],
            out := replyHdr c.hdr (12 + arm.payloadLen (getCfgEnv st c h)) ++
              (arm.fields.map (fun f => f (getCfgEnv st c h))).flatMap (leBytes 4) ++ (if arm.payload then h.b else []),
            closed := c.leftover }) := by
  rw [get_config_run, runAct_getConfig]
  cases hc : cfgOk c.buf
  · exact .inl ⟨rfl, rfl⟩
  obtain ⟨h1, h2, _, hs⟩ := cfgOk_iff.1 hc
  have hlt := (cfgN_lt c.buf).2.1
  simp only [cfgN, ← hs] at hlt
  have hfit : 12 + (c.buf.length - 12) ≤ 4096 := by omega
  refine .inr ⟨rfl, ?_⟩
  simp only [get_config.arms, selectArm, getCfgEnv, inOf, get_config.args, Val.nats, cfgN, if_true, ← hs]
  cases hok : h.ok
  · simp [leBytes]
  · by_cases hb : h.b.length = c.buf.length - 12
    · simp [hb, Nat.mod_eq_of_lt hlt, hfit]
    · simp [hb]

/-- the model's SET_CONFIG action: refused exactly when a generated check of `set_config` fails, no fault; otherwise
`set_config(msg.offset, &buf[12..], flags)`, whose result is returned -/
theorem set_config_matches (st : BSt) (c : Ctx) (h : HOut) :
    (run set_config.bufLen set_config.steps (setCfgEnv st c) = .err .invalidMessage ∧
      runAct st c h .setConfig = refused st c) ∨
    (run set_config.bufLen set_config.steps (setCfgEnv st c) = .pass ∧
      ∃ off, Val.payloadOff set_config.args (setCfgEnv st c) = some off ∧
        runAct st c h .setConfig =
          { st := st, calls := [⟨"set_config", Val.nats set_config.args (setCfgEnv st c), c.buf.drop off, []⟩],
            out := ackOf st c.hdr h.ok, closed := c.leftover, res := if h.ok then .ok else .err .handlerErr }) := by
  -- the generated program makes the checks of `get_config`, on `size` instead of `buf.len()`
  rw [show run set_config.bufLen set_config.steps (setCfgEnv st c) = _ from get_config_run st c {}, runAct_setConfig]
  cases cfgOk c.buf
  · exact .inl ⟨rfl, rfl⟩
  · exact .inr ⟨rfl, 12, rfl, rfl⟩

theorem set_config_returns : set_config.term.retOf = some .res := rfl
theorem get_config_reads (st : BSt) (c : Ctx) (h : HOut) : decodes get_config.steps (getCfgEnv st c h) = [(0, 12)] := rfl
theorem set_config_reads (st : BSt) (c : Ctx) : decodes set_config.steps (setCfgEnv st c) = [(0, 12)] := rfl

/-! ## (f) `send_ack_message` -/

def ackEnv (st : BSt) (hdr : Hdr) (ok : Bool) : HIn :=
  { code := hdr.code, hdrFlags := hdr.flags, hdrSize := hdr.size, replyAck := st.replyAck, resOk := ok }

/-- `send_ack_message` has no early exit of its own; it writes iff `reply_ack_enabled ∧ need_reply`; what it writes is
the header `new_reply_header::<VhostUserU64>(req, 0)` builds (whose checks pass for a known request code on a socket
that has not failed) followed by the value 0 iff the handler's result is `Ok`; then the handler's result is returned.
The model's `ackOf` (and the `.ack` action around it) is exactly that. -/
theorem ack_matches (st : BSt) (hdr : Hdr) (ok : Bool) :
    send_ack_message.steps = [] ∧
    send_ack_message.term.sendCond (ackEnv st hdr ok) = some (st.replyAck && hdr.needReply) ∧
    send_ack_message.term.returnsRes = true ∧
    (Base.codeOk Gen.Codes.FrontendReq.table hdr.code = true →
      run send_ack_message.bufLen send_ack_message.sendSteps (ackEnv st hdr ok) = .pass) ∧
    send_ack_message.sendHdr.map (fun f => f (ackEnv st hdr ok)) = [hdr.code, hdrNewFlags 4, 8] ∧
    send_ack_message.sendFields.map (fun f => f (ackEnv st hdr ok)) = [if ok then 0 else 1] ∧
    ackOf st hdr ok =
      (if st.replyAck && hdr.needReply then
        (send_ack_message.sendHdr.map (fun f => f (ackEnv st hdr ok))).flatMap (leBytes 4) ++
          (send_ack_message.sendFields.map (fun f => f (ackEnv st hdr ok))).flatMap (leBytes 8)
       else []) := by
  have hb := and_two_pow_bne_zero hdr.flags 3
  simp only [Nat.reducePow] at hb
  refine ⟨rfl, ?_, rfl, ?_, ?_, ?_, ?_⟩
  · simp [send_ack_message.term, Term.sendCond, ackEnv, Hdr.needReply, bitSet, hb]
  · intro hc
    simp [send_ack_message.sendSteps, run, ackEnv, hc]
  · simp [send_ack_message.sendHdr, ackEnv, hdrNewFlags]
  · cases ok <;> simp [send_ack_message.sendFields, ackEnv]
  · cases ok <;> simp [send_ack_message.sendHdr, send_ack_message.sendFields, ackEnv, ackOf, replyHdr, encHdr, hdrNewFlags]

/-- the `.ack m` action: one handler invocation, `send_ack_message` on its result, the result returned -/
theorem ack_action (st : BSt) (c : Ctx) (h : HOut) (m : String) :
    (runAct st c h (.ack m)).out = ackOf st c.hdr h.ok ∧
      (runAct st c h (.ack m)).res = (if h.ok then .ok else .err .handlerErr) := ⟨rfl, rfl⟩

/-! ## the remaining helpers -/

/-- `take_single_file(files).is_some()` as translated from `mod.rs` = the model's `takeSingle` yields a file -/
theorem take_single_file_matches (st : BSt) (c : Ctx) :
    take_single_file.isSome (inOf st c) = (takeSingle c.files).1.isSome := by
  rcases hf : c.files with _ | (_ | ⟨f, _ | ⟨f2, t⟩⟩) <;> simp [take_single_file.isSome, inOf, takeSingle, hf]

/-- `set_backend_req_fd` and `set_gpu_socket` have the same single check -/
theorem take_single_file_run (st : BSt) (c : Ctx) :
    run set_backend_req_fd.bufLen set_backend_req_fd.steps (inOf st c) =
      if (takeSingle c.files).1.isSome then .pass else .err .invalidMessage :=
  run_last _ rfl (congrArg not (take_single_file_matches st c)) fun _ => rfl

/-- `extract_request_body::<T>`: the model's `.body ty` guard (`checkSize` with `size_of::<T>()`, then the generated
validator on the decoded body) passes exactly when the generated checks do; the read of `T` at 0 lies in the buffer -/
theorem extract_request_body_matches (st : BSt) (c : Ctx) (ty : String) (n : Nat) (hn : structSize ty = some n)
    (hv : c.hdr.flags &&& 3 = 1) :
    let e : HIn := { inOf st c with sizeOfT := n, msgValid := bodyValid ty c.buf == some true }
    (runGuard st c (.body ty) = .ok c ∧ run extract_request_body.bufLen extract_request_body.steps e = .pass) ∨
    (runGuard st c (.body ty) = .error .invalidMsg ∧
      run extract_request_body.bufLen extract_request_body.steps e = .err .invalidMessage) := by
  intro e
  rw [extract_request_body_run e (Nat.le_refl _)]
  simp only [e, inOf, checkSize_eq c.hdr c.buf.length n hv, runGuard, hn]
  cases checkSize c.hdr c.buf.length n
  · simp
  rcases bodyValid ty c.buf with _ | (_ | _) <;> simp

/-- `check_feature(feat)` / `check_proto_feature(feat)` for a single-bit feature = the model's `.virtio bit` / `.proto bit` -/
theorem check_feature_matches (st : BSt) (c : Ctx) (bit : Nat) :
    (runGuard st c (.virtio bit) = .ok c ∧
      run check_feature.bufLen check_feature.steps { inOf st c with feat := 2 ^ bit } = .pass) ∨
    (runGuard st c (.virtio bit) = .error .inactiveFeature ∧
      run check_feature.bufLen check_feature.steps { inOf st c with feat := 2 ^ bit } = .err .inactiveFeature) := by
  simp only [check_feature.steps, run, inOf, runGuard, bitSet, and_two_pow_bne_zero]
  by_cases hb : st.acked.testBit bit = true <;> simp [hb]

theorem check_proto_feature_matches (st : BSt) (c : Ctx) (bit : Nat) :
    (runGuard st c (.proto bit) = .ok c ∧
      run check_proto_feature.bufLen check_proto_feature.steps { inOf st c with feat := 2 ^ bit } = .pass) ∨
    (runGuard st c (.proto bit) = .error .inactiveOperation ∧
      run check_proto_feature.bufLen check_proto_feature.steps { inOf st c with feat := 2 ^ bit } = .err .inactiveOperation) := by
  simp only [check_proto_feature.steps, run, inOf, runGuard, bitSet, and_two_pow_bne_zero]
  by_cases hb : st.ackedProto.testBit bit = true <;> simp [hb]

/-- `new_reply_header::<T>(req, p)` for a known request code, a socket that has not failed and `size_of::<T>() + p ≤
MAX_MSG_SIZE`: no check fails, no arithmetic overflows, and the header is the model's `replyHdr req (size_of::<T>() + p)` -/
theorem new_reply_header_matches (req : Hdr) (n p : Nat) (hfit : n + p ≤ 0x1000)
    (hc : Base.codeOk Gen.Codes.FrontendReq.table req.code = true) :
    let e : HIn := { code := req.code, hdrFlags := req.flags, hdrSize := req.size, sizeOfT := n, payloadSize := p }
    run new_reply_header.bufLen new_reply_header.steps e = .pass ∧
      new_reply_header.term.hdrOf e = some (req.code, hdrNewFlags 4, n + p) ∧
      replyHdr req (n + p) = encHdr req.code (hdrNewFlags 4) (n + p) := by
  have h1 : ¬ n > 4096 := by omega
  have h2 : ¬ p > 4096 := by omega
  have h3 : ¬ n + p > 4096 := by omega
  have h4 : n + p < 18446744073709551616 := by omega
  have h5 : (n + p) % 4294967296 = n + p := by omega
  simp [new_reply_header.steps, run, new_reply_header.term, Term.hdrOf, hc, h1, h2, h3, h4, h5, hdrNewFlags, replyHdr]

/-- … and it refuses with `InvalidParam` when the reply would exceed `MAX_MSG_SIZE` (sizes below `2^63`: no overflow) -/
theorem new_reply_header_refuses (req : Hdr) (n p : Nat) (hbig : n + p > 0x1000) (hn : n < 2 ^ 63) (hp : p < 2 ^ 63) :
    run new_reply_header.bufLen new_reply_header.steps
      { code := req.code, hdrFlags := req.flags, hdrSize := req.size, sizeOfT := n, payloadSize := p } =
        .err .invalidParam := by
  have h4 : n + p < 18446744073709551616 := by omega
  have h3 : n + p > 4096 := hbig
  simp [new_reply_header.steps, run, h3, h4]

/-- `set_backend_req_fd`: refused (handler not invoked) unless exactly one file arrived; then the handler gets that file
and the helper returns `Ok(())` whatever the handler does -/
theorem set_backend_req_fd_matches (st : BSt) (c : Ctx) (h : HOut) :
    (run set_backend_req_fd.bufLen set_backend_req_fd.steps (inOf st c) = .err .invalidMessage ∧
      (runAct st c h .backendReqFd).calls = [] ∧ (runAct st c h .backendReqFd).res = .err .invalidMsg ∧
      (runAct st c h .backendReqFd).out = ackOf st c.hdr false) ∨
    (run set_backend_req_fd.bufLen set_backend_req_fd.steps (inOf st c) = .pass ∧
      Val.hasFile set_backend_req_fd.args = true ∧ set_backend_req_fd.term.retOf = some .ok ∧
      ∃ f, c.files = some [f] ∧
        runAct st c h .backendReqFd =
          { st := st, calls := [⟨"set_backend_req_fd", [], [], [f]⟩], out := ackOf st c.hdr true }) := by
  rw [take_single_file_run, runAct_backendReqFd]
  rcases takeSingle_cases c.files with ⟨f, hf, ht⟩ | ⟨-, ht⟩ <;> rw [ht]
  · exact .inr ⟨rfl, rfl, rfl, f, hf, by rw [hf]; rfl⟩
  · exact .inl ⟨rfl, rfl, rfl, rfl⟩

/-- `set_gpu_socket`: the same file rule; the handler's result is returned -/
theorem set_gpu_socket_matches (st : BSt) (c : Ctx) (h : HOut) :
    (run set_gpu_socket.bufLen set_gpu_socket.steps (inOf st c) = .err .invalidMessage ∧
      (runAct st c h .gpuSocket).calls = [] ∧ (runAct st c h .gpuSocket).res = .err .invalidMsg ∧
      (runAct st c h .gpuSocket).out = ackOf st c.hdr false) ∨
    (run set_gpu_socket.bufLen set_gpu_socket.steps (inOf st c) = .pass ∧
      Val.hasFile set_gpu_socket.args = true ∧ set_gpu_socket.term.retOf = some .res ∧
      ∃ f, c.files = some [f] ∧
        runAct st c h .gpuSocket =
          { st := st, calls := [⟨"set_gpu_socket", [], [], [f]⟩], out := ackOf st c.hdr h.ok,
            res := if h.ok then .ok else .err .handlerErr }) := by
  rw [show run set_gpu_socket.bufLen set_gpu_socket.steps _ = _ from take_single_file_run st c, runAct_gpuSocket]
  rcases takeSingle_cases c.files with ⟨f, hf, ht⟩ | ⟨-, ht⟩ <;> rw [ht]
  · exact .inr ⟨rfl, rfl, rfl, f, hf, by rw [hf]; rfl⟩
  · exact .inl ⟨rfl, rfl, rfl, rfl⟩

/-! ## non-vacuity -/

/-- SET_MEM_TABLE, one region -/
def exMem (files : Option (List Fd)) : Ctx :=
  { hdr := ⟨5, 1, 40⟩, files := files,
    buf := leBytes 4 1 ++ leBytes 4 0 ++ leBytes 8 0 ++ leBytes 8 0x1000 ++ leBytes 8 0x7000 ++ leBytes 8 0 }
/-- SET_CONFIG, offset 0, 4 bytes of payload -/
def exCfg : Ctx := { hdr := ⟨25, 1, 16⟩, files := none, buf := leBytes 4 0 ++ leBytes 4 4 ++ leBytes 4 0 ++ [1, 2, 3, 4] }
/-- SET_VRING_KICK, ring 2 -/
def exKick (files : Option (List Fd)) : Ctx := { hdr := ⟨12, 1, 8⟩, files := files, buf := leBytes 8 2 }

example : run set_mem_table.bufLen set_mem_table.steps (memEnv {} (exMem (some [7]))) = .pass := by decide +kernel
example : run set_mem_table.bufLen set_mem_table.steps (memEnv {} (exMem none)) = .err .invalidMessage := by decide +kernel
example : run set_config.bufLen set_config.steps (setCfgEnv {} exCfg) = .pass := by decide +kernel
example : run handle_vring_fd_request.bufLen handle_vring_fd_request.steps (vringEnv {} (exKick (some [5]))) = .pass := by
  decide +kernel
example : run handle_vring_fd_request.bufLen handle_vring_fd_request.steps (vringEnv {} (exKick none)) =
    .err .invalidMessage := by decide +kernel

end Props.Helpers
