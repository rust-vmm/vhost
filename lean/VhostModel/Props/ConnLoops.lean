import VhostModel.Lemmas.ConnSend
import VhostModel.Lemmas.ConnRecv
import VhostModel.Lemmas.ConnData
import VhostModel.Lemmas.ConnFrameRecv
import VhostModel.Lemmas.ConnFrameSend
import VhostModel.Model.RecvBody

/-!
# Translator tie: the loops and framing functions of `connection.rs` against the hand-written models

`tools/rs2lean_conn.py` translates the bodies of `get_sub_iovs_offset`, `Endpoint::{send_iovec_all, send_header,
send_message, send_message_with_payload, recv_data, recv_into_iovec_all, recv_header, recv_body, recv_body_into_buf,
recv_payload_into_buf}` into terms of the imperative language of `Base/Imp.lean` (`Gen/ConnLoops.lean`).  The theorems
below interpret these terms (`Imp.exec`) and compare with `Model.Endpoint.subIovsOffset` / `sendAll`,
`Model.Stream.recvAll` / `recvData`, the header reading of `Model.BackendSrv.step` and `Model.Frontend.recvBody` /
`Model.RecvBody.recvBody` — for every input, send script, chooser and stream, and for every fuel above the stated
bound (`while` consumes one unit of fuel per evaluation of its condition):

* send side: `fuel > script.length` (every iteration consumes one script entry);
* receive side: `fuel ≥ stream.length + 1` (every iteration consumes at least one cell, or ends the loop).

Full equalities: `get_sub_iovs_offset_matches`, `send_iovec_all_matches`, `recv_into_iovec_all_matches`,
`recv_data_matches`, `recv_header_matches` (+ `step_reads_header`: `Model.BackendSrv.step` factors through exactly these
decisions), `recv_body_matches` (+ `recv_body_frontend`, `recv_body_generic`: equality with `Model.Frontend.recvBody` /
`Model.RecvBody.recvBody`).
Against reference definitions written here (the framework has no hand-written model of these): `recv_body_into_buf_matches`,
`recv_payload_into_buf_matches` (relative to `recvAll`), `send_header_matches`, `send_message_matches`,
`send_message_with_payload_matches` (relative to `sendAll`: iovec order, `PartialMessage` check, size guards).

Where model and source are phrased differently:
* `SendEv.other` of the model = errno classes `SocketConnect` (`EACCES`) and `SocketError` of the source (`toEv`);
* the model's `RecvAll.fds : List Fd` is the source's `Option<Vec<File>>` with `None` = `[]` (`optOf`); `Some(vec![])`
  does not occur (`recv_into_iovec` returns `None` for zero descriptors);
* on `blocked` the model reports the descriptors received so far in `fds`; in the interpreter they are the live value
  of `rfds` in the blocked activation (`recvAllOf` reads them from the returned frame).
-/
namespace Props.ConnLoops
open Imp Gen.ConnLoops Model.Endpoint
open Model.Stream (Cell Chooser clampK recvAll recvData RecvAll RecvData)
open Lemmas.ConnSub Lemmas.ConnSend Lemmas.ConnRecv Lemmas.ConnData Lemmas.ConnFrameRecv Lemmas.ConnFrameSend

/-! ### the errno classification (`impl From<vmm_sys_util::errno::Error> for Error`) -/

/-- the generated table, evaluated: exactly `EAGAIN`/`EWOULDBLOCK`(11), `EINTR`(4), `ENOBUFS`(105), `ENOMEM`(12) retry,
`ECONNRESET`(104), `EPIPE`(32) are a broken socket, `EACCES`(13) is `SocketConnect`, everything else `SocketError` -/
theorem classify_spec (e : Nat) :
    classify e = if e = 11 ∨ e = 4 ∨ e = 105 ∨ e = 12 then .retry
                 else if e = 104 ∨ e = 32 then .broken
                 else if e = 13 then .connect else .other := by
  simp only [classify, errnoTable, classifyIn, errnoDefault]
  -- the first matching arm, through the values of the table in order
  by_cases h1 : e = 11; · simp [h1]
  by_cases h2 : e = 4; · simp [h2]
  by_cases h3 : e = 105; · simp [h3]
  by_cases h4 : e = 12; · simp [h4]
  by_cases h5 : e = 104; · simp [h5]
  by_cases h6 : e = 32; · simp [h6]
  by_cases h7 : e = 13; · simp [h7]
  simp [h1, h2, h3, h4, h5, h6, h7]

/-- `MSG_CTRUNC` ⇒ `ENOBUFS` ⇒ `SocketRetry`: what `Model.Stream` assumes of the crate -/
theorem enobufs_is_retry : classify ENOBUFS = .retry := by decide

/-- the model's send events are the source's classes: `retry` = `SocketRetry`, `broken` = `SocketBroken`,
`other` = `SocketConnect` or `SocketError` -/
theorem toEv_spec (e : Nat) :
    toEv classify (.errno e) = if e = 11 ∨ e = 4 ∨ e = 105 ∨ e = 12 then .retry else if e = 104 ∨ e = 32 then .broken else .other := by
  simp only [toEv, classify_spec]
  by_cases h1 : e = 11 ∨ e = 4 ∨ e = 105 ∨ e = 12
  · simp [h1]
  · by_cases h2 : e = 104 ∨ e = 32
    · simp [h1, h2]
    · by_cases h3 : e = 13 <;> simp [h1, h2, h3]

/-- the descriptor array handed to `recv_with_fds` by `recv_into_iovec` has the model's 32 slots -/
theorem recv_cap : recvFdCap = 32 := rfl

/-- parameters of `get_sub_iovs_offset(iov_lens, skip_size)` -/
def gsioArgs (lens : List Nat) (skip : Nat) : Frame :=
  { l := upd (fun _ => []) GetSubIovsOffset.iov_lens.id lens, n := upd (fun _ => 0) GetSubIovsOffset.skip_size.id skip }

theorem get_sub_iovs_offset_matches {σ : Type} (env : Env σ) (lens : List Nat) (skip fuel : Nat) (w : World σ) :
    (exec env getSubIovsOffset fuel (gsioArgs lens skip) w).1 =
      .done (.ok { nats := [(subIovsOffset lens skip 0).1, (subIovsOffset lens skip 0).2] }) ∧
    (exec env getSubIovsOffset fuel (gsioArgs lens skip) w).2.2 = w := by
  obtain ⟨fr', h⟩ := get_sub_iovs_offset_exec env fuel (gsioArgs lens skip) w
  unfold getSubIovsOffset
  rw [h]
  simp [gsioArgs]

example : (exec (σ := Unit) { ch := ⟨fun _ _ _ => (1, ())⟩ } getSubIovsOffset 0 (gsioArgs [4, 4, 5] 6) { cst := () }).1
    = .done (.ok { nats := [1, 2] }) := by decide

/-- parameters of `send_iovec_all(iovs, fds)`: the message pieces lie in store 0 -/
def sendArgs (iovs : List Bytes) (fds : Option (List Fd)) : Frame :=
  { io := upd (fun _ => {}) SendIovecAll.iovs.id { store := 0, start := 0, lens := iovs.map (·.length) },
    f := upd (fun _ => none) SendIovecAll.fds.id fds }

def sendWorld {σ : Type} (iovs : List Bytes) (script : List SendOut) (st : σ) : World σ :=
  { mem := [iovs.flatten], script := script, cst := st }

/-- for every message split into iovecs, descriptor list and send script: the successful `sendmsg` calls (bytes taken,
descriptors attached) are the model's wire and the result is the model's `SendRes` -/
theorem send_iovec_all_matches {σ : Type} (env : Env σ) (hc : env.classify = classify) (iovs : List Bytes) (fds : Option (List Fd))
    (script : List SendOut) (st : σ) (fuel : Nat) (hF : script.length < fuel) :
    wireOf (exec env sendIovecAll fuel (sendArgs iovs fds) (sendWorld iovs script st)).2.2.sent =
      (sendAll (fds.getD []) iovs.flatten 0 (script.map (toEv classify)) []).1 ∧
    sendResOf (exec env sendIovecAll fuel (sendArgs iovs fds) (sendWorld iovs script st)).1 =
      some (sendAll (fds.getD []) iovs.flatten 0 (script.map (toEv classify)) []).2 := by
  have hb : IoVal.bytes [iovs.flatten] { store := 0, start := 0, lens := iovs.map (·.length) } = iovs.flatten := by
    have := bytes_alloc [] iovs
    simpa using this
  have h := send_iovec_all_exec env fuel (sendArgs iovs fds) (sendWorld iovs script st) hF
    (by simp only [sendArgs, sendWorld, upd_apply, reduceIte]; rw [hb, List.length_flatten])
  simp only [sendArgs, sendWorld, upd_apply, reduceIte, hb, hc] at h
  exact ⟨h.1, h.2.2⟩

/-- descriptors ride on the first successful `sendmsg` only; `Ok(0)` ends the loop with the short count; `SocketRetry`
retries without advancing (a concrete run) -/
example :
    ((exec (σ := Unit) { ch := ⟨fun _ _ _ => (1, ())⟩, classify := classify } sendIovecAll 9
      (sendArgs [[1, 2], [3]] (some [7])) (sendWorld [[1, 2], [3]] [.errno 11, .accept 1, .errno 4, .accept 1, .accept 0] ())).1,
     (exec (σ := Unit) { ch := ⟨fun _ _ _ => (1, ())⟩, classify := classify } sendIovecAll 9
      (sendArgs [[1, 2], [3]] (some [7])) (sendWorld [[1, 2], [3]] [.errno 11, .accept 1, .errno 4, .accept 1, .accept 0] ())).2.2.sent.map
        (fun c => (c.offered, c.fds))) =
      (Ctl.done (.ok { nats := [2] }), [([1, 2, 3], [7]), ([1, 2, 3], [7]), ([2, 3], []), ([2, 3], []), ([3], [])]) := by
  decide

theorem send_header_matches {σ : Type} (env : Env σ) (F : Nat) (fr : Frame) (w : World σ) (hF : w.script.length < F) :
    FrameSendSpec (sendAll ((fr.f SendHeader.fds.id).getD []) (fr.b SendHeader.hdr.id) 0 (w.script.map (toEv env.classify)) (wireOf w.sent))
      env.sizeH (exec env sendHeader F fr w) :=
  send_header_exec env F fr w hF

theorem send_message_matches {σ : Type} (env : Env σ) (F : Nat) (fr : Frame) (w : World σ) (hF : w.script.length < F) :
    if env.sizeT > env.maxMsg then
      (exec env sendMessage F fr w).1 = .done (.err .oversizedMsg) ∧ (exec env sendMessage F fr w).2.2.sent = w.sent
    else
      FrameSendSpec (sendAll ((fr.f SendMessage.fds.id).getD []) (fr.b SendMessage.hdr.id ++ fr.b SendMessage.body.id) 0
          (w.script.map (toEv env.classify)) (wireOf w.sent))
        (env.sizeH + env.sizeT) (exec env sendMessage F fr w) :=
  send_message_exec env F fr w hF

theorem send_message_with_payload_matches {σ : Type} (env : Env σ) (F : Nat) (fr : Frame) (w : World σ) (hF : w.script.length < F) :
    if env.sizeT > env.maxMsg ∨ (fr.b SendMessageWithPayload.payload.id).length > env.maxMsg - env.sizeT then
      (exec env sendMessageWithPayload F fr w).1 = .done (.err .oversizedMsg) ∧
      (exec env sendMessageWithPayload F fr w).2.2.sent = w.sent
    else if (fr.f SendMessageWithPayload.fds.id).isSome ∧ ((fr.f SendMessageWithPayload.fds.id).getD []).length > 32 then
      (exec env sendMessageWithPayload F fr w).1 = .done (.err .incorrectFds) ∧
      (exec env sendMessageWithPayload F fr w).2.2.sent = w.sent
    else
      FrameSendSpec (sendAll ((fr.f SendMessageWithPayload.fds.id).getD [])
          (fr.b SendMessageWithPayload.hdr.id ++ fr.b SendMessageWithPayload.body.id ++ fr.b SendMessageWithPayload.payload.id) 0
          (w.script.map (toEv env.classify)) (wireOf w.sent))
        (env.sizeH + env.sizeT + (fr.b SendMessageWithPayload.payload.id).length) (exec env sendMessageWithPayload F fr w) :=
  send_message_with_payload_exec env F fr w hF

/-- parameters of `recv_into_iovec_all(iovs)`: the destination iovecs cover store 0 -/
def recvArgs (lens : List Nat) : Frame :=
  { io := upd (fun _ => {}) RecvIntoIovecAll.iovs.id { store := 0, start := 0, lens := lens } }

def recvWorld {σ : Type} (n : Nat) (s : List Cell) (st : σ) : World σ :=
  { mem := [List.replicate n 0], stream := s, cst := st }

/-- the interpreter's result read as the model's record: bytes = what the call wrote into the buffer, `fds` = the returned
`Option<Vec<File>>` (on `blocked`: the value of `rfds` in the waiting activation), `closed` = everything closed,
`done`/`eof` by the returned count -/
def recvAllOf {σ : Type} (store want : Nat) (res : Res σ) : RecvAll σ :=
  match res.1 with
  | .done (.ok ⟨[n], fo, _⟩) =>
    ⟨(res.2.2.mem.getD store []).take n, fo.getD [], res.2.2.closed, res.2.2.stream, res.2.2.cst, if n = want then .done else .eof⟩
  | .stuck .blocked =>
    ⟨(res.2.2.mem.getD store []).take (res.2.1.n RecvIntoIovecAll.data_read.id), (res.2.1.f RecvIntoIovecAll.rfds.id).getD [],
      res.2.2.closed, res.2.2.stream, res.2.2.cst, .blocked⟩
  | _ => ⟨[], [], [], [], res.2.2.cst, .done⟩

theorem take_writeAt_zeros (n : Nat) (b : Bytes) : (writeAt (List.replicate n 0) 0 b).take b.length = b := by
  rw [writeAt_zeros n b]; simp

/-- for every list of iovec lengths, chooser, stream and closedness: bytes, descriptors handed out, descriptors closed,
rest of the stream, chooser state and outcome are those of `Model.Stream.recvAll` -/
theorem recv_into_iovec_all_matches {σ : Type} (env : Env σ) (hc : env.classify = classify) (lens : List Nat) (s : List Cell) (st : σ)
    (fuel : Nat) (hF : s.length + 1 ≤ fuel) :
    recvAllOf 0 lens.sum (exec env recvIntoIovecAll fuel (recvArgs lens) (recvWorld lens.sum s st)) =
      recvAll env.ch recvFdCap env.isClosed lens.sum st s true := by
  obtain ⟨_, fr', hx, hb⟩ := recv_all_run env fuel (recvArgs lens) (recvWorld lens.sum s st) (by rw [hc]; exact enobufs_is_retry) hF
    0 lens rfl (Nat.zero_lt_one) (List.length_replicate ..) (recvAll env.ch 32 env.isClosed lens.sum st s true) rfl
  have hol := Lemmas.Stream.recvAll_outcome_len env.ch 32 env.isClosed lens.sum st s true
  unfold recvIntoIovecAll recvFdCap
  rw [hx]
  generalize recvAll env.ch 32 env.isClosed lens.sum st s true = R at *
  obtain ⟨rb, rf, rc, rr, rs, ro⟩ := R
  -- reading the buffer back up to the count gives the model's bytes; `done` iff the count is the total
  cases ro <;> simp only [recvAllOf, allCtl, allWorld, recvWorld, optOf_getD, List.getD_cons_zero, List.set_cons_zero, List.nil_append,
    take_writeAt_zeros]
  · rw [if_pos (hol.1 rfl)]
  · rw [if_neg (Nat.ne_of_lt (hol.2 Model.Stream.Outcome.noConfusion))]
  · simp only [(hb rfl).1, (hb rfl).2, optOf_getD, take_writeAt_zeros]

/-- parameters of `recv_data(len)` -/
def dataArgs (len : Nat) : Frame := { n := upd (fun _ => 0) RecvData.len.id len }

/-- the interpreter's result read as the model's record (`lost` = descriptors discarded by the receive without control
buffer; `full`/`short` by the returned count; `SocketRetry` = `enobufs`).  `store` = the `Vec` allocated by the call. -/
def recvDataOf {σ : Type} (store want : Nat) (res : Res σ) : RecvData σ :=
  match res.1 with
  | .done (.ok ⟨[n], _, _⟩) =>
    ⟨(res.2.2.mem.getD store []).take n, res.2.2.closed, res.2.2.stream, res.2.2.cst, if n = want then .full else .short⟩
  | .done (.err (.sock .retry _)) =>
    ⟨(res.2.2.mem.getD store []).take (res.2.1.n RecvData.data_read.id), res.2.2.closed, res.2.2.stream, res.2.2.cst, .enobufs⟩
  | .stuck .blocked =>
    ⟨(res.2.2.mem.getD store []).take (res.2.1.n RecvData.data_read.id), res.2.2.closed, res.2.2.stream, res.2.2.cst, .blocked⟩
  | _ => ⟨[], [], [], res.2.2.cst, .full⟩

/-- for every length, chooser, stream and closedness: bytes, discarded descriptors, rest of the stream, chooser state and
outcome are those of `Model.Stream.recvData` -/
theorem recv_data_matches {σ : Type} (env : Env σ) (hc : env.classify = classify) (len : Nat) (s : List Cell) (st : σ)
    (fuel : Nat) (hF : s.length + 1 ≤ fuel) :
    recvDataOf 0 len (exec env Gen.ConnLoops.recvData fuel (dataArgs len) { stream := s, cst := st }) =
      Model.Stream.recvData env.ch env.isClosed len st s := by
  obtain ⟨_, fr', hx, hn, _⟩ := recv_data_run env fuel (dataArgs len) { stream := s, cst := st } (by rw [hc]; exact enobufs_is_retry) hF
    len rfl _ rfl
  have hol := Lemmas.Stream.recvData_outcome_len env.ch env.isClosed len st s
  unfold Gen.ConnLoops.recvData
  rw [hx]
  generalize Model.Stream.recvData env.ch env.isClosed len st s = D at *
  obtain ⟨rb, rl, rr, rs, ro⟩ := D
  -- reading the buffer back up to the count gives the model's bytes (`take_dataBuf`); `full` iff the count is `len`
  have htk := take_dataBuf len ⟨rb, rl, rr, rs, ro⟩
  cases ro <;> simp only [recvDataOf, dataCtl, dataWorld, List.nil_append, List.getD_cons_zero, hn, htk]
  · rw [if_pos (hol.1 rfl)]
  · rw [if_neg (Nat.ne_of_lt (hol.2 rfl))]

/-- a concrete run: 3 bytes wanted, delivered 2 + 1 by the chooser; the descriptors of the first chunk are kept, those
of the second are closed -/
example :
    (fun r : RecvAll Unit => (r.bytes, r.fds, r.closed, r.rest, r.outcome))
      (recvAllOf 0 3 (exec (σ := Unit) { ch := ⟨fun _ _ _ => (2, ())⟩, classify := classify } recvIntoIovecAll 9 (recvArgs [1, 2])
        (recvWorld 3 [⟨1, [5], true⟩, ⟨2, [], false⟩, ⟨3, [6], true⟩, ⟨4, [], false⟩] ()))) =
    ([1, 2, 3], [5], [6], [⟨4, [], false⟩], .done) := by decide

/-- the decisions of `recv_header` as a function of `recvAll` over `size_of::<H>()` bytes (`Lemmas.ConnFrameRecv.HeaderSpec`):
blocked / `Disconnected` (0 bytes) / `PartialMessage` (≠ `size_of::<H>()`) / `InvalidMessage` (`!hdr.is_valid()`) / the header
bytes with the received files; every error path closes the received files -/
theorem recv_header_matches {σ : Type} (env : Env σ) (hc : env.classify = classify) (F : Nat) (fr : Frame) (w : World σ)
    (hF : w.stream.length + 1 ≤ F) :
    HeaderSpec env w (recvAll env.ch recvFdCap env.isClosed env.sizeH w.cst w.stream true) (exec env recvHeader F fr w) :=
  recv_header_exec env F fr w (by rw [hc]; exact enobufs_is_retry) hF

/-- the decisions of `recv_body::<T>` (`BodySpec`): one read of `size_of::<H>() + size_of::<T>()` bytes; `PartialMessage`
unless exactly that many arrived; `InvalidMessage` if `!hdr.is_valid() || !body.is_valid()` -/
theorem recv_body_matches {σ : Type} (env : Env σ) (hc : env.classify = classify) (F : Nat) (fr : Frame) (w : World σ)
    (hF : w.stream.length + 1 ≤ F) :
    BodySpec env w (recvAll env.ch recvFdCap env.isClosed (env.sizeH + env.sizeT) w.cst w.stream true) (exec env Gen.ConnLoops.recvBody F fr w) :=
  recv_body_exec env F fr w (by rw [hc]; exact enobufs_is_retry) hF

/-- `recv_body_into_buf(buf)` (`BodyIntoBufSpec`): one read of `size_of::<H>() + buf.len()` bytes; `PartialMessage` if fewer
than a header arrived; `InvalidMessage` on an invalid header; the body size returned is `bytes - size_of::<H>()`; `buf` holds
the bytes after the header.  (No hand-written model of this function exists in the framework: the statement is relative
to `recvAll`.) -/
theorem recv_body_into_buf_matches {σ : Type} (env : Env σ) (hc : env.classify = classify) (F : Nat) (fr : Frame) (w : World σ)
    (hF : w.stream.length + 1 ≤ F) :
    BodyIntoBufSpec env w (fr.b RecvBodyIntoBuf.buf.id).length
      (recvAll env.ch recvFdCap env.isClosed (env.sizeH + (fr.b RecvBodyIntoBuf.buf.id).length) w.cst w.stream true)
      (exec env recvBodyIntoBuf F fr w) :=
  recv_body_into_buf_exec env F fr w (by rw [hc]; exact enobufs_is_retry) hF

/-- `recv_payload_into_buf::<T>(buf)` (`PayloadIntoBufSpec`): one read of `size_of::<H>() + size_of::<T>() + buf.len()` bytes;
`PartialMessage` if fewer than header + body arrived; `InvalidMessage` if header or body is invalid; payload size
`bytes - (size_of::<H>() + size_of::<T>())`.  (No hand-written model; relative to `recvAll`.) -/
theorem recv_payload_into_buf_matches {σ : Type} (env : Env σ) (hc : env.classify = classify) (F : Nat) (fr : Frame) (w : World σ)
    (hF : w.stream.length + 1 ≤ F) :
    PayloadIntoBufSpec env w (fr.b RecvPayloadIntoBuf.buf.id).length
      (recvAll env.ch recvFdCap env.isClosed (env.sizeH + env.sizeT + (fr.b RecvPayloadIntoBuf.buf.id).length) w.cst w.stream true)
      (exec env recvPayloadIntoBuf F fr w) :=
  recv_payload_into_buf_exec env F fr w (by rw [hc]; exact enobufs_is_retry) hF

open Model.Frontend (RecvOut RecvRes Reply parseHdr)

/-- the interpreter's result of `recv_body` read as the model's `RecvOut` -/
def recvOutOf {σ : Type} (res : Res σ) : RecvOut σ :=
  match res.1 with
  | .stuck .blocked => ⟨.blocked, res.2.2.stream, res.2.2.cst, res.2.2.closed ++ (res.2.1.f RecvIntoIovecAll.rfds.id).getD []⟩
  | .done (.err .partialMessage) => ⟨.err .partialMsg, res.2.2.stream, res.2.2.cst, res.2.2.closed⟩
  | .done (.err .invalidMessage) => ⟨.err .invalidMsg, res.2.2.stream, res.2.2.cst, res.2.2.closed⟩
  | .done (.ok ⟨_, fo, [hb, body]⟩) => ⟨.ok ⟨parseHdr hb, body, [], fo⟩, res.2.2.stream, res.2.2.cst, res.2.2.closed⟩
  | _ => ⟨.err .other, res.2.2.stream, res.2.2.cst, res.2.2.closed⟩

theorem optOf_eq (l : List Fd) : optOf l = if l.isEmpty then none else some l := rfl

/-- `Endpoint::<H>::recv_body::<T>` with a 12-byte header is `Model.RecvBody.recvBody`, for every header / body validator -/
theorem recv_body_generic {σ : Type} (env : Env σ) (hc : env.classify = classify) (hH : env.sizeH = 12) (F : Nat) (fr : Frame)
    (w : World σ) (hw : w.closed = []) (hF : w.stream.length + 1 ≤ F) :
    recvOutOf (exec env Gen.ConnLoops.recvBody F fr w) =
      Model.RecvBody.recvBody env.ch env.isClosed env.validH env.sizeT env.validT w.cst w.stream := by
  have h := recv_body_matches env hc F fr w hF
  unfold BodySpec recvFdCap at h
  unfold Model.RecvBody.recvBody
  rw [hH] at h
  rcases hx : exec env Gen.ConnLoops.recvBody F fr w with ⟨c, fr', w'⟩
  rw [hx] at h
  generalize recvAll env.ch 32 env.isClosed (12 + env.sizeT) w.cst w.stream true = R at *
  obtain ⟨t1, t2, t3⟩ := h
  simp only [hw, List.nil_append] at t1 t2 t3
  by_cases hb : R.outcome = .blocked
  · simp only [hb, if_true] at t3
    obtain ⟨u1, u2, u3⟩ := t3
    subst u1
    simp only [recvOutOf, hb, t1, t2, u2, u3, optOf_getD]
  · simp only [hb, if_false] at t3
    by_cases h1 : R.bytes.length = 12 + env.sizeT
    · cases hv : (!env.validH (R.bytes.take 12) || !env.validT (R.bytes.drop 12))
      all_goals
        simp only [h1, hv, ne_eq, not_true_eq_false, if_false, if_true, bne_self_eq_false, Bool.false_eq_true] at t3 ⊢
        obtain ⟨rfl, u2⟩ := t3
        simp only [recvOutOf, t1, t2, u2, optOf_eq]
    · have h1' : (R.bytes.length != 12 + env.sizeT) = true := by simp [h1]
      simp only [h1, ne_eq, not_false_eq_true, if_true, h1'] at t3 ⊢
      obtain ⟨rfl, u2⟩ := t3
      simp only [recvOutOf, t1, t2, u2]

/-- `FrontendInternal`'s use: `recv_body::<T>` over `VhostUserMsgHeader<FrontendReq>` is `Model.Frontend.recvBody` -/
theorem recv_body_frontend {σ : Type} (env : Env σ) (hc : env.classify = classify) (hH : env.sizeH = 12) (ty : String) (n : Nat)
    (hn : Model.Frontend.sizeOfTy ty = some n) (hT : env.sizeT = n) (hvH : env.validH = Model.Frontend.hdrValid)
    (hvT : env.validT = fun b => Model.Frontend.bodyValidTy ty b == some true) (F : Nat) (fr : Frame)
    (w : World σ) (hw : w.closed = []) (hF : w.stream.length + 1 ≤ F) :
    recvOutOf (exec env Gen.ConnLoops.recvBody F fr w) = Model.Frontend.recvBody env.ch env.isClosed ty w.cst w.stream := by
  rw [recv_body_generic env hc hH F fr w hw hF]
  unfold Model.Frontend.recvBody Model.RecvBody.recvBody
  rw [hn, hT, hvH, hvT]
  rfl

open Model.BackendSrv in
/-- what `handle_request` learns from `recv_header` -/
inductive HdrOut where
  | blocked (closed : List Fd)
  | err (e : Model.BackendSrv.Err) (closed : List Fd)
  | ok (bytes : Bytes) (files : Option (List Fd)) (closed : List Fd)

/-- the header reading of `Model.BackendSrv.step`, as written there -/
def hdrOfModel {σ : Type} (validH : Bytes → Bool) (r : RecvAll σ) : HdrOut :=
  match r.outcome with
  | .blocked => .blocked (r.closed ++ r.fds)
  | _ =>
    if r.bytes.length == 0 then .err .disconnected (r.closed ++ r.fds)
    else if r.bytes.length != 12 then .err .partialMsg (r.closed ++ r.fds)
    else if validH r.bytes then .ok r.bytes (if r.fds.isEmpty then none else some r.fds) r.closed
    else .err .invalidMsg (r.closed ++ r.fds)

/-- the interpreter's result of `recv_header` read the same way -/
def hdrOfExec {σ : Type} (res : Res σ) : Option HdrOut :=
  match res.1 with
  | .stuck .blocked => some (.blocked (res.2.2.closed ++ (res.2.1.f RecvIntoIovecAll.rfds.id).getD []))
  | .done (.err .disconnected) => some (.err .disconnected res.2.2.closed)
  | .done (.err .partialMessage) => some (.err .partialMsg res.2.2.closed)
  | .done (.err .invalidMessage) => some (.err .invalidMsg res.2.2.closed)
  | .done (.ok ⟨_, fo, [hb]⟩) => some (.ok hb fo res.2.2.closed)
  | _ => none

/-- the translated `recv_header` takes exactly the decisions the model's `step` takes on the header -/
theorem recv_header_decisions {σ : Type} (env : Env σ) (hc : env.classify = classify) (hH : env.sizeH = 12) (F : Nat) (fr : Frame)
    (w : World σ) (hw : w.closed = []) (hF : w.stream.length + 1 ≤ F) :
    hdrOfExec (exec env recvHeader F fr w) = some (hdrOfModel env.validH (recvAll env.ch 32 env.isClosed 12 w.cst w.stream true)) ∧
    (exec env recvHeader F fr w).2.2.stream = (recvAll env.ch 32 env.isClosed 12 w.cst w.stream true).rest ∧
    (exec env recvHeader F fr w).2.2.cst = (recvAll env.ch 32 env.isClosed 12 w.cst w.stream true).st := by
  have h := recv_header_matches env hc F fr w hF
  unfold HeaderSpec recvFdCap at h
  rw [hH] at h
  rcases hx : exec env recvHeader F fr w with ⟨c, fr', w'⟩
  rw [hx] at h
  generalize recvAll env.ch 32 env.isClosed 12 w.cst w.stream true = R at *
  obtain ⟨t1, t2, t3⟩ := h
  simp only [hw, List.nil_append] at t1 t2 t3
  refine ⟨?_, t1, t2⟩
  unfold hdrOfModel
  by_cases hb : R.outcome = .blocked
  · simp only [hb, if_true] at t3
    obtain ⟨rfl, u2, u3⟩ := t3
    simp only [hdrOfExec, hb, u2, u3, optOf_getD]
  · simp only [hb, if_false] at t3
    -- the same tests in the same order, as propositions in `HeaderSpec` and as Booleans in the model
    by_cases h0 : R.bytes.length = 0
    · simp only [h0, if_true, beq_self_eq_true] at t3 ⊢
      obtain ⟨rfl, u2⟩ := t3
      simp only [hdrOfExec, u2]
    · by_cases h1 : R.bytes.length = 12
      · cases hv : env.validH R.bytes
        all_goals
          simp [h1, hv] at t3 ⊢
          obtain ⟨rfl, u2⟩ := t3
          simp [hdrOfExec, u2, optOf_eq]
      · simp [h0, h1] at t3 ⊢
        obtain ⟨rfl, u2⟩ := t3
        simp only [hdrOfExec, u2]

section step
open Model.BackendSrv Model.Msgs Base

/-- `handle_request` after `recv_header`: attached-files check, body by `recv_data`, dispatch (as in `Model.BackendSrv.step`) -/
def stepAfterHeader {σ : Type} (ch : Chooser σ) (isClosed : Bool) (st : BSt) (h : HOut) (r : RecvAll σ) : HdrOut → StepOut σ
  | .blocked c => ⟨{ st := st, res := .blocked, closed := c }, r.rest, r.st⟩
  | .err e c => ⟨{ st := st, res := .err e, closed := c }, r.rest, r.st⟩
  | .ok bytes files c =>
    let hdr : Hdr := ⟨leVal (bytes.take 4), leVal ((bytes.drop 4).take 4), leVal ((bytes.drop 8).take 4)⟩
    if files.isSome && !fdCodes.contains hdr.code then
      ⟨{ st := st, res := .err .invalidMsg, closed := c ++ files.getD [] }, r.rest, r.st⟩
    else if hdr.size == 0 then
      let o := dispatch st hdr [] files h
      ⟨{ o with closed := c ++ o.closed }, r.rest, r.st⟩
    else
      let d := Model.Stream.recvData ch isClosed hdr.size r.st r.rest
      match d.outcome with
      | .blocked => ⟨{ st := st, res := .blocked, closed := c ++ files.getD [] }, d.rest, d.st⟩
      | .short => ⟨{ st := st, res := .err .invalidMsg, closed := c ++ files.getD [] }, d.rest, d.st⟩
      | .enobufs => ⟨{ st := st, res := .err .sockRetry, closed := c ++ files.getD [] ++ d.lost }, d.rest, d.st⟩
      | .full =>
        let o := dispatch st hdr d.bytes files h
        ⟨{ o with closed := c ++ o.closed }, d.rest, d.st⟩

/-- `Model.BackendSrv.step` reads the header exactly through the decisions `recv_header_decisions` proves of the
translated `recv_header` (and reads the body with `recvData`, which `recv_data_matches` ties to `recv_data`) -/
theorem step_reads_header {σ : Type} (ch : Chooser σ) (isClosed : Bool) (st : BSt) (cst : σ) (s : List Cell) (h : HOut) :
    step ch isClosed st cst s h =
      stepAfterHeader ch isClosed st h (recvAll ch 32 isClosed 12 cst s true)
        (hdrOfModel Model.Frontend.hdrValid (recvAll ch 32 isClosed 12 cst s true)) := by
  unfold step
  generalize recvAll ch 32 isClosed 12 cst s true = r
  simp only []
  unfold hdrOfModel
  by_cases hb : r.outcome = .blocked
  · simp only [hb, stepAfterHeader]
  · by_cases h0 : (r.bytes.length == 0) = true
    · simp only [h0, if_true, stepAfterHeader]
    · simp only [h0, if_false, Bool.false_eq_true]
      by_cases h1 : (r.bytes.length != 12) = true
      · simp only [h1, if_true, stepAfterHeader]
      · simp only [h1, if_false, Bool.false_eq_true]
        unfold Model.Frontend.hdrValid
        cases hv : (decHeader r.bytes).map (·.isValid (Gen.Codes.FrontendReq.table.map (·.2))) with
        | none => simp only [stepAfterHeader, Bool.false_eq_true, if_false]
        | some b =>
          cases b
          · simp only [stepAfterHeader, Bool.false_eq_true, if_false]
          · simp only [stepAfterHeader, if_true, ← optOf_eq, optOf_getD]
            rfl

end step

end Props.ConnLoops
