import VhostModel.Lemmas.MemTable

/-!
# C13 — guest memory table and address translation always reflect the accepted updates

`Model.MemTable` transcribes `set_mem_table` / `add_mem_region` / `remove_mem_region` / `vmm_va_to_gpa` of
`vhost-user-backend/src/handler.rs` over the vm-memory 0.17.1 collection rules; `Spec.MemTable` is the property
statement.  All theorems are for **all** histories of the three requests, all region geometries and all verdicts of the
operating system on the `mmap` calls (`Req.mapOk`).

* `table_is_fold_of_successes`   after any history from a fresh daemon, the memory object and the translation table
                                 both hold exactly (as multisets) the regions of `Spec.MemTable.foldSuccesses` of the history
                                 with the handler's own outcomes
* `failed_update_changes_nothing` a request answered with an error leaves regions, mappings and notification log as they
                                 were (the whole state is equal)
* `one_notification_per_success` each success appends exactly one `update_memory` call showing the new table, a failure
                                 none; over a history the count is `Spec.MemTable.notifications`
* `bytes_visible`                under the representation invariant: the byte behind guest address `g` of region `r` is
                                 cell `r.off + (g - r.gpa)` of `r`'s file, in both directions (a write to that file cell
                                 is what a read through the table returns; a write through the table changes exactly
                                 that cell), and an address in no region is refused
* `mappings_mirror_regions`      invariant over all histories: the translation table and the memory object have the same
                                 `(guest address, size)` entries with the same multiplicity.  This holds although
                                 `REM_MEM_REG` prunes the translation table *by guest address only*: the collection keeps
                                 start addresses pairwise different, so the two keys select the same entry.
* `translate_correct`            `vmm_va_to_gpa` answers for the first mapping that contains `va`, which satisfies
                                 `Spec.MemTable.translateOk` for the current table; no mapping contains `va` ⇒ rejected
* `translate_no_overflow`        under the invariant that every translation entry satisfies the message validity rule
                                 `Spec.validRegion`, no `u64` addition of `vmm_va_to_gpa` overflows and the result fits
                                 64 bits; `mappings_valid` shows that the invariant holds after any history of validated
                                 requests.

Assumed / out of scope: a failing backend `update_memory` callback (modelled as infallible, DESIGN.md section 7 "Limits");
the library rules listed in the header of `Model/MemTable.lean` (exercised by correspondence family `mem`).
Recorded (not alarmed): a `SET_MEM_TABLE` whose regions are not in ascending guest-address order is *refused* by
`GuestMemoryMmap::from_regions` — it is a failed update and, as the property demands, changes nothing.
-/

namespace Props.C13
open Model.MemTable Lemmas.MemTable
open Spec.MemTable (Req Op)

/-- **the table is the fold of the successful operations**, for every history -/
theorem table_is_fold_of_successes (ops : List Op) :
    let r := run St.init ops
    let T := Spec.MemTable.foldSuccesses [] (ops.zip r.2)
    r.1.regions.Perm (T.map toMem) ∧ r.1.mappings.Perm (T.map toMap) ∧ r.2.length = ops.length := by
  intro r T
  have h := rel_run rel_init ops
  exact ⟨h.regions, h.mappings, run_length _ _⟩
example :
    let ops := [Op.setTable [⟨0x1000, 0x1000, 0x7000, 0, 0, true⟩, ⟨0x3000, 0x1000, 0x9000, 0, 1, true⟩],
                Op.add ⟨0x2000, 0x1000, 0x8000, 0x1000, 2, true⟩, Op.add ⟨0x2800, 0x1000, 0xa000, 0, 3, true⟩,
                Op.remove 0x1000 0x2000, Op.remove 0x1000 0x1000]
    (run St.init ops).2 = [true, true, false, false, true] ∧
    (run St.init ops).1.regions = [⟨0x2000, 0x1000, 2, 0x1000⟩, ⟨0x3000, 0x1000, 1, 0⟩] := by decide

/-- the same statement from any state that represents a table `T` -/
theorem table_is_fold_of_successes_from (s : St) (T : List Spec.MemTable.Region) (h : Rel s T) (ops : List Op) :
    Rel (run s ops).1 (Spec.MemTable.foldSuccesses T (ops.zip (run s ops).2)) := rel_run h ops

/-- **a failed update leaves the previous table fully intact** (the entire state is unchanged) -/
theorem failed_update_changes_nothing (s : St) (op : Op) (h : (step s op).2 = false) : (step s op).1 = s :=
  step_failed s op h
example : (step ⟨[⟨0x1000, 0x1000, 0, 0⟩], [⟨0x7000, 0x1000, 0x1000⟩], []⟩
    (.add ⟨0x1800, 0x1000, 0x9000, 0, 1, true⟩)).2 = false := by decide

/-- **one notification per successful change**: a success appends exactly one `update_memory` call, and it shows the
table that is current afterwards; a failure appends none -/
theorem one_notification_per_success (s : St) (op : Op) :
    (step s op).1.notified = if (step s op).2 then s.notified ++ [(step s op).1.regions] else s.notified := by
  obtain e | ⟨_, _, e, _⟩ := step_cases s op <;> rw [e] <;> rfl

/-- over a history: as many notifications as successful changes -/
theorem notification_count (s : St) (ops : List Op) :
    (run s ops).1.notified.length = s.notified.length + Spec.MemTable.notifications (ops.zip (run s ops).2) := by
  induction ops generalizing s with
  | nil => simp [run, Spec.MemTable.notifications]
  | cons op ops ih =>
    simp only [run, List.zip_cons_cons]
    rw [ih, one_notification_per_success s op]
    cases hok : (step s op).2 <;> simp [Spec.MemTable.notifications] <;> omega
example : (run St.init [Op.add ⟨0, 0x1000, 0, 0, 0, true⟩, Op.add ⟨0, 0x1000, 0, 0, 0, true⟩,
    Op.remove 0 0x1000]).1.notified.length = 2 := by decide

/-- **each byte is backed by the passed file at `mmap_offset` plus its offset, in both directions.**
`s` represents the table `T` (which is the case after every history, `table_is_fold_of_successes_from`).
(1) the file cell behind guest address `g` of region `r` is `(r.fid, r.off + (g - r.gpa))`;
(2) front-end → back-end: after the cell was written (through the file), a read through the table at `g` returns it;
(3) back-end → front-end: a write through the table at `g` changes exactly that cell of that file;
(4) an address that no region contains is refused, for reads and writes. -/
theorem bytes_visible (s : St) (T : List Spec.MemTable.Region) (h : Rel s T) (fs : Files) (g : Nat) (v : UInt8) :
    (∀ f o, Spec.MemTable.backedBy T g f o →
        locate s.regions g = some (f, o) ∧
        readByte s.regions (fs.set f o v) g = some v ∧
        ∃ fs', writeByte s.regions fs g v = some fs' ∧ fs' f o = v ∧
          ∀ f' o', ¬ (f' = f ∧ o' = o) → fs' f' o' = fs f' o') ∧
    (Spec.MemTable.unbacked T g → readByte s.regions fs g = none ∧ writeByte s.regions fs g v = none) := by
  constructor
  · rintro f o ⟨r, hr, hc, rfl, rfl⟩
    have hm : toMem r ∈ s.regions := (h.regions.mem_iff).mpr (List.mem_map_of_mem hr)
    have hcon : (toMem r).contains g = true := by
      rw [contains_iff]; exact hc
    have hf := find_unique h.sorted hm hcon
    have hl : locate s.regions g = some (r.fid, r.off + (g - r.gpa)) := by
      simp [locate, hf, toMem]
    refine ⟨hl, ?_, ?_⟩
    · simp [readByte, hl, Files.set]
    · refine ⟨fs.set r.fid (r.off + (g - r.gpa)) v, by simp [writeByte, hl], by simp [Files.set], ?_⟩
      intro f' o' hne
      simp [Files.set, hne]
  · intro hu
    have : findRegion s.regions g = none := by
      apply find_none
      intro x hx
      have hx' : x ∈ T.map toMem := (h.regions.mem_iff).mp hx
      obtain ⟨r, hr, rfl⟩ := List.mem_map.mp hx'
      have := hu r hr
      cases hc : (toMem r).contains g with
      | false => rfl
      | true => rw [contains_iff] at hc; exact absurd hc this
    simp [readByte, writeByte, locate, this]
example : locate [⟨0x1000, 0x1000, 0, 0x3000⟩, ⟨0x2000, 0x2000, 1, 0⟩] 0x1fff = some (0, 0x3fff) ∧
    locate [⟨0x1000, 0x1000, 0, 0x3000⟩, ⟨0x2000, 0x2000, 1, 0⟩] 0x2000 = some (1, 0) ∧
    locate [⟨0x1000, 0x1000, 0, 0x3000⟩, ⟨0x2000, 0x2000, 1, 0⟩] 0x4000 = none := by decide

/-- **the translation table mirrors the memory object** after every history: same `(guest address, size)` entries, same
multiplicity — even though `REM_MEM_REG` prunes the translation table by guest address alone -/
theorem mappings_mirror_regions (ops : List Op) :
    let s := (run St.init ops).1
    (s.mappings.map fun m => (m.gpaBase, m.size)).Perm (s.regions.map fun r => (r.gpa, r.size)) := by
  intro s
  have h := rel_run rel_init ops
  have h1 := h.mappings.map (fun m => (m.gpaBase, m.size))
  have h2 := h.regions.map (fun r => (r.gpa, r.size))
  simp only [List.map_map] at h1 h2
  exact h1.trans h2.symm
example : (run St.init [Op.add ⟨0x2000, 0x1000, 0x9000, 0, 0, true⟩, Op.add ⟨0x1000, 0x1000, 0x5000, 0, 1, true⟩,
      Op.remove 0x2000 0x1000]).1 =
    ⟨[⟨0x1000, 0x1000, 1, 0⟩], [⟨0x5000, 0x1000, 0x1000⟩], [[⟨0x2000, 0x1000, 0, 0⟩],
      [⟨0x1000, 0x1000, 1, 0⟩, ⟨0x2000, 0x1000, 0, 0⟩], [⟨0x1000, 0x1000, 1, 0⟩]]⟩ := by decide

/-- the invariant, preserved by every request from every state that satisfies it (in particular a removal whose size does
not match removes nothing from either side) -/
theorem mappings_mirror_regions_step (s : St) (T : List Spec.MemTable.Region) (h : Rel s T) (op : Op) :
    ∃ T', Rel (step s op).1 T' := ⟨_, rel_step h op⟩

/-- **translation**: `vmm_va_to_gpa` answers with the first mapping that contains `va`
(`gpa_base + (va - vmm_addr)`), and this is an answer the property admits for the current table; it reports an error
exactly when no current region's user range contains `va` -/
theorem translate_correct (s : St) (T : List Spec.MemTable.Region) (h : Rel s T) (va : Nat) :
    Spec.MemTable.translateOk T va (translate s.mappings va) ∧
    (∀ pre m post, s.mappings = pre ++ m :: post → (∀ x ∈ pre, ¬ AddrMapping.containsVa x va) →
        AddrMapping.containsVa m va → translate s.mappings va = some (m.gpaBase + (va - m.vmmAddr))) ∧
    (translate s.mappings va = none ↔ ∀ r ∈ T, ¬ r.containsVa va) := by
  have hok := translate_ok h va
  refine ⟨hok, ?_, ?_⟩
  · intro pre m post e hp hm
    rw [e]; exact translate_first hp hm
  · cases ht : translate s.mappings va with
    | none => rw [ht] at hok; exact ⟨fun _ => hok, fun _ => rfl⟩
    | some g =>
      rw [ht] at hok
      obtain ⟨r, hr, hc, _⟩ := hok
      exact ⟨fun h' => (nomatch h'), fun hall => absurd hc (hall r hr)⟩
example : translate [⟨0x7000, 0x1000, 0x1000⟩, ⟨0x9000, 0x2000, 0x4000⟩] 0x7fff = some 0x1fff ∧
    translate [⟨0x7000, 0x1000, 0x1000⟩, ⟨0x9000, 0x2000, 0x4000⟩] 0x8000 = none ∧
    translate [⟨0x7000, 0x1000, 0x1000⟩, ⟨0x9000, 0x2000, 0x4000⟩] 0xafff = some 0x5fff := by decide

/-- every request of a history passed the message validator (`Spec.validRegion`, C20) -/
def OpValid : Op → Prop
  | .setTable rs => ∀ r ∈ rs, Spec.validRegion r.gpa r.size r.uaddr r.off
  | .add r => Spec.validRegion r.gpa r.size r.uaddr r.off
  | .remove _ _ => True

/-- one request keeps every translation entry valid -/
theorem step_valid (s : St) (hs : ∀ m ∈ s.mappings, MappingValid m) (op : Op) (hv : OpValid op) :
    ∀ m ∈ (step s op).1.mappings, MappingValid m := by
  obtain e | ⟨mem, maps, e, hi⟩ := step_cases s op <;> rw [e]
  · exact hs
  · intro m hm
    cases op with
    | setTable rs =>
      obtain ⟨_, rfl, _⟩ := hi
      obtain ⟨r, hr, rfl⟩ := List.mem_map.1 hm
      exact ⟨r.off, hv r hr⟩
    | add r =>
      obtain ⟨_, rfl, _⟩ := hi
      rcases List.mem_append.1 hm with hm | hm
      · exact hs m hm
      · cases List.mem_singleton.1 hm; exact ⟨r.off, hv⟩
    | remove g sz =>
      obtain ⟨_, rfl⟩ := hi
      exact hs m (List.mem_filter.1 hm).1

/-- the invariant of `translate_no_overflow` holds after any history of validated requests -/
theorem mappings_valid (s : St) (hs : ∀ m ∈ s.mappings, MappingValid m) (ops : List Op) (hv : ∀ op ∈ ops, OpValid op) :
    ∀ m ∈ (run s ops).1.mappings, MappingValid m := by
  induction ops generalizing s with
  | nil => exact hs
  | cons op ops ih =>
    exact ih _ (step_valid s hs op (hv op (by simp))) (fun o ho => hv o (List.mem_cons_of_mem _ ho))

/-- **no overflow in `vmm_va_to_gpa`**: when every translation entry satisfies the region validity rule, neither
`vmm_addr + size` (evaluated for every entry that is looked at) nor `va - vmm_addr + gpa_base` exceeds `u64::MAX`; the
machine computation equals the mathematical one and the result is a 64-bit address -/
theorem translate_no_overflow (ms : List AddrMapping) (hv : ∀ m ∈ ms, MappingValid m) (va : Nat) :
    translateChecked ms va ≠ .overflow ∧
    translateChecked ms va = (match translate ms va with | some g => .ok g | none => .missing) ∧
    ∀ g, translate ms va = some g → g < 2^64 := by
  obtain ⟨h1, h2⟩ := translateChecked_eq hv va
  refine ⟨?_, h1, h2⟩
  rw [h1]
  cases translate ms va <;> simp
example : MappingValid ⟨0xffff_ffff_ffff_e000, 0x1000, 0xffff_ffff_ffff_d000⟩ ∧
    translateChecked [⟨0xffff_ffff_ffff_e000, 0x1000, 0xffff_ffff_ffff_d000⟩] 0xffff_ffff_ffff_efff
      = .ok 0xffff_ffff_ffff_dfff := by
  constructor
  · exact ⟨0, by decide⟩
  · decide
/-- without the validity rule the addition does overflow (the situation F-C20-single allowed before its repair) -/
example : translateChecked [⟨0xffff_ffff_ffff_f000, 0x1000, 0x1000⟩] 0xffff_ffff_ffff_f000 = .overflow := by decide

end Props.C13
