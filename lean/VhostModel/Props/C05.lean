import VhostModel.Lemmas.BackendSrv
/-!
# C05 — no frontend input can crash the backend or reach the handler unvalidated

The model (`Model.BackendSrv.step`) is a total function of *any* cell stream, any chooser (segmentation /
timing) and any handler script: it returns `ok`, an error or `blocked` — that part of the statement is
about the *code* only through the correspondence run (the harness is built with overflow checks and
debug assertions; a panic is a violation).  Proved here, for all inputs:
* a request whose header is not valid is never dispatched (`Props.C04Owed.step_calls_via_guarded_dispatch`);
* at most one handler invocation per request, and only through an arm of the dispatch table;
* every slice the memory-table arm reads lies inside the received body (`mem_table_reads_within`);
* (C07) gated requests do not reach the handler — see `Props.C07`.
The central statement `handler_args_valid` (every handler invocation satisfies `Spec.Proto.validCall`, for every
state, header, body, descriptor list, stream, chooser and history) is proved in `Props.C05Args`; the spec driver
additionally checks it on every call the real server is observed to make.
-/
namespace Props.C05
open Base Model.Stream Model.BackendSrv Lemmas.BackendSrv

/-- at most one handler invocation per framed request -/
theorem dispatch_calls_le_one (st : BSt) (hdr : Hdr) (buf : Bytes) (files : Option (List Fd)) (h : HOut) :
    (dispatch st hdr buf files h).calls.length ≤ 1 :=
  dispatch_cases (P := fun o => o.calls.length ≤ 1) st hdr buf files h (fun _ => Nat.zero_le 1)
    fun a _ _ _ => runAct_calls_length st _ h a.act

/-- a request code outside the dispatch table never reaches the handler -/
theorem unknown_code_not_dispatched (st : BSt) (hdr : Hdr) (buf : Bytes) (files : Option (List Fd)) (h : HOut)
    (hc : ∀ a ∈ arms, a.code ≠ hdr.code) : (dispatch st hdr buf files h).calls = [] := by
  have : arms.find? (·.code == hdr.code) = none := by
    rw [List.find?_eq_none]; intro a ha; simpa using hc a ha
  simp [dispatch_unknown this]

/-- C05, "reads only inside the received message", for the memory table: when the arm gets as far as looking at regions, the body is
exactly `8 + n·32` bytes long, so each region slice is a full 32-byte slice of the received body -/
theorem mem_table_reads_within (buf : Bytes) (n : Nat) (h : buf.length = 8 + n * 32) :
    ∀ r ∈ regionsOf buf n 8, r.length = 32 :=
  regionsOf_within buf n 8 (by omega)

example : (dispatch {} ⟨99, 1, 0⟩ [] none {}).calls = [] := by decide +kernel
example : (dispatch {} ⟨3, 1, 0⟩ [] none {}).calls.length = 1 := by decide +kernel

end Props.C05
