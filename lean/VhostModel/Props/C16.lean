import VhostModel.Spec.Shutdown
import VhostModel.Model.Shutdown
import VhostModel.Lemmas.Shutdown

/-!
# C16 — daemon shutdown and teardown always complete, whatever the timing

`Model.Shutdown` is the transition system of one connection of a `VhostUserDaemon`: the daemon thread
(`pre → hdr → body → handler → reply → post → …`, exit path `fin → exited`), any number of shutdown callers
(`cStore i · cShut i`, repeatable), the peer (`pWrite n`, `pRead`, `pClose`), the owner of the daemon object
(`wJoin · wClassify`, `wNoThread`, `drop`), over the AF_UNIX socket rules listed in the model's header; and
`Model.Shutdown.TD`, the teardown system (workers, exit events, `Drop for VhostUserHandler`, the tail of `serve()`).
All theorems are for every script of peer requests `reqs` and **every schedule** `ls` accepted by `step`
(induction over `ls`; invariant `Lemmas.Shutdown.Inv`), with no bound on the number of callers or steps.

* `shutdown_then_wait_ok` — once a shutdown request has returned: flag and socket shutdown are in force for ever;
  the daemon thread is never blocked again and the number of steps it can still take is bounded by the measure
  `mu` (strictly decreasing under its steps, constant under everybody else's); every `wait()` that returns from
  then on returns `Ok`; `wait()` is enabled as soon as the thread is gone.
  `shutdown_then_wait_ok_fair` — liveness, **fairness stated explicitly**: in every infinite schedule that is
  weakly fair to the daemon thread (if it stays enabled it eventually steps) the thread terminates.
* `peer_sees_eof` — whenever the daemon thread has ended, for whatever reason, the socket has been shut down by
  us and the peer's reads return the queued data and then end-of-stream; the final socket shutdown is a step that
  is always enabled on the exit path (it cannot be skipped or blocked).
* `can_restart` — when `wait()` returns, the thread handle and the connection state are gone (`shutdown_handle()`
  is `None`), and `start` yields the initial state of a fresh connection (flag clear), to which every theorem of
  this file applies again.
* `disconnect_without_shutdown_is_error` — flag never set and thread result `e` ≠ `SocketBroken` ⇒ `wait()` =
  `Err(e)` (in particular for every disconnect observed by a read); `socket_broken_is_ok` — for `SocketBroken`
  (`ECONNRESET` after the peer closed with unread data, `EPIPE` on a reply) the code returns `Ok` by an explicit
  arm: the recorded reading of DESIGN §7, stated as such.  `wait_meets_spec` — against `Spec.Shutdown.waitDemand`;
  `exit_has_cause` — the thread never stops serving without a cause (flag stored, peer closed, drop, request error).
* `serve_maps_disconnects_and_signals_exit` — `serve()` = `wait()` followed by the exit events of *all* workers
  whatever `wait()` returned, then `Disconnected`/`PartialMessage ⇒ Ok`; meets `Spec.Shutdown.serveDemand`.
* `eof_on_request_error` — a request error makes the thread leave its loop, and from there `peer_sees_eof` applies.
* `drop_terminates_workers` — exit events supplied ⇒ `Drop for VhostUserHandler` never deadlocks, every run of
  the teardown system is finite, and when the drop has finished every worker has returned; under fairness every
  maximal run reaches that state.  `no_exit_events_join_blocks` — without exit events the join blocks (the
  hypothesis is needed).

`swapped_variant_reports_error`, `no_final_shutdown_variant_blocks_peer` — two deliberately broken variants of the
model (flag stored after the socket shutdown; exit path without the final socket shutdown) falsify the conclusions:
the theorems are not vacuous.

Assumed, not proved (DESIGN §6): the AF_UNIX rules of the model header; `Release`/`Acquire` on the one flag make
each access one atomic step; handlers terminate and do not panic; `Arc` drops the handler when its last owner
goes; OS scheduling is fair (only for the liveness statements, where it is a hypothesis).
Not covered: `serve()` returning early because the listener cannot be created or `accept` fails (then no exit
event is raised — outside the quantifier of the property, which ranges over peer behaviours and schedules);
`start()` while a previous thread is still running.
-/

namespace Props.C16
open Model.Shutdown Lemmas.Shutdown

/-! ## model error classes ↦ the Spec's vocabulary -/

def endOf : Err → Spec.Shutdown.End
  | .disconnected => .eofAtBoundary
  | .partialMsg => .eofInHeader
  | .shortBody => .eofInBody
  | .invalidMsg => .requestError
  | .reqErr => .requestError
  | .sockBroken => .socketError

def outcomeOf : WRes → Spec.Shutdown.Outcome
  | .ok => .ok
  | .err _ => .err

/-! ## clause 1: shutdown, then wait -/

/-- Safety part.  `s1` is any reachable state in which at least one shutdown request has returned; `s2` any
state reachable from it. -/
theorem shutdown_then_wait_ok (reqs : List Req) (prev : List WRes) (ls1 ls2 : List Lbl) (s1 s2 : St)
    (h1 : run (init reqs prev) ls1 = some s1) (hc : 0 < s1.completed) (h2 : run s1 ls2 = some s2) :
    -- the flag is set and the socket is shut down, for good
    (s2.flag = true ∧ s2.shut = true) ∧
    -- the daemon thread terminates: its steps are counted down by the measure …
    daemonSteps ls2 + mu s2 ≤ mu s1 ∧
    (∀ l s3, step s2 l = some s3 → (l.isDaemon = true → mu s3 < mu s2) ∧ (l.isDaemon = false → mu s3 = mu s2)) ∧
    -- … and until it is gone one of its steps is enabled (it is never blocked again)
    (s2.d.isExited = false → ∃ l, nextDaemon s2 = some l ∧ l.isDaemon = true ∧ (step s2 l).isSome = true) ∧
    -- every wait() that returns after the shutdown request returns Ok
    (∃ k, s2.results = s1.results ++ List.replicate k WRes.ok) ∧
    -- and wait() can take its steps as soon as the thread is gone
    (∀ e, s2.d = .exited e → s2.hasThread = true → s2.w = .idle → s2.dropped = false →
      ∃ s3 s4, step s2 .wJoin = some s3 ∧ step s3 .wClassify = some s4 ∧
        s4.results = s2.results ++ [WRes.ok]) := by
  have i1 := inv_reachable reqs prev ls1 s1 h1
  have i2 := inv_run s1 s2 ls2 i1 h2
  obtain ⟨f1, sh1⟩ := i1.compl hc
  have f2 := isRun.inv flag_step f1 h2
  have sh2 := isRun.inv shut_step sh1 h2
  refine ⟨⟨f2, sh2⟩, ?_, fun l s3 hs => mu_step sh2 hs, daemon_enabled s2 i2 sh2, results_ok f1 h2, ?_⟩
  · exact isRun.descent Lbl.isDaemon mu (P := fun s => s.shut = true)
      (fun _ _ _ hs h => ⟨shut_step _ _ _ hs h, mu_step_le hs h, (mu_step hs h).1⟩) sh1 h2
  · intro e hd ht hw hdr
    refine ⟨_, _, by simp [step, ht, hw, hdr, hd]; rfl, by simp [step]; rfl, ?_⟩
    simp [f2, classifyWait_flag]

/-- Liveness part, fairness explicit: in every infinite schedule that is weakly fair to the daemon thread
(whenever the thread stays enabled it eventually takes a step), once a shutdown request has returned at
position `k0` the daemon thread terminates at some later position. -/
theorem shutdown_then_wait_ok_fair (reqs : List Req) (prev : List WRes) (x : Exec)
    (h0 : x.st 0 = init reqs prev) (hf : WeakFair x) (k0 : Nat) (hc : 0 < (x.st k0).completed) :
    ∃ k, k0 ≤ k ∧ (x.st k).d.isExited = true := by
  have hi : Inv (x.st k0) :=
    Lemmas.Fair.from_on (h0 ▸ inv_init reqs prev) (fun j _ ih => inv_step _ _ _ ih (x.ok j)) k0 (Nat.zero_le _)
  exact fair_terminates x hf k0 hi (hi.compl hc).2

/-! ## clause 2: the peer observes end-of-stream -/

/-- The exit path cannot skip or block on the final socket shutdown: in `fin e` the step `dFinal` is enabled
unconditionally, is the only step of the daemon thread, and leaves the socket shut down. -/
theorem final_shutdown_always_runs (s : St) (e : Err) (hd : s.d = .fin e) :
    nextDaemon s = some .dFinal ∧
    ∃ s', step s .dFinal = some s' ∧ s'.d = .exited e ∧ s'.shut = true := by
  refine ⟨by simp [nextDaemon, hd], _, by simp [step, hd]; rfl, rfl, rfl⟩

theorem exited_peer_eof {s : St} (hi : Inv s) {e : Err} (hd : s.d = .exited e) :
    s.shut = true ∧ (peerRead s = .eof ∨ ∃ n, 0 < n ∧ peerRead s = .data n) := by
  have hs := hi.exitedShut e hd
  refine ⟨hs, ?_⟩
  by_cases hq : 0 < s.outQ
  · exact .inr ⟨s.outQ, hq, by simp [peerRead, hq]⟩
  · exact .inl (by simp [peerRead, hq, hs])

/-- After the daemon thread ended — for whatever reason — the socket has been shut down on our end, so what the
peer reads is the data still queued and then end-of-stream, never "would block". -/
theorem peer_sees_eof (reqs : List Req) (prev : List WRes) (ls : List Lbl) (s : St)
    (h : run (init reqs prev) ls = some s) (e : Err) (hd : s.d = .exited e) :
    s.shut = true ∧
    (peerRead s = .eof ∨ ∃ n, 0 < n ∧ peerRead s = .data n) ∧
    (s.peerClosed = false → ∃ s', step s .pRead = some s' ∧ peerRead s' = .eof) := by
  have ⟨hs, hr⟩ := exited_peer_eof (inv_reachable reqs prev ls s h) hd
  exact ⟨hs, hr, fun hpc => ⟨_, by simp [step, hpc]; rfl, by simp [peerRead, hs]⟩⟩

/-! ## clause 3: a new connection can be accepted -/

/-- When `wait()` returns (either arm), the thread handle and the connection state are gone and `start` gives the
initial state of a fresh connection — flag clear, socket open, no caller in flight — whatever happened before. -/
theorem can_restart (reqs : List Req) (prev : List WRes) (ls : List Lbl) (s s' : St)
    (h : run (init reqs prev) ls = some s)
    (hw : step s .wClassify = some s' ∨ step s .wNoThread = some s') (reqs' : List Req) :
    s'.hasThread = false ∧ s'.hasConn = false ∧ s'.w = .idle ∧
    restart s' reqs' = some (init reqs' s'.results) ∧
    (init reqs' s'.results).flag = false ∧ (init reqs' s'.results).shut = false ∧
    (init reqs' s'.results).completed = 0 ∧ (init reqs' s'.results).d = .pre := by
  have hi := inv_reachable reqs prev ls s h
  rcases hw with hw | hw
  · cases EStep.of_step rfl hw with
    | classify he =>
      obtain ⟨_, ht, hdr⟩ := hi.joined _ he
      simp [restart, ht, hdr, init]
  · cases EStep.of_step rfl hw with
    | noThread hc => simp [restart, hc.1, hc.2.1, hc.2.2, init]

/-- `wait()` with no thread is `Ok` and resets the connection state. -/
theorem wait_without_thread (s : St) (ht : s.hasThread = false) (hw : s.w = .idle) (hd : s.dropped = false) :
    ∃ s', step s .wNoThread = some s' ∧ s'.results = s.results ++ [WRes.ok] ∧ s'.hasConn = false :=
  ⟨_, by simp [step, ht, hw, hd]; rfl, rfl, rfl⟩

/-! ## clause 4: without a shutdown request a disconnect is an error -/

def Lbl.isStore : Lbl → Bool
  | .cStore _ => true
  | _ => false

/-- only `cStore` sets the flag -/
theorem step_noflag (s s' : St) (l : Lbl) (hl : Lbl.isStore l = false) (hf : s.flag = false)
    (h : step s l = some s') : s'.flag = false := by
  cases hd : l.isDaemon
  · cases EStep.of_step hd h with
    | store => cases hl
    | _ => exact hf
  · exact (DStep.of_step hd h).frame.1.trans hf

/-- The thread result is what `join` delivered, and with the flag never set `wait()` hands every result other
than `SocketBroken` to the caller as an error. -/
theorem disconnect_without_shutdown_is_error (reqs : List Req) (prev : List WRes) (ls : List Lbl) (s : St)
    (h : run (init reqs prev) ls = some s) (hno : ls.any Lbl.isStore = false)
    (e : Err) (hw : s.w = .joined e) (hne : e ≠ .sockBroken) :
    s.d = .exited e ∧
    ∃ s', step s .wClassify = some s' ∧ s'.results = s.results ++ [WRes.err e] := by
  have hi := inv_reachable reqs prev ls s h
  have hf : s.flag = false :=
    isRun.inv_on step_noflag (fun l m => Bool.eq_false_iff.2 (List.any_eq_false.1 hno l m)) rfl h
  refine ⟨(hi.joined e hw).1, _, by simp [step, hw]; rfl, ?_⟩
  cases e <;> simp_all [classifyWait]

/-- The recorded reading: for `SocketBroken` the explicit arm of `wait()` returns `Ok`, flag or no flag. -/
theorem socket_broken_is_ok (s : St) (hw : s.w = .joined .sockBroken) :
    ∃ s', step s .wClassify = some s' ∧ s'.results = s.results ++ [WRes.ok] :=
  ⟨_, by simp [step, hw]; rfl, by simp [classifyWait]⟩

/-- Every exit of the daemon thread has a cause: a shutdown request whose flag is already stored, a peer that
closed, a dropped daemon object, or a request error.  (So when the peer gives no reason and nobody asked for a
shutdown, the thread keeps serving — the demand table of `Spec.Shutdown.waitDemand` is exhaustive.) -/
theorem exit_has_cause (reqs : List Req) (prev : List WRes) (ls : List Lbl) (s : St)
    (h : run (init reqs prev) ls = some s) (e : Err) (hd : s.d = .fin e ∨ s.d = .exited e) :
    s.flag = true ∨ s.peerClosed = true ∨ s.dropped = true ∨ e = .invalidMsg ∨ e = .reqErr :=
  (inv_reachable reqs prev ls s h).exitCause e hd

/-- the reason the peer gave the daemon to stop serving, read off a state in which `join` delivered `e` -/
def causeOf (s : St) (e : Err) : Option Spec.Shutdown.End :=
  if s.peerClosed = true ∨ e = .invalidMsg ∨ e = .reqErr then some (endOf e) else none

/-- Model ⊨ Spec for `wait()`: in every reachable state in which `join` has delivered the thread's result, the
classification meets `Spec.Shutdown.waitDemand` — `Ok` after a completed request, `Ok` when a request is in
progress and the peer gave no reason, `Err` for a disconnect observed by a read when no request was made. -/
theorem wait_meets_spec (reqs : List Req) (prev : List WRes) (ls : List Lbl) (s : St)
    (h : run (init reqs prev) ls = some s) (e : Err) (hw : s.w = .joined e) :
    s.d = .exited e ∧
    Spec.Shutdown.meets (Spec.Shutdown.waitDemand (decide (0 < s.completed)) s.flag (causeOf s e))
      (outcomeOf (classifyWait (.err e) s.flag)) = true := by
  have hi := inv_reachable reqs prev ls s h
  refine ⟨(hi.joined e hw).1, ?_⟩
  by_cases hc : 0 < s.completed
  · have hf := (hi.compl hc).1
    simp [Spec.Shutdown.waitDemand, hc, hf, classifyWait_flag, outcomeOf, Spec.Shutdown.meets]
  · cases hf : s.flag <;> cases hp : s.peerClosed <;> cases e <;>
      simp [Spec.Shutdown.waitDemand, hc, classifyWait, outcomeOf, Spec.Shutdown.meets, endOf, causeOf, hp,
        Spec.Shutdown.End.isDisconnect]

/-- `Spec.Shutdown.endAt` for a peer close at byte offset `off` inside the first request, in closed form -/
theorem endAt_first (l off : Nat) (rest : List Nat) (ho : off < l) :
    Spec.Shutdown.endAt (l :: rest) off =
      (if off = 0 then .eofAtBoundary else if off < 12 then .eofInHeader else .eofInBody) := by
  simp only [Spec.Shutdown.endAt, Spec.Shutdown.hdrLen] at *
  by_cases h0 : off = 0
  · simp [h0]
  · by_cases h1 : off < 12 <;> simp [h0, h1, ho]

/-! ## clause 5: `serve()` -/

open Model.Shutdown.TD in
/-- `serve()`: (a) its result is `classifyServe` of what `wait()` returned — `Disconnected` and `PartialMessage`
become `Ok`, every other error stays, and that meets `Spec.Shutdown.serveDemand`; (b) whatever `wait()`
returned, when `serve()` returns every worker's exit event has been raised (if the backend supplies them);
(c) the tail of `serve()` is never blocked; (d) a worker whose event is raised can leave. -/
theorem serve_maps_disconnects_and_signals_exit :
    (∀ e flag, Spec.Shutdown.meets (Spec.Shutdown.serveDemand (endOf e))
        (outcomeOf (classifyServe (classifyWait (.err e) flag))) = true) ∧
    (∀ e, classifyServe (classifyWait (.err e) false) = .ok ↔
        (e = .disconnected ∨ e = .partialMsg ∨ e = .sockBroken)) ∧
    (∀ (c : Cfg) (ls : List TD.Lbl) (t : TD.St) (w r : WRes), TD.run c (TD.init true) ls = some t →
        t.sv = .done w r → r = classifyServe w ∧ (c.supplied = true → ∀ i, i < c.n → t.evt i = true)) ∧
    (∀ (c : Cfg) (t : TD.St) (k : Nat) (w : WRes), t.sv = .signalling k w → (TD.step c t .svSignal).isSome = true) ∧
    (∀ (c : Cfg) (t : TD.St) (w : WRes), t.sv = .waiting → (TD.step c t (.svReturn w)).isSome = true) ∧
    (∀ (c : Cfg) (t : TD.St) (i : Nat), i < c.n → t.evt i = true → t.gone i = false →
        (TD.step c t (.wkExit i)).isSome = true) := by
  refine ⟨?_, ?_, ?_, ?_, ?_, ?_⟩
  · intro e flag
    cases e <;> cases flag <;> simp [endOf, Spec.Shutdown.serveDemand, classifyWait, classifyServe, outcomeOf,
      Spec.Shutdown.meets]
  · intro e
    cases e <;> simp [classifyWait, classifyServe]
  · intro c ls t w r hr hd
    exact (Lemmas.Shutdown.TD.tinv_run c _ t ls (Lemmas.Shutdown.TD.tinv_init c true) hr).svDone w r hd
  · intro c t k w hs
    simp only [TD.step, hs]; split <;> simp
  · intro c t w hs
    simp [TD.step, hs]
  · intro c t i hi he hg
    simp [TD.step, hi, he, hg]

/-! ## clause 6: end-of-stream after a request error -/

/-- A request error — malformed header, malformed body, failing handler (after its acknowledgement, if one is
owed, was written) — makes the daemon thread leave its loop (`fin`), from where the final socket shutdown always
runs (`final_shutdown_always_runs`) and `peer_sees_eof` applies. -/
theorem eof_on_request_error :
    (∀ r : Req, r.hdrOk = false → afterHdr r = .fin .invalidMsg) ∧
    (∀ r : Req, r.hdrOk = true → r.body = 0 → r.bodyOk = false → afterHdr r = .fin .invalidMsg) ∧
    (∀ r : Req, r.hOk = false → afterHandler r = .fin .reqErr) ∧
    (∀ (s : St) (r : Req), s.d = .handler r → r.hOk = false → r.reply = 0 →
        ∃ s', step s .dHandle = some s' ∧ s'.d = .fin .reqErr) ∧
    (∀ (reqs : List Req) (prev : List WRes) (ls ls' : List Lbl) (s s' : St) (e : Err),
        run (init reqs prev) ls = some s → s.d = .fin e → run s ls' = some s' → s'.d.isExited = true →
        s'.d = .exited e ∧ s'.shut = true ∧ (peerRead s' = .eof ∨ ∃ n, 0 < n ∧ peerRead s' = .data n)) := by
  refine ⟨?_, ?_, ?_, ?_, ?_⟩
  · intro r h; simp [afterHdr, h]
  · intro r h1 h2 h3; simp [afterHdr, h1, h2, h3]
  · intro r h; simp [afterHandler, h]
  · intro s r hd h1 h2
    exact ⟨_, by simp [step, hd]; rfl, by simp [h2, afterHandler, h1]⟩
  · intro reqs prev ls ls' s s' e hr hd hr' hex
    rcases isRun.inv (fun _ _ _ hx h => step_exit hx h) (.inl hd) hr' with h1 | h1
    · simp [h1, DPc.isExited] at hex
    · exact ⟨h1, exited_peer_eof (inv_run s s' ls' (inv_reachable reqs prev ls s hr) hr') h1⟩

/-! ## clause 7: dropping the daemon terminates the workers -/

/-- `Drop for VhostUserDaemon` shuts the connection down (so that, by `shutdown_then_wait_ok`'s measure argument,
the detached daemon thread terminates and releases its reference to the handler). -/
theorem drop_shuts_connection (s : St) (hd : s.dropped = false) (hw : s.w = .idle) (hc : s.hasConn = true) :
    ∃ s', step s .drop = some s' ∧ s'.shut = true ∧ s'.hasConn = false :=
  ⟨_, by simp [step, hd, hw]; rfl, by simp [hc], rfl⟩

open Model.Shutdown.TD in
/-- `Drop for VhostUserHandler` when the backend supplies exit events, for every schedule `ls` of the teardown
system (workers, handler drop, tail of `serve()`):
(1) no deadlock: once the drop has begun and until it has finished, some step is enabled;
(2) every step strictly decreases the measure, so no run is longer than the initial measure `2n + 3 + n (+ n + 2)`;
(3) when the drop has finished, every worker has returned;
(4) hence a run that has begun the drop and cannot be extended has finished it — i.e. **under fairness (every
    enabled thread eventually steps) every maximal run terminates all workers**. -/
theorem drop_terminates_workers (c : Cfg) (hs : c.supplied = true) (b : Bool) (ls : List TD.Lbl) (t : TD.St)
    (hr : TD.run c (TD.init b) ls = some t) :
    (t.h ≠ .alive → t.h ≠ .dropped → ∃ l, (TD.step c t l).isSome = true) ∧
    (∀ l t', TD.step c t l = some t' → TD.mu c t' < TD.mu c t) ∧
    ls.length + TD.mu c t ≤ TD.mu c (TD.init b) ∧
    (t.h = .dropped → ∀ i, i < c.n → t.gone i = true) ∧
    (t.h ≠ .alive → (∀ l, TD.step c t l = none) → t.h = .dropped ∧ ∀ i, i < c.n → t.gone i = true) := by
  have hi := Lemmas.Shutdown.TD.tinv_run c _ t ls (Lemmas.Shutdown.TD.tinv_init c b) hr
  refine ⟨fun h1 h2 => Lemmas.Shutdown.TD.td_progress c t hi hs h1 h2,
          fun l t' h => Lemmas.Shutdown.TD.td_mu_step c t t' l h,
          Lemmas.Shutdown.TD.td_run_len c _ t ls hr, hi.dropped, ?_⟩
  intro h1 hnone
  have hd : t.h = .dropped := by
    by_cases h2 : t.h = .dropped
    · exact h2
    · obtain ⟨l, hl⟩ := Lemmas.Shutdown.TD.td_progress c t hi hs h1 h2
      rw [hnone l] at hl; simp at hl
  exact ⟨hd, hi.dropped hd⟩

open Model.Shutdown.TD in
/-- The hypothesis is needed: without exit events the handler's drop reaches `join` of the first worker and no
step is enabled any more (the join blocks for ever). -/
theorem no_exit_events_join_blocks :
    ∃ (ls : List TD.Lbl) (t : TD.St), TD.run ⟨1, false⟩ (TD.init false) ls = some t ∧ t.h = .joining 0 ∧
      t.gone 0 = false ∧ ∀ l, TD.step ⟨1, false⟩ t l = none := by
  refine ⟨[.hBegin, .hSignal, .hSignal], _, rfl, rfl, rfl, ?_⟩
  intro l
  cases l <;> simp [TD.step, TD.init, upd]

/-! ## the hypotheses are satisfiable: concrete scripts and schedules -/

/-- GET_FEATURES-like request: 12 bytes, handler ok, 20-byte reply -/
def rGet : Req := { body := 0, reply := 20 }
/-- SET_FEATURES-like request: 20 bytes, no reply -/
def rSet : Req := { body := 8 }
/-- a request whose handler fails, no acknowledgement owed -/
def rFail : Req := { body := 8, hOk := false }
/-- a malformed header -/
def rBad : Req := { body := 0, hdrOk := false }

structure View where
  d : DPc
  flag : Bool
  shut : Bool
  completed : Nat
  results : List WRes
  inQ : Nat
  outQ : Nat
  deriving DecidableEq, Repr

def view (s : St) : View := ⟨s.d, s.flag, s.shut, s.completed, s.results, s.inQ, s.outQ⟩

/-- shutdown while the thread is blocked in the header read (peer silent), from two callers, one of them twice;
then wait: `Ok`; the peer reads end-of-stream; restart possible -/
def exIdle : List Lbl :=
  [.dEnter, .cStore 0, .cStore 1, .cShut 1, .dEof, .cShut 0, .cStore 1, .dFinal, .cShut 1, .wJoin, .wClassify]

example : (run (init [rGet]) exIdle).map view =
    some ⟨.exited .disconnected, true, true, 3, [.ok], 0, 0⟩ := by decide
example : (run (init [rGet]) exIdle).map peerRead = some .eof := by decide
example : ((run (init [rGet]) exIdle).bind fun s => restart s [rSet]).map view =
    some ⟨.pre, false, false, 0, [.ok], 0, 0⟩ := by decide
/-- the thread is blocked before the shutdown: `dEof` is not enabled on an open, silent connection -/
example : (run (init [rGet]) [.dEnter, .dEof]).isSome = false := by decide
/-- … and `join` blocks while the thread runs -/
example : (run (init [rGet]) [.dEnter, .wJoin]).isSome = false := by decide

/-- shutdown between header and body (the peer wrote the header only) -/
example : (run (init [rSet]) [.dEnter, .pWrite 12, .dRead 12, .cStore 0, .cShut 0, .dEof, .dFinal, .wJoin, .wClassify]).map view =
    some ⟨.exited .shortBody, true, true, 1, [.ok], 0, 0⟩ := by decide
/-- shutdown inside the handler of a reply-bearing request: the reply fails with `EPIPE`, `SocketBroken` -/
example : (run (init [rGet]) [.dEnter, .pWrite 12, .dRead 5, .dRead 7, .cStore 0, .cShut 0, .dHandle, .dReply, .dFinal,
    .wJoin, .wClassify]).map view = some ⟨.exited .sockBroken, true, true, 1, [.ok], 0, 0⟩ := by decide
/-- shutdown after the reply was written: the peer reads the reply, then end-of-stream -/
example : (run (init [rGet]) [.dEnter, .pWrite 12, .dRead 12, .dHandle, .dReply, .cStore 0, .cShut 0, .dLoop, .dEnter,
    .dEof, .dFinal, .wJoin, .wClassify]).map (fun s => (view s, peerRead s)) =
    some (⟨.exited .disconnected, true, true, 1, [.ok], 0, 20⟩, .data 20) := by decide
/-- a request that was already queued when the socket was shut down is still served -/
example : (run (init [rSet, rSet]) [.pWrite 20, .cStore 0, .cShut 0, .pWrite 20, .dEnter, .dRead 12, .dRead 8, .dHandle,
    .dLoop, .dEnter, .dEof, .dFinal]).map view = some ⟨.exited .disconnected, true, true, 1, [], 0, 0⟩ := by decide

/-- no shutdown request, the peer closes at offset 0 / 5 / 15 of a 20-byte request: `wait()` = `Err` -/
example : (run (init [rSet]) [.dEnter, .pClose, .dEof, .dFinal, .wJoin, .wClassify]).map view =
    some ⟨.exited .disconnected, false, true, 0, [.err .disconnected], 0, 0⟩ := by decide
example : (run (init [rSet]) [.dEnter, .pWrite 5, .dRead 5, .pClose, .dEof, .dFinal, .wJoin, .wClassify]).map view =
    some ⟨.exited .partialMsg, false, true, 0, [.err .partialMsg], 0, 0⟩ := by decide
example : (run (init [rSet]) [.dEnter, .pWrite 15, .dRead 12, .dRead 3, .pClose, .dEof, .dFinal, .wJoin, .wClassify]).map view =
    some ⟨.exited .shortBody, false, true, 0, [.err .shortBody], 0, 0⟩ := by decide
/-- the peer closes with the reply unread: `ECONNRESET` ⇒ `SocketBroken` ⇒ `Ok` (explicit arm) -/
example : (run (init [rGet]) [.dEnter, .pWrite 12, .dRead 12, .dHandle, .dReply, .dLoop, .dEnter, .pClose, .dReset, .dFinal,
    .wJoin, .wClassify]).map view = some ⟨.exited .sockBroken, false, true, 0, [.ok], 0, 0⟩ := by decide
/-- a caller between its two steps when the peer closes: `wait()` can see the error only with the flag set -/
example : (run (init [rGet]) [.dEnter, .cStore 0, .pClose, .dEof, .dFinal, .wJoin, .wClassify, .cShut 0]).map view =
    some ⟨.exited .disconnected, true, true, 1, [.ok], 0, 0⟩ := by decide
/-- request errors: failing handler, malformed header -/
example : (run (init [rFail]) [.dEnter, .pWrite 20, .dRead 20, .dRead 8, .dHandle]).isSome = false := by decide
example : (run (init [rFail]) [.dEnter, .pWrite 20, .dRead 12, .dRead 8, .dHandle, .dFinal, .pRead]).map
    (fun s => (view s, peerRead s)) = some (⟨.exited .reqErr, false, true, 0, [], 0, 0⟩, .eof) := by decide
example : (run (init [rBad]) [.dEnter, .pWrite 12, .dRead 12, .dFinal]).map view =
    some ⟨.exited .invalidMsg, false, true, 0, [], 0, 0⟩ := by decide
/-- dropping the daemon shuts the connection down; the detached thread ends -/
example : (run (init [rGet]) [.dEnter, .drop, .dEof, .dFinal]).map view =
    some ⟨.exited .disconnected, false, true, 0, [], 0, 0⟩ := by decide

/-- teardown with two workers: `serve()` returns, then the handler is dropped -/
def exTd : List TD.Lbl :=
  [.svReturn (.err .disconnected), .svSignal, .wkExit 0, .svSignal, .svSignal, .hBegin, .hSignal, .hSignal, .hSignal,
   .hJoin, .wkExit 1, .hJoin, .hJoin]

example : (TD.run ⟨2, true⟩ (TD.init true) exTd).map (fun t => (t.h, t.sv, t.gone 0, t.gone 1, t.evt 0, t.evt 1)) =
    some (.dropped, .done (.err .disconnected) .ok, true, true, true, true) := by decide
/-- `join` of a worker that has not returned blocks -/
example : (TD.run ⟨2, true⟩ (TD.init false) [.hBegin, .hSignal, .hSignal, .hSignal, .hJoin]).isSome = false := by decide

/-! ## the flag/socket order matters: the variant with the two steps of a shutdown request swapped

`shutdown()` = `conn.shutdown(Both)` first, flag afterwards.  Then a `wait()` that runs between the two steps
sees the thread's error with the flag still clear. -/

def stepSwapped (s : St) : Lbl → Option St
  | .cStore i =>   -- first step: socket shutdown
    if s.callers i = .idle then some { s with callers := upd s.callers i .stored, shut := true } else none
  | .cShut i =>    -- second step: flag
    if s.callers i = .stored then
      some { s with callers := upd s.callers i .idle, flag := true, completed := s.completed + 1 }
    else none
  | l => step s l

def runSwapped : St → List Lbl → Option St
  | s, [] => some s
  | s, l :: ls =>
    match stepSwapped s l with
    | none => none
    | some s' => runSwapped s' ls

/-- In the swapped variant the conclusion of `shutdown_then_wait_ok` fails for a `wait()` that overlaps the
request; the faithful model returns `Ok` on the corresponding schedule (there `cStore` does not shut the socket down,
so the end-of-stream the daemon thread reads comes from the peer's `pClose`). -/
theorem swapped_variant_reports_error :
    (runSwapped (init [rGet]) [.dEnter, .cStore 0, .dEof, .dFinal, .wJoin, .wClassify, .cShut 0]).map (·.results) =
      some [.err .disconnected] ∧
    (run (init [rGet]) [.dEnter, .cStore 0, .pClose, .dEof, .dFinal, .wJoin, .wClassify, .cShut 0]).map (·.results) =
      some [.ok] := by decide

/-! ## the final socket shutdown matters: the variant that leaves it out on the error path -/

def stepNoFinal (s : St) : Lbl → Option St
  | .dFinal =>
    match s.d with
    | .fin e => some { s with d := .exited e }     -- `result` returned without `conn.shutdown(Both)`
    | _ => none
  | l => step s l

def runNoFinal : St → List Lbl → Option St
  | s, [] => some s
  | s, l :: ls =>
    match stepNoFinal s l with
    | none => none
    | some s' => runNoFinal s' ls

/-- Without the final shutdown a request error ends the thread while the connection stays open (a shutdown
handle or the daemon object still holds the socket): the peer's read would block instead of returning
end-of-stream; the faithful model delivers end-of-stream on the same schedule. -/
theorem no_final_shutdown_variant_blocks_peer :
    (runNoFinal (init [rBad]) [.dEnter, .pWrite 12, .dRead 12, .dFinal]).map (fun s => (s.d, peerRead s)) =
      some (.exited .invalidMsg, .wouldBlock) ∧
    (run (init [rBad]) [.dEnter, .pWrite 12, .dRead 12, .dFinal]).map (fun s => (s.d, peerRead s)) =
      some (.exited .invalidMsg, .eof) := by decide

end Props.C16
