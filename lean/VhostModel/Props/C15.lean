import VhostModel.Lemmas.BitmapC15

/-!
# C15 — dirty-page logging records every backend write, precisely and atomically

`Model.Bitmap` transcribes `bitmap.rs` (`AtomicBitmapMmap::new`, the `mark_dirty` page loop with its `break` and saturating
add, `BitmapMmapRegion` base / `slice_at` / `checked_add`, `MmapLogReg`'s bounds-asserted indexing, one `fetch_or` = one
atomic step) and the log handling of `handler.rs` as repaired by `fix-c15-log-retain.patch` (the handler keeps the
`Arc<MmapLogReg>`; regions created by later SET_MEM_TABLE / ADD_MEM_REG get a bitmap on it or the request is refused).
`Spec.DirtyLog` is the property statement.  `usize` values are naturals with explicit `≤ usizeMax` hypotheses.

Theorems:
* `accept_iff_log_covers`          SET_LOG_BASE accepted ⇔ the log has the byte of every region's highest page
* `indices_in_bounds`, `markDirty_total`   every index touched is `< logLen`: the `assert!(index < self.len)` never fires
* `mark_exact`                     page-aligned region, any slice chain, any offset/length (0, huge, overflowing):
                                   log' = log OR exactly the bits (bit p%8 of byte p/8) of the touched pages in the region
* `write_exact`                    corollary for a write that lies inside the region: exactly `Spec.DirtyLog.pages`
* `concurrent_no_lost_bits`, `interleavings_agree`   k writers, every interleaving of their `fetch_or`s gives the OR of all
* `logging_survives_table_change`  after ANY history of SET_LOG_BASE / SET_MEM_TABLE / ADD_MEM_REG / REM_MEM_REG, if a log
                                   is in force every region of the current table logs into it, exactly (`mark_exact`);
  `logging_stays_in_force`         and a log, once accepted, stays in force
* `logging_lost_counterexample`    the handler of the UNMODIFIED tree (`stepOld`) violates this: a region added after
                                   SET_LOG_BASE has no bitmap, a write to it marks nothing — finding F-C15-retain.

Outside the domain (recorded, not alarmed): regions whose start or size is not a multiple of 4096 (F-C15-unaligned).
-/

namespace Props.C15
open Model.Bitmap Lemmas.Bitmap
open Spec.DirtyLog (Region touched covers LoggedExactly)
open Lemmas.BitmapC15

/-- **every index touched is inside the log mapping** (the `assert!(index < self.len)` of `MmapLogReg::index` can never
fire), for every bitmap that `AtomicBitmapMmap::new` accepted, through any slice, for any offset and length -/
theorem indices_in_bounds (start size logLen : Nat) (bm : AtomicBitmapMmap)
    (hnew : AtomicBitmapMmap.new start size logLen = some bm) (base offset len : Nat) :
    ∀ s ∈ ({ inner := some bm, base := base } : BitmapMmapRegion).markSteps offset len, s.idx < logLen := by
  intro s hs
  obtain ⟨p, ⟨_, _, _, _, hp⟩, rfl⟩ := (mem_region_markSteps _ _ _ _ _).1 hs
  obtain ⟨_, _, hc, rfl⟩ := (new_eq_some_iff _ _ _ _).1 hnew
  exact arith_bounds start size logLen p hc hp
/-- consequently `mark_dirty` never panics on a log of the mapped length -/
theorem markDirty_total (start size logLen : Nat) (bm : AtomicBitmapMmap)
    (hnew : AtomicBitmapMmap.new start size logLen = some bm) (log : List UInt8) (hlog : log.length = logLen)
    (base offset len : Nat) :
    (({ inner := some bm, base := base } : BitmapMmapRegion).markDirty log offset len).isSome = true := by
  obtain ⟨log', h, _⟩ := runSteps_spec _ log (by
    intro s hs; rw [hlog]; exact indices_in_bounds start size logLen bm hnew base offset len s hs)
  unfold BitmapMmapRegion.markDirty; rw [h]; rfl
/-- **exactness**: after `mark_dirty(offset, len)` on any slice (`slice_at` chain `sl`) of the bitmap of a page-aligned
region `r` whose bitmap was accepted for a log of `logLen` bytes, the log is the old log OR-ed with exactly the bits of
the pages that the write `[r.gpa + Σsl + offset, +len)` touches inside the region: bit `p % 8` of byte `p / 8`.
Holds for `len = 0`, for lengths up to `usize::MAX`, and for offsets whose sum exceeds `usize` (nothing is marked and
nothing inside the region is touched). -/
theorem mark_exact (r : Region) (logLen : Nat) (bm : AtomicBitmapMmap) (log : List UInt8) (sl : List Nat) (offset len : Nat)
    (hal : r.aligned) (hsz : r.size ≤ usizeMax)
    (hnew : AtomicBitmapMmap.new r.gpa r.size logLen = some bm) (hlog : log.length = logLen) :
    ∃ log', (({ inner := some bm, base := 0 } : BitmapMmapRegion).slices sl).markDirty log offset len = some log' ∧
      LoggedExactly log log' (fun p => touched (r.gpa + sl.sum + offset) len p ∧ r.hasPage p) := by
  rw [slices_eq _ _ _ (Nat.zero_le _), Nat.zero_add]
  obtain ⟨log', hrun, hlen, hbits⟩ := runSteps_logged _ _ _ log (mem_region_markSteps bm _ offset len) (by
    intro s hs; rw [hlog]; exact indices_in_bounds r.gpa r.size logLen bm hnew _ offset len s hs)
  refine ⟨log', hrun, hlen, fun P hP => (hbits P hP).trans (or_congr Iff.rfl ?_)⟩
  obtain ⟨_, hfit, _, rfl⟩ := (new_eq_some_iff _ _ _ _).1 hnew
  exact marked_iff_touched r.gpa r.size sl.sum offset len P hal.1 hal.2.1 hal.2.2 hfit hsz
/-- the hypotheses of `mark_exact` / `indices_in_bounds` are satisfiable: an aligned region at a non-zero address whose pages
share log byte 0 with a neighbour, a log of exactly the needed size -/
example : (⟨0x5000, 0x3000⟩ : Region).aligned ∧
    AtomicBitmapMmap.new 0x5000 0x3000 1 = some { logLen := 1, pagesBeforeRegion := 5, numberOfPages := 3 } ∧
    (({ inner := some { logLen := 1, pagesBeforeRegion := 5, numberOfPages := 3 }, base := 0 } : BitmapMmapRegion).slices [0, 0xfff]).markDirty
      [0x00] 0 2 = some [0x60] := by
  refine ⟨by unfold Region.aligned Spec.DirtyLog.pageSize; decide, by decide, by decide⟩
/-! ### concurrency -/
/-- **no lost bits**: for any number of writers and ANY interleaving of their atomic `fetch_or` steps, the resulting log
is the old log OR-ed with every bit any writer set — nothing is lost, nothing else changes -/
theorem concurrent_no_lost_bits (ws : List (List Step)) (tr : List Step) (log : List UInt8)
    (hint : Interleave ws tr) (hin : ∀ w ∈ ws, ∀ s ∈ w, s.idx < log.length) :
    ∃ log', runSteps log tr = some log' ∧ log'.length = log.length ∧
      ∀ i j, byteBit log' i j = (byteBit log i j || ws.any (fun w => w.any (hits i j))) := by
  have hm := interleave_mem ws tr hint
  obtain ⟨log', h1, h2, h3⟩ := runSteps_spec tr log (by
    intro s hs; obtain ⟨w, hw, hsw⟩ := (hm s).1 hs; exact hin w hw s hsw)
  refine ⟨log', h1, h2, ?_⟩
  intro i j
  rw [h3]
  congr 1
  rw [Bool.eq_iff_iff]
  simp only [List.any_eq_true]
  constructor
  · rintro ⟨s, hs, hh⟩
    obtain ⟨w, hw, hsw⟩ := (hm s).1 hs
    exact ⟨w, hw, s, hsw, hh⟩
  · rintro ⟨w, hw, s, hsw, hh⟩
    exact ⟨s, (hm s).2 ⟨w, hw, hsw⟩, hh⟩
example : Interleave [[⟨0, 1⟩, ⟨0, 4⟩], [⟨0, 2⟩]] [⟨0, 1⟩, ⟨0, 2⟩, ⟨0, 4⟩] :=
  .pick _ 0 ⟨0, 1⟩ [⟨0, 4⟩] _ rfl (.pick _ 1 ⟨0, 2⟩ [] _ rfl (.pick _ 0 ⟨0, 4⟩ [] _ rfl (.done _ (by decide))))
/-- all interleavings agree (and agree with running the writers one after the other) -/
theorem interleavings_agree (ws : List (List Step)) (tr1 tr2 : List Step) (log : List UInt8)
    (h1 : Interleave ws tr1) (h2 : Interleave ws tr2) (hin : ∀ w ∈ ws, ∀ s ∈ w, s.idx < log.length) :
    runSteps log tr1 = runSteps log tr2 := by
  obtain ⟨l1, e1, n1, b1⟩ := concurrent_no_lost_bits ws tr1 log h1 hin
  obtain ⟨l2, e2, n2, b2⟩ := concurrent_no_lost_bits ws tr2 log h2 hin
  rw [e1, e2]
  congr 1
  apply log_ext _ _ (by omega)
  intro i j; rw [b1, b2]
/-! ### SET_LOG_BASE acceptance -/
/-- **SET_LOG_BASE is accepted iff the log covers every region** (the byte of each region's highest page exists);
regions are non-empty and end below `2^64` (which vm-memory guarantees) -/
theorem accept_iff_log_covers (s : HState) (logLen : Nat)
    (hreg : ∀ r ∈ s.regions, 0 < r.len ∧ r.start + r.len - 1 ≤ usizeMax) :
    (setLogBase s logLen).isSome = true ↔ ∀ r ∈ s.regions, covers logLen ⟨r.start, r.len⟩ := by
  have : (setLogBase s logLen).isSome = (buildAll logLen s.regions).isSome := by
    unfold setLogBase; cases buildAll logLen s.regions <;> rfl
  rw [this, buildAll_isSome_iff]
  exact forall₂_congr fun r hr => accept_region_iff ⟨r.start, r.len⟩ logLen (hreg r hr).1 (hreg r hr).2
example : (setLogBase { regions := [⟨0x5000, 0x3000, none⟩, ⟨0x8000, 0x2000, none⟩], logmem := none, nextLog := 0 } 2).isSome = true
    ∧ (setLogBase { regions := [⟨0x5000, 0x3000, none⟩, ⟨0x8000, 0x2000, none⟩], logmem := none, nextLog := 0 } 1).isSome = false := by
  decide
/-! ### logging survives table changes -/
/-- every region of the table logs into the handler's current log -/
def Inv (s : HState) : Prop :=
  ∀ id logLen, s.logmem = some (id, logLen) →
    ∀ r ∈ s.regions, ∃ bm, r.bitmap = some (id, bm) ∧ AtomicBitmapMmap.new r.start r.len logLen = some bm
/-- the state after an accepted request -/
theorem step_eq_some (s s' : HState) (op : Op) (h : step s op = some s') :
    match op with
    | .setLogBase n => ∃ bms, buildAll n s.regions = some bms ∧
        s' = { regions := (s.regions.zip bms).map (fun (r, bm) => { r with bitmap := some (s.nextLog, bm) }),
               logmem := some (s.nextLog, n), nextLog := s.nextLog + 1 }
    | .setMemTable regs => ∃ rs, mapOpt (fun (a, l) => logRegion s a l) regs = some rs ∧ s' = { s with regions := rs }
    | .addMemReg a l => ∃ r, logRegion s a l = some r ∧ s' = { s with regions := insertSorted r s.regions }
    | .remMemReg a l => s' = { s with regions := s.regions.filter (fun r => !(r.start == a && r.len == l)) } := by
  cases op <;> simp only [step, setLogBase, setMemTable, addMemReg, remMemReg] at h ⊢ <;> split at h <;>
    simp_all

theorem step_inv (s s' : HState) (op : Op) (h : step s op = some s') (hi : Inv s) : Inv s' := by
  have h' := step_eq_some s s' op h
  intro id logLen hl x hx
  cases op with
  | setLogBase n =>
    obtain ⟨bms, hb, rfl⟩ := h'
    obtain ⟨rfl, rfl⟩ : s.nextLog = id ∧ n = logLen := by simpa using hl
    exact buildAll_zip _ _ _ _ hb x hx
  | setMemTable regs =>
    obtain ⟨rs, hm, rfl⟩ := h'
    obtain ⟨y, _, e⟩ := mapOpt_mem _ _ _ hm x hx
    exact logRegion_inv s y.1 y.2 x e id logLen hl
  | addMemReg a l =>
    obtain ⟨r, hr, rfl⟩ := h'
    rcases (mem_insertSorted r x s.regions).1 hx with rfl | hx
    · exact logRegion_inv s a l _ hr id logLen hl
    · exact hi id logLen hl x hx
  | remMemReg a l =>
    obtain rfl : s' = _ := h'
    exact hi id logLen hl x (List.mem_filter.1 hx).1
theorem run_inv (ops : List Op) (s : HState) (hi : Inv s) : Inv (run step s ops) := by
  induction ops generalizing s with
  | nil => exact hi
  | cons op ops ih =>
    unfold run
    cases h : step s op with
    | none => exact ih s hi
    | some s' => exact ih s' (step_inv s s' op h hi)
theorem step_logmem (s s' : HState) (op : Op) (h : step s op = some s') (hl : s.logmem.isSome = true) :
    s'.logmem.isSome = true := by
  have h' := step_eq_some s s' op h
  cases op with
  | setLogBase n => obtain ⟨_, _, rfl⟩ := h'; rfl
  | setMemTable regs => obtain ⟨_, _, rfl⟩ := h'; exact hl
  | addMemReg a l => obtain ⟨_, _, rfl⟩ := h'; exact hl
  | remMemReg a l => obtain rfl : s' = _ := h'; exact hl

/-- once a log has been accepted the handler never forgets it -/
theorem logmem_sticky (ops : List Op) (s : HState) (h : s.logmem.isSome = true) :
    (run step s ops).logmem.isSome = true := by
  induction ops generalizing s with
  | nil => exact h
  | cons op ops ih =>
    unfold run
    cases hs : step s op with
    | none => exact ih s h
    | some s' => exact ih s' (step_logmem s s' op hs h)
/-! ### the property's history clause -/
/-- a write that lies inside the region: exactly the pages of `Spec.DirtyLog.pages` -/
theorem write_exact (r : Region) (logLen : Nat) (bm : AtomicBitmapMmap) (log : List UInt8) (sl : List Nat) (offset len : Nat)
    (hal : r.aligned) (hsz : r.size ≤ usizeMax)
    (hnew : AtomicBitmapMmap.new r.gpa r.size logLen = some bm) (hlog : log.length = logLen)
    (hin : sl.sum + offset + len ≤ r.size) :
    ∃ log', (({ inner := some bm, base := 0 } : BitmapMmapRegion).slices sl).markDirty log offset len = some log' ∧
      LoggedExactly log log' (fun p => touched (r.gpa + sl.sum + offset) len p) := by
  obtain ⟨log', h1, h2, h3⟩ := mark_exact r logLen bm log sl offset len hal hsz hnew hlog
  refine ⟨log', h1, h2, ?_⟩
  intro p hp
  rw [h3 p hp]
  apply or_congr Iff.rfl
  constructor
  · exact fun h => h.1
  · intro h
    refine ⟨h, ?_⟩
    obtain ⟨a1, a2, a3⟩ := hal
    obtain ⟨t1, t2, t3⟩ := h
    unfold Region.hasPage
    simp only [Spec.DirtyLog.firstPage, Spec.DirtyLog.lastPage, Spec.DirtyLog.pageSize] at *
    omega
example : Spec.DirtyLog.pages 0x5fff 2 = [5, 6] ∧ Spec.DirtyLog.pages 0x5000 0 = [] := by decide
/-- **logging stays in force for all guest memory across later memory-table changes** (repaired handler): after any
history, if the handler has a log (id, length), every region of the current table has a bitmap on that very log, the
bitmap `AtomicBitmapMmap::new` built for it; hence (for page-aligned regions) every write through it is logged exactly. -/
theorem logging_survives_table_change (ops : List Op) (id logLen : Nat)
    (hl : (run step HState.init ops).logmem = some (id, logLen)) :
    ∀ r ∈ (run step HState.init ops).regions,
      ∃ bm, r.bitmap = some (id, bm) ∧ AtomicBitmapMmap.new r.start r.len logLen = some bm ∧
        ((⟨r.start, r.len⟩ : Region).aligned → r.len ≤ usizeMax →
          ∀ (log : List UInt8) (sl : List Nat) (offset len : Nat), log.length = logLen →
            ∃ log', (r.bm.slices sl).markDirty log offset len = some log' ∧
              LoggedExactly log log'
                (fun p => touched (r.start + sl.sum + offset) len p ∧ (⟨r.start, r.len⟩ : Region).hasPage p)) := by
  intro r hr
  have hinv : Inv (run step HState.init ops) := run_inv ops HState.init (by intro _ _ h; cases h)
  obtain ⟨bm, hb, hn⟩ := hinv id logLen hl r hr
  refine ⟨bm, hb, hn, ?_⟩
  intro hal hsz log sl offset len hlog
  have : r.bm = { inner := some bm, base := 0 } := by unfold Reg.bm; rw [hb]; rfl
  rw [this]
  exact mark_exact ⟨r.start, r.len⟩ logLen bm log sl offset len hal hsz hn hlog
/-- an accepted SET_LOG_BASE stays in force whatever requests follow -/
theorem logging_stays_in_force (before after : List Op) (n : Nat)
    (hacc : (step (run step HState.init before) (.setLogBase n)).isSome = true) :
    (run step HState.init (before ++ [.setLogBase n] ++ after)).logmem.isSome = true := by
  rw [run_append, run_append]
  apply logmem_sticky
  obtain ⟨s', hs⟩ := Option.isSome_iff_exists.1 hacc
  obtain ⟨_, _, rfl⟩ := step_eq_some _ s' _ hs
  simp only [run, hs]; rfl
example : (run step HState.init [.setMemTable [(0x5000, 0x3000)], .setLogBase 8, .addMemReg 0x10000 0x1000]).regions.map (·.bitmap.isSome)
    = [true, true] := by decide
/-- **F-C15-retain**: in the handler of the unmodified tree a region added after SET_LOG_BASE has no bitmap; a one-byte
write at its first address touches page 16 but produces no `fetch_or` at all — logging silently stopped for it, while the
older region still logs -/
theorem logging_lost_counterexample :
    let s := run stepOld HState.init [.setMemTable [(0x5000, 0x3000)], .setLogBase 8, .addMemReg 0x10000 0x1000]
    s.logmem.isSome = true ∧
    s.regions.map (fun r => (r.start, r.bitmap.isSome)) = [(0x5000, true), (0x10000, false)] ∧
    (s.regions.map (fun r => r.bm.markSteps 0 1)) = [[⟨0, bitMask 5⟩], []] ∧
    touched 0x10000 1 16 := by
  decide
/-- …and the same after a SET_MEM_TABLE that follows SET_LOG_BASE: no region logs any more -/
theorem logging_lost_after_set_mem_table_counterexample :
    let s := run stepOld HState.init [.setLogBase 8, .setMemTable [(0x0, 0x8000)]]
    s.logmem.isSome = true ∧ s.regions.map (fun r => r.bm.markSteps 0 0x8000) = [[]] ∧ touched 0 0x8000 3 := by
  decide

end Props.C15
