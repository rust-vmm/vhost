import VhostModel.Lemmas.ReachSrv
import VhostModel.Lemmas.OwedGuards
import VhostModel.Props.FrontendOps
import VhostModel.Lemmas.RequestInv
import VhostModel.Lemmas.Wire
import VhostModel.Props.C08
import VhostModel.Props.C02
/-!
# C02 — composition of the two endpoint models: an accepted API call reaches the handler exactly once, with the caller's arguments

Over `Model.Frontend.request` (tied to `frontend.rs` by the `fe` family) composed with `Model.BackendSrv.dispatch` /
`step` (tied to `backend_req_handler.rs` by the `srv` family).  Proved for **all** states, argument values, handler
scripts and — on the wire — all choosers (segmentations / arrival timings):

* `call_reaches_handler` — `request s op = .ok (req, s')`, `ArgsInRange op`, `ServerAccepts bst s req` ⟹
  `∃ c, callOf op = some c ∧ (dispatch bst (reqHdr s req) req.body files h).calls = [c]`: exactly one handler
  invocation, with the caller's operation (mapped to the handler's method name), numeric arguments, payload bytes and
  descriptor tokens; for every operation of `Model.Frontend.request` (34 names, 36 accepting branches).  The core is
  decode ∘ encode = id per message struct through the GENERATED layout (`Lemmas.Encode`); the request passes every
  guard of its arm (`guards_hold`, over `Lemmas.BackendSrv.holds`, once for all operations) and the action makes the call
  `Lemmas.BackendSrv.runAct_calls` describes (`set_mem_table`: `Lemmas.ReachSrv`, by induction over the region list).
* `step_is_dispatch`, `call_reaches_handler_stream` — the same for `step` fed with `segCells (wire s req) req.fds`
  (one `sendmsg`), for every chooser, through `Props.C08.step_framed`; the message is consumed entirely.
* `session_calls` — by induction over a session of accepted operations the handler log is
  `ops.filterMap callOf`, in order.

Hypotheses (both decidable):
* `ArgsInRange op`: each numeric argument fits the type the API declares (`u64`/`u32`/`u16`/`bool`/16-byte UUID; the
  model's arguments are unbounded `Nat`s), and `get_config`'s buffer has the requested size (DESIGN.md, C02 limits).
* `ServerAccepts bst s req` (depends on the frontend state only through the header flags): the request code is one the
  server implements; the protocol-feature bit of `Spec.Proto.gate req.code` is acknowledged in `bst.ackedProto` (bit 30
  of `bst.acked` for ring enable); `reqFlags s` has no REPLY bit; `req.fds` has exactly
  `Spec.Proto.filesPrescribed req.code req.body` entries; and — only where the server runs a non-trivial generated
  validator that the API call does not run itself — that validator accepts the body (`bodyOk`: ring addresses,
  GET_INFLIGHT_FD, ADD/REM_MEM_REG, device-state transfer, log region, the regions of a memory table).  The validators
  for GET/SET_CONFIG, GET_SHARED_OBJECT, SET_INFLIGHT_FD and the memory-table header are *derived* from the API's own
  checks.

**Findings** (the statement is false of the models for these API calls; proved as theorems below):
* `set_log_fd_counterexample` — `set_log_fd(fd)` is accepted and writes SET_LOG_FD with the descriptor; the request
  server has no arm for it: the handler is never invoked (any server state, any chooser).
* `set_log_base_plain_counterexample` — `set_log_base(base, None)` (or a region without LOG_SHMFD on the frontend)
  writes the 8-byte base without descriptor; this server refuses every such request: handler never invoked.
* `set_log_base_base_not_transmitted` — with a region, the `base` argument does not reach the wire at all
  (`callOf` therefore lists `[mmap_size, mmap_offset]` and the descriptor only, as the handler's signature does).
-/
namespace Props.C02Reach
open Base Model.Stream Model.Msgs Model.Frontend Lemmas.Encode Lemmas.Reach Lemmas.ReachSrv Lemmas.RequestInv
open Model.BackendSrv (BSt HOut Call Hdr Arm Ctx dispatch step bitSet bodyValid regionsOf arms runGuards runGuard runAct argsOf)

/-! ## what the handler is to be invoked with, from the caller's point of view -/

def callOf (op : Op) : Option Call :=
  match op.name, op.a with
  | "get_features", _ => some ⟨"get_features", [], [], []⟩
  | "set_features", [v] => some ⟨"set_features", [v], [], []⟩
  | "set_owner", _ => some ⟨"set_owner", [], [], []⟩
  | "reset_owner", _ => some ⟨"reset_owner", [], [], []⟩
  | "set_mem_table", _ => some ⟨"set_mem_table", op.regions.flatMap regionArgs, [], op.fds⟩
  | "set_log_base", [base] => some ⟨"set_log_base", [base], [], []⟩
  | "set_log_base", [_, size, off] => some ⟨"set_log_base", [size, off], [], op.fds⟩
  | "set_log_fd", _ => some ⟨"set_log_fd", [], [], op.fds⟩
  | "set_vring_num", [i, n] => some ⟨"set_vring_num", [i, n], [], []⟩
  | "set_vring_addr", [i, fl, d, u, a, lg] => some ⟨"set_vring_addr", [i, fl, d, u, a, lg], [], []⟩
  | "set_vring_base", [i, b] => some ⟨"set_vring_base", [i, b], [], []⟩
  | "get_vring_base", [i] => some ⟨"get_vring_base", [i], [], []⟩
  | "set_vring_call", [i] => some ⟨"set_vring_call", [i], [], op.fds⟩
  | "set_vring_kick", [i] => some ⟨"set_vring_kick", [i], [], op.fds⟩
  | "set_vring_err", [i] => some ⟨"set_vring_err", [i], [], op.fds⟩
  | "get_protocol_features", _ => some ⟨"get_protocol_features", [], [], []⟩
  | "set_protocol_features", [v] => some ⟨"set_protocol_features", [v], [], []⟩
  | "get_queue_num", _ => some ⟨"get_queue_num", [], [], []⟩
  | "reset_device", _ => some ⟨"reset_device", [], [], []⟩
  | "set_vring_enable", [i, e] => some ⟨"set_vring_enable", [i, e], [], []⟩
  | "get_config", [off, size, fl, _] => some ⟨"get_config", [off, size, fl], [], []⟩
  | "set_config", [off, fl] => some ⟨"set_config", [off, fl], op.payload, []⟩
  | "set_backend_req_fd", _ => some ⟨"set_backend_req_fd", [], [], op.fds⟩
  | "get_shared_object", [u] => some ⟨"get_shared_object", [u], [], []⟩
  | "get_inflight_fd", [ms, mo, nq, qs] => some ⟨"get_inflight_fd", [ms, mo, nq, qs], [], []⟩
  | "set_inflight_fd", [ms, mo, nq, qs] => some ⟨"set_inflight_fd", [ms, mo, nq, qs], [], op.fds⟩
  | "get_max_mem_slots", _ => some ⟨"get_max_mem_slots", [], [], []⟩
  | "add_mem_region", [g, sz, u, o] => some ⟨"add_mem_region", [g, sz, u, o], [], op.fds⟩
  | "remove_mem_region", [g, sz, u, o] => some ⟨"remove_mem_region", [g, sz, u, o], [], []⟩
  | "get_shmem_config", _ => some ⟨"get_shmem_config", [], [], []⟩
  | "set_device_state_fd", [d, p] => some ⟨"set_device_state_fd", [d, p], [], op.fds⟩
  | "check_device_state", _ => some ⟨"check_device_state", [], [], []⟩
  | "postcopy_advise", _ => some ⟨"postcopy_advice", [], [], []⟩
  | "postcopy_listen", _ => some ⟨"postcopy_listen", [], [], []⟩
  | "postcopy_end", _ => some ⟨"postcopy_end", [], [], []⟩
  | _, _ => none

/-- every numeric argument fits the type the API declares for it (`u64`, `u32`, `u16`, `bool`, 16-byte UUID), and the
buffer handed to `get_config` has the requested size -/
def argsInRange (op : Op) : Bool :=
  match op.name, op.a with
  | "set_features", [v] => decide (v < 2^64)
  | "set_protocol_features", [v] => decide (v < 2^64)
  | "set_mem_table", _ => op.regions.all regionInRange
  | "set_log_base", [base] => decide (base < 2^64)
  | "set_log_base", [base, size, off] => decide (base < 2^64) && decide (size < 2^64) && decide (off < 2^64)
  | "set_vring_num", [i, n] => decide (i < 2^32) && decide (n < 2^32)
  | "set_vring_addr", [i, fl, d, u, a, lg] =>
    decide (i < 2^32) && decide (fl < 2^32) && decide (d < 2^64) && decide (u < 2^64) && decide (a < 2^64) && decide (lg < 2^64)
  | "set_vring_base", [i, b] => decide (i < 2^32) && decide (b < 2^32)
  | "get_vring_base", [i] => decide (i < 2^32)
  | "set_vring_enable", [i, e] => decide (i < 2^32) && decide (e ≤ 1)
  | "get_config", [off, size, fl, _] =>
    decide (off < 2^32) && decide (size < 2^32) && decide (fl < 2^32) && op.payload.length == size
  | "set_config", [off, fl] => decide (off < 2^32) && decide (fl < 2^32)
  | "get_shared_object", [u] => decide (u < 2^128)
  | "get_inflight_fd", [ms, mo, nq, qs] => decide (ms < 2^64) && decide (mo < 2^64) && decide (nq < 2^16) && decide (qs < 2^16)
  | "set_inflight_fd", [ms, mo, nq, qs] => decide (ms < 2^64) && decide (mo < 2^64) && decide (nq < 2^16) && decide (qs < 2^16)
  | "add_mem_region", [g, sz, u, o] => decide (g < 2^64) && decide (sz < 2^64) && decide (u < 2^64) && decide (o < 2^64)
  | "remove_mem_region", [g, sz, u, o] => decide (g < 2^64) && decide (sz < 2^64) && decide (u < 2^64) && decide (o < 2^64)
  | "set_device_state_fd", [d, p] => decide (d < 2^32) && decide (p < 2^32)
  | _, _ => true

def ArgsInRange (op : Op) : Prop := argsInRange op = true
instance (op : Op) : Decidable (ArgsInRange op) := inferInstanceAs (Decidable (_ = true))

/-- request types whose body the server runs a non-trivial generated validator on, and the frontend does not -/
def validatedTy : Nat → Option String
  | 9 => some "VhostUserVringAddr"
  | 31 => some "VhostUserInflight"
  | 37 | 38 => some "VhostUserSingleMemoryRegion"
  | 42 => some "VhostUserTransferDeviceState"
  | 6 => some "VhostUserLog"
  | _ => none

def bodyOk (code : Nat) (body : Bytes) : Bool :=
  match code with
  | 5 => (regionsOf body (Model.BackendSrv.g body "VhostUserMemory" ["num_regions"]) 8).all
           (fun r => bodyValid "VhostUserMemoryRegion" r == some true)
  | c => match validatedTy c with
    | some ty => bodyValid ty body == some true
    | none => true

def serverAccepts (bst : BSt) (s : FSt) (req : Req) : Bool :=
  Spec.Proto.implemented.contains req.code &&
  (match Spec.Proto.gate req.code with | some b => bitSet bst.ackedProto b | none => true) &&
  (req.code != 18 || bitSet bst.acked 30) &&
  !bitSet (reqFlags s) 2 &&
  req.fds.length == Spec.Proto.filesPrescribed req.code req.body &&
  bodyOk req.code req.body

def ServerAccepts (bst : BSt) (s : FSt) (req : Req) : Prop := serverAccepts bst s req = true
instance (bst : BSt) (s : FSt) (req : Req) : Decidable (ServerAccepts bst s req) := inferInstanceAs (Decidable (_ = true))

theorem files_one {fds : List Fd} (h : fds.length = 1) : ∃ f, fds = [f] := by
  match fds, h with
  | [f], _ => exact ⟨f, rfl⟩

theorem serverAccepts_parts {bst : BSt} {s : FSt} {req : Req} (h : ServerAccepts bst s req) :
    Spec.Proto.implemented.contains req.code = true ∧
    (match Spec.Proto.gate req.code with | some b => bitSet bst.ackedProto b | none => true) = true ∧
    (req.code != 18 || bitSet bst.acked 30) = true ∧
    bitSet (reqFlags s) 2 = false ∧
    req.fds.length = Spec.Proto.filesPrescribed req.code req.body ∧
    bodyOk req.code req.body = true := by
  simp only [ServerAccepts, serverAccepts, Bool.and_eq_true, Bool.not_eq_true', beq_iff_eq] at h
  obtain ⟨⟨⟨⟨⟨h1, h2⟩, h3⟩, h4⟩, h5⟩, h6⟩ := h
  exact ⟨h1, h2, h3, h4, h5, h6⟩

/-! ### small facts used by the case analysis -/

theorem config_valid_of {off sz fl : Nat} (h : configValid off sz fl = true) :
    bodyValid "VhostUserConfig" (u32 off ++ u32 sz ++ u32 fl) = some true := by
  unfold configValid at h
  simp only [bodyValid]
  cases hd : decConfig (u32 off ++ u32 sz ++ u32 fl) with
  | none => rw [hd] at h; simp at h
  | some m => rw [hd] at h; exact congrArg some h

theorem uuid_valid_of {u : Nat} (h : uuidValid u = true) : bodyValid "VhostUserSharedMsg" (leBytes 16 u) = some true := by
  unfold uuidValid at h
  simp only [bodyValid]
  cases hd : decShared (leBytes 16 u) with
  | none => rw [hd] at h; simp at h
  | some m => rw [hd] at h; exact congrArg some h

theorem files_ring (i : Nat) (hi : i ≤ 0xff) :
    (if (Spec.Proto.fld (u64 i) "VhostUserU64" ["value"]).testBit 8 then 0 else 1) = 1 := by
  have f := dec_U64 [] i (by omega)
  simp only [List.append_nil] at f
  rw [spec_fld _ _ _ _ (by decide) f, Nat.testBit_lt_two_pow (by omega)]; rfl

theorem fld_nregions (n : Nat) (hn : n < 2^32) (rest : Bytes) :
    Spec.Proto.fld (u32 n ++ u32 0 ++ rest) "VhostUserMemory" ["num_regions"] = n :=
  spec_fld _ _ _ _ (by decide) (dec_Memory rest n 0 hn (by omega)).1

theorem g_nregions (n : Nat) (hn : n < 2^32) (rest : Bytes) :
    Model.BackendSrv.g (u32 n ++ u32 0 ++ rest) "VhostUserMemory" ["num_regions"] = n :=
  srv_g _ _ _ _ (dec_Memory rest n 0 hn (by omega)).1

/-! ## the request passes the guards of its arm -/

/-- the descriptors of a request as the server's receive loop hands them over -/
def filesOf (req : Req) : Option (List Fd) := if req.fds.isEmpty then none else some req.fds

open Lemmas.BackendSrv (holds after arms_takers runGuards_ok)
open Lemmas.OwedGuards (covered arms_covered)

theorem filesOf_getD (req : Req) : (filesOf req).getD [] = req.fds := by
  unfold filesOf; cases req.fds <;> rfl

theorem built_fixed {s : FSt} {op : Op} {req : Req} (hB : Built s op req)
    (hfds : req.fds.length = Spec.Proto.filesPrescribed req.code req.body) :
    ∀ k, Spec.Proto.fixedSize req.code = some k → req.body.length = k := by
  cases hB
  case set_log_base_plain | set_log_base_noshm => exact absurd (show (0 : Nat) = 1 from hfds) (by decide)
  all_goals (intro k hk; cases hk <;> simp [u32, u64, u16])

theorem bodyArms_lookup : ∀ p ∈ Lemmas.Owed.bodyArms, Lemmas.Owed.bodyArms.lookup p.1 = some p.2 := by decide

/-- the struct an arm extracts from the body is valid: trivially, by the API's own checks, or by `bodyOk` -/
theorem built_valid {s : FSt} {op : Op} {req : Req} (hB : Built s op req) (hb : ArgsInRange op)
    (hbody : bodyOk req.code req.body = true) {ty : String} (hty : (req.code, ty) ∈ Lemmas.Owed.bodyArms) :
    bodyValid ty req.body = some true := by
  have hl := bodyArms_lookup _ hty
  cases hB
  all_goals cases hl
  case set_features | set_protocol_features => exact Lemmas.Owed.bodyValid_u64 _ (by simp [u64])
  case set_vring_num | set_vring_base | get_vring_base | set_vring_enable => exact Lemmas.Owed.bodyValid_vstate _ (by simp [u32])
  case get_shared_object u pl fds bad regs hv => exact uuid_valid_of hv
  case set_inflight_fd ms mo nq qs pl fds bad regs hnq hqs =>
    change (decide (ms < 2^64) && decide (mo < 2^64) && decide (nq < 2^16) && decide (qs < 2^16)) = true at hb
    simp only [Bool.and_eq_true, decide_eq_true_eq] at hb
    exact bodyValid_Inflight ms mo nq qs hb.1.1.1 hb.1.1.2 hb.1.2 hb.2 hnq hqs
  all_goals exact eq_of_beq hbody

theorem built_enable {s : FSt} {op : Op} {req : Req} (hB : Built s op req) (hb : ArgsInRange op) (hc : req.code = 18) :
    Model.BackendSrv.g req.body "VhostUserVringState" ["num"] ≤ 1 := by
  cases hB
  case set_vring_enable i e pl fds bad regs hq =>
    change (decide (i < 2^32) && decide (e ≤ 1)) = true at hb
    simp only [Bool.and_eq_true, decide_eq_true_eq] at hb
    have f := (dec_VringState [] i e hb.1 (by omega)).2
    simp only [List.append_nil] at f
    show Model.BackendSrv.g (u32 i ++ u32 e) "VhostUserVringState" ["num"] ≤ 1
    rw [srv_g _ _ _ _ f]; exact hb.2
  all_goals exact absurd hc (of_decide_eq_false rfl)

theorem guards_hold {s : FSt} {bst : BSt} {op : Op} {req : Req} (hB : Built s op req) (hb : ArgsInRange op)
    (hsrv : ServerAccepts bst s req) {a : Arm} (ha : arms.find? (·.code == req.code) = some a) :
    ∀ gd ∈ a.guards, holds bst (reqHdr s req) req.body (filesOf req) gd := by
  obtain ⟨_, hgate, h18, hfl, hfds, hbody⟩ := serverAccepts_parts hsrv
  obtain ⟨hm, hcode⟩ := Lemmas.BackendSrv.find_arm ha
  have P : Lemmas.OwedGuards.Passes bst (reqHdr s req) req.body (filesOf req) :=
    ⟨fun b hb => by rw [show Spec.Proto.gate req.code = some b from hb] at hgate; exact hgate,
     fun hc => by rw [show req.code = 18 from hc] at h18; exact h18,
     fun n hn => checkSize_ok _ _ _ (hn.elim id (built_fixed hB hfds n)) (hn.elim id (built_fixed hB hfds n)) hfl,
     fun ty _ hmem _ _ => built_valid hB hb hbody hmem, (filesOf_getD req).symm ▸ hfds, built_enable hB hb⟩
  intro gd hgd
  have hc := arms_covered a hm gd hgd
  rw [hcode] at hc
  exact P.holds hc

theorem dispatch_reached {s : FSt} {bst : BSt} {op : Op} {req : Req} (hB : Built s op req) (hb : ArgsInRange op)
    (hsrv : ServerAccepts bst s req) {a : Arm} (ha : arms.find? (·.code == req.code) = some a) (h : HOut) :
    dispatch bst (reqHdr s req) req.body (filesOf req) h =
      runAct bst (a.guards.foldl after { hdr := reqHdr s req, buf := req.body, files := filesOf req }) h a.act :=
  Lemmas.BackendSrv.dispatch_of_holds (hdr := reqHdr s req) ha (guards_hold hB hb hsrv ha) h

theorem impl_arm : ∀ c ∈ Spec.Proto.implemented, (arms.find? (·.code == c)).isSome = true := by decide

/-! ## the composition theorem -/

/-- **call_reaches_handler**: an API call the frontend accepts, whose arguments fit their wire fields and whose
request the server does not refuse, makes the server invoke the handler exactly once — with the caller's operation,
argument values, payload bytes and descriptors. -/
theorem call_reaches_handler (s : FSt) (bst : BSt) (op : Op) (req : Req) (s' : FSt) (h : HOut)
    (hreq : request s op = .ok (req, s')) (hb : ArgsInRange op) (hsrv : ServerAccepts bst s req) :
    ∃ c, callOf op = some c ∧
      (dispatch bst (reqHdr s req) req.body (if req.fds.isEmpty then none else some req.fds) h).calls = [c] := by
  have hB := request_built s op req s' hreq
  obtain ⟨himpl, hgate, h18, hfl, hfds, hbody⟩ := serverAccepts_parts hsrv
  obtain ⟨a, ha⟩ := Option.isSome_iff_exists.1 (impl_arm req.code (List.contains_iff_mem.1 himpl))
  show ∃ c, callOf op = some c ∧ (dispatch bst (reqHdr s req) req.body (filesOf req) h).calls = [c]
  rw [dispatch_reached hB hb hsrv ha h, Lemmas.BackendSrv.runAct_calls]
  clear hsrv hreq himpl hgate h18
  cases hB
  all_goals (cases ha <;> dsimp only [List.foldl, Lemmas.BackendSrv.after])
  case set_log_base_plain | set_log_base_noshm => exact absurd (show (0 : Nat) = 1 from hfds) (by decide)
  case get_features | set_owner | reset_owner | get_protocol_features | get_queue_num | reset_device | get_max_mem_slots
    | get_shmem_config | check_device_state | postcopy_advise | postcopy_listen | postcopy_end => exact ⟨_, rfl, rfl⟩
  case set_features v pl fds bad regs | set_protocol_features v pl fds bad regs =>
    change decide (v < 2^64) = true at hb
    have f := dec_U64 [] v (of_decide_eq_true hb)
    simp only [List.append_nil] at f
    refine ⟨_, rfl, ?_⟩
    show [Call.mk _ [Model.BackendSrv.g _ _ _] [] []] = _
    rw [srv_g _ _ _ _ f]; rfl
  case set_vring_num i n pl fds bad regs hq | set_vring_base i n pl fds bad regs hq =>
    change (decide (i < 2^32) && decide (n < 2^32)) = true at hb
    simp only [Bool.and_eq_true, decide_eq_true_eq] at hb
    obtain ⟨f1, f2⟩ := dec_VringState [] i n hb.1 hb.2
    simp only [List.append_nil] at f1 f2
    refine ⟨_, rfl, ?_⟩
    show [Call.mk _ [Model.BackendSrv.g _ _ _, Model.BackendSrv.g _ _ _] [] []] = _
    rw [srv_g _ _ _ _ f1, srv_g _ _ _ _ f2]; rfl
  case set_vring_enable i e pl fds bad regs hq =>
    change (decide (i < 2^32) && decide (e ≤ 1)) = true at hb
    simp only [Bool.and_eq_true, decide_eq_true_eq] at hb
    obtain ⟨f1, f2⟩ := dec_VringState [] i e hb.1 (by omega)
    simp only [List.append_nil] at f1 f2
    refine ⟨_, rfl, ?_⟩
    show [Call.mk _ [Model.BackendSrv.g _ _ _, Model.BackendSrv.g _ _ _] [] []] = _
    rw [srv_g _ _ _ _ f1, srv_g _ _ _ _ f2]; rfl
  case get_vring_base i pl fds bad regs hq =>
    change decide (i < 2^32) = true at hb
    obtain ⟨f1, _⟩ := dec_VringState [] i 0 (of_decide_eq_true hb) (by omega)
    simp only [List.append_nil] at f1
    refine ⟨_, rfl, ?_⟩
    show [Call.mk _ [Model.BackendSrv.g _ _ _] [] []] = _
    rw [srv_g _ _ _ _ f1]; rfl
  case set_vring_addr i fg d u a lg pl fds bad regs hq =>
    change (decide (i < 2^32) && decide (fg < 2^32) && decide (d < 2^64) && decide (u < 2^64) && decide (a < 2^64) &&
      decide (lg < 2^64)) = true at hb
    simp only [Bool.and_eq_true, decide_eq_true_eq] at hb
    obtain ⟨f1, f2, f3, f4, f5, f6⟩ := dec_VringAddr [] i fg d u a lg hb.1.1.1.1.1 hb.1.1.1.1.2 hb.1.1.1.2 hb.1.1.2 hb.1.2 hb.2
    simp only [List.append_nil] at f1 f2 f3 f4 f5 f6
    refine ⟨_, rfl, ?_⟩
    show [Call.mk _ [Model.BackendSrv.g _ _ _, Model.BackendSrv.g _ _ _, Model.BackendSrv.g _ _ _, Model.BackendSrv.g _ _ _,
      Model.BackendSrv.g _ _ _, Model.BackendSrv.g _ _ _] [] []] = _
    rw [srv_g _ _ _ _ f1, srv_g _ _ _ _ f2, srv_g _ _ _ _ f3, srv_g _ _ _ _ f4, srv_g _ _ _ _ f5, srv_g _ _ _ _ f6]; rfl
  case set_vring_call i pl fds bad regs hq h8 | set_vring_kick i pl fds bad regs hq h8 | set_vring_err i pl fds bad regs hq h8 =>
    obtain ⟨f, rfl⟩ := files_one (hfds.trans (files_ring i h8))
    refine ⟨_, rfl, ?_⟩
    show [Call.mk _ [leVal ((u64 i).take 8) % 256] [] [f]] = _
    rw [leVal_take_u64 i (by omega), Nat.mod_eq_of_lt (by omega)]; rfl
  case set_backend_req_fd a pl fds bad regs =>
    obtain ⟨f, rfl⟩ := files_one hfds
    exact ⟨_, rfl, rfl⟩
  case add_mem_region gp sz ua mo pl fds bad regs | remove_mem_region gp sz ua mo pl fds bad regs =>
    change (decide (gp < 2^64) && decide (sz < 2^64) && decide (ua < 2^64) && decide (mo < 2^64)) = true at hb
    simp only [Bool.and_eq_true, decide_eq_true_eq] at hb
    obtain ⟨f1, f2, f3, f4⟩ := dec_Single [] 0 gp sz ua mo (by omega) hb.1.1.1 hb.1.1.2 hb.1.2 hb.2
    simp only [List.append_nil] at f1 f2 f3 f4
    -- ADD_MEM_REG carries the one descriptor the guard takes
    first | obtain ⟨f, rfl⟩ := files_one hfds | skip
    refine ⟨_, rfl, ?_⟩
    show [Call.mk _ [Model.BackendSrv.g _ _ _, Model.BackendSrv.g _ _ _, Model.BackendSrv.g _ _ _, Model.BackendSrv.g _ _ _] [] _] = _
    rw [srv_g _ _ _ _ f1, srv_g _ _ _ _ f2, srv_g _ _ _ _ f3, srv_g _ _ _ _ f4]; rfl
  case get_inflight_fd ms mo nq qs pl fds bad regs | set_inflight_fd ms mo nq qs pl fds bad regs hnq hqs =>
    change (decide (ms < 2^64) && decide (mo < 2^64) && decide (nq < 2^16) && decide (qs < 2^16)) = true at hb
    simp only [Bool.and_eq_true, decide_eq_true_eq] at hb
    obtain ⟨f1, f2, f3, f4⟩ := dec_Inflight [0, 0, 0, 0] ms mo nq qs hb.1.1.1 hb.1.1.2 hb.1.2 hb.2
    -- SET_INFLIGHT_FD carries the one descriptor the guard takes
    first | obtain ⟨f, rfl⟩ := files_one hfds | skip
    refine ⟨_, rfl, ?_⟩
    show [Call.mk _ [Model.BackendSrv.g _ _ _, Model.BackendSrv.g _ _ _, Model.BackendSrv.g _ _ _, Model.BackendSrv.g _ _ _] [] _] = _
    rw [srv_g _ _ _ _ f1, srv_g _ _ _ _ f2, srv_g _ _ _ _ f3, srv_g _ _ _ _ f4]; rfl
  case set_device_state_fd d p pl fds bad regs =>
    change (decide (d < 2^32) && decide (p < 2^32)) = true at hb
    simp only [Bool.and_eq_true, decide_eq_true_eq] at hb
    obtain ⟨f1, f2⟩ := dec_Transfer [] d p hb.1 hb.2
    simp only [List.append_nil] at f1 f2
    obtain ⟨f, rfl⟩ := files_one hfds
    refine ⟨_, rfl, ?_⟩
    show [Call.mk _ [Model.BackendSrv.g _ _ _, Model.BackendSrv.g _ _ _] [] _] = _
    rw [srv_g _ _ _ _ f1, srv_g _ _ _ _ f2]; rfl
  case set_log_base_region base size off pl fds bad regs hp =>
    change (decide (base < 2^64) && decide (size < 2^64) && decide (off < 2^64)) = true at hb
    simp only [Bool.and_eq_true, decide_eq_true_eq] at hb
    obtain ⟨f1, f2⟩ := dec_Log [] size off hb.1.2 hb.2
    simp only [List.append_nil] at f1 f2
    obtain ⟨f, rfl⟩ := files_one hfds
    refine ⟨_, rfl, ?_⟩
    show [Call.mk _ [Model.BackendSrv.g _ _ _, Model.BackendSrv.g _ _ _] [] _] = _
    rw [srv_g _ _ _ _ f1, srv_g _ _ _ _ f2]; rfl
  case get_shared_object u pl fds bad regs hv =>
    change decide (u < 2^128) = true at hb
    have f1 := dec_Shared [] u (of_decide_eq_true hb)
    simp only [List.append_nil] at f1
    refine ⟨_, rfl, ?_⟩
    show [Call.mk _ [Model.BackendSrv.g _ _ _] [] []] = _
    rw [srv_g _ _ _ _ f1]; rfl
  case get_config off size cf x pl fds bad regs hv hmax =>
    change (decide (off < 2^32) && decide (size < 2^32) && decide (cf < 2^32) && pl.length == size) = true at hb
    simp only [Bool.and_eq_true, decide_eq_true_eq, beq_iff_eq] at hb
    obtain ⟨f1, f2, f3⟩ := dec_Config pl off size cf hb.1.1.1 hb.1.1.2 hb.1.2
    have hl := config_len off size cf pl
    have hcfg : Lemmas.BackendSrv.cfgOk (u32 off ++ u32 size ++ u32 cf ++ pl) = true :=
      Lemmas.BackendSrv.cfgOk_iff.2 ⟨by omega, by omega, by rw [config_take]; exact config_valid_of hv,
        by rw [srv_g _ _ _ _ f2]; omega⟩
    refine ⟨_, rfl, (if_pos hcfg).trans ?_⟩
    show [Call.mk _ [Model.BackendSrv.g _ _ _, Model.BackendSrv.g _ _ _, Model.BackendSrv.g _ _ _] [] []] = _
    rw [srv_g _ _ _ _ f1, srv_g _ _ _ _ f2, srv_g _ _ _ _ f3]; rfl
  case set_config off cf pl fds bad regs hv hmax =>
    change (decide (off < 2^32) && decide (cf < 2^32)) = true at hb
    simp only [Bool.and_eq_true, decide_eq_true_eq] at hb
    obtain ⟨f1, f2, f3⟩ := dec_Config pl off pl.length cf hb.1 (by omega) hb.2
    have hl := config_len off pl.length cf pl
    have hcfg : Lemmas.BackendSrv.cfgOk (u32 off ++ u32 pl.length ++ u32 cf ++ pl) = true :=
      Lemmas.BackendSrv.cfgOk_iff.2 ⟨by omega, by omega, by rw [config_take]; exact config_valid_of hv,
        by rw [srv_g _ _ _ _ f2]; omega⟩
    refine ⟨_, rfl, (if_pos hcfg).trans ?_⟩
    show [Call.mk _ [Model.BackendSrv.g _ _ _, Model.BackendSrv.g _ _ _] (List.drop 12 _) []] = _
    rw [srv_g _ _ _ _ f1, srv_g _ _ _ _ f3, config_drop]; rfl
  case set_mem_table a pl fds bad regs h1 h32 =>
    change regs.all regionInRange = true at hb
    have hn : fds.length = regs.length := by rw [hfds]; exact fld_nregions regs.length (by omega) _
    have hne : filesOf ⟨5, u32 regs.length ++ u32 0 ++ regs.flatMap regionBytes, fds, .ack⟩ = some fds := by
      cases fds with
      | nil => simp at hn; omega
      | cons f fs => rfl
    have hg := g_nregions regs.length (by omega) (regs.flatMap regionBytes)
    have hregs := regionsOf_enc regs (u32 regs.length ++ u32 0) 8 (by simp [u32])
    have hl : (u32 regs.length ++ u32 0 ++ regs.flatMap regionBytes).length = 8 + regs.length * 32 := by
      simp only [List.length_append, u32, leBytes_length, Props.FrontendOps.flatMap_regionBytes_length]; omega
    rw [hne]
    refine ⟨_, rfl, (if_pos ?_).trans ?_⟩
    · show Lemmas.BackendSrv.memTableOk _ = true
      refine Lemmas.BackendSrv.memTableOk_iff.2 ⟨checkSize_ok _ _ _ rfl rfl hfl, by rw [hl]; omega, ?_, by rw [hg, hl],
        ⟨fds, rfl, by rw [hg, hn]⟩, fun r hr => ?_⟩
      · rw [take_append_len _ _ 8 (by simp [u32])]; exact bodyValid_Memory regs.length h1 h32
      · have := hbody
        simp only [bodyOk, hg, hregs, List.all_eq_true, beq_iff_eq] at this
        rw [hg, hregs] at hr; exact this r hr
    · show [Call.mk _ ((regionsOf _ (Model.BackendSrv.g _ _ _) 8).flatMap _) [] fds] = _
      rw [hg, hregs, regions_args regs hb]; rfl

/-! ## stream level: for every chooser -/

theorem impl_code : ∀ c ∈ Spec.Proto.implemented, codeOkN Lemmas.Wire.codes c = true ∧ c < 2^32 := by decide

theorem prescribed_fdCodes (code : Nat) (body : Bytes) (h : Spec.Proto.filesPrescribed code body ≠ 0) :
    Model.BackendSrv.fdCodes.contains code = true := by
  unfold Spec.Proto.filesPrescribed at h
  split at h <;> first | rfl | exact absurd rfl h

theorem prescribed_le (code : Nat) (body : Bytes) (h : code ≠ 5) : Spec.Proto.filesPrescribed code body ≤ 1 := by
  unfold Spec.Proto.filesPrescribed
  split
  · exact absurd rfl h
  all_goals first | decide | (split <;> decide)

theorem built_sizes {s : FSt} {op : Op} {req : Req} (hB : Built s op req)
    (hfds : req.fds.length = Spec.Proto.filesPrescribed req.code req.body) : req.body.length ≤ 0x1000 ∧ req.fds.length ≤ 32 := by
  rw [hfds]
  cases hB
  case set_mem_table a pl fds bad regs h1 h32 =>
    refine ⟨?_, ?_⟩
    · simp only [u32, List.length_append, leBytes_length, Props.FrontendOps.flatMap_regionBytes_length]; omega
    · show Spec.Proto.fld _ _ _ ≤ 32
      rw [fld_nregions regs.length (by omega)]; exact h32
  all_goals exact ⟨by simp [u32, u64, u16] <;> omega, Nat.le_trans (prescribed_le _ _ (of_decide_eq_false rfl)) (by decide)⟩

/-- **stream level**: the bytes `wire s req` written in one `sendmsg` with the descriptors `req.fds`, read by one
`handle_request` under *any* chooser (segmentation / arrival timing), open or closed stream: the turn is exactly
`dispatch` on the request (the whole output record), and it consumes the message entirely. -/
theorem step_is_dispatch {σ : Type} (ch : Chooser σ) (cl : Bool) (cst : σ)
    (s : FSt) (bst : BSt) (op : Op) (req : Req) (s' : FSt) (h : HOut)
    (hreq : request s op = .ok (req, s')) (hsrv : ServerAccepts bst s req) :
    let r := step ch cl bst cst (segCells (wire s req) req.fds) h
    r.o = dispatch bst (reqHdr s req) req.body (filesOf req) h ∧ r.rest = [] := by
  obtain ⟨himpl, _, _, _, hfds, _⟩ := serverAccepts_parts hsrv
  obtain ⟨w1, w2⟩ := impl_code req.code (List.contains_iff_mem.1 himpl)
  obtain ⟨w3, w4⟩ := built_sizes (request_built s op req s' hreq) hfds
  refine Lemmas.Wire.step_segCells ch cl bst cst h req.code (reqFlags s) req.body req.fds w1 w2 (Props.C02.request_flags s) w3
    w4 fun he => prescribed_fdCodes req.code req.body ?_
  rw [← hfds]; intro h0
  rw [List.eq_nil_of_length_eq_zero h0] at he; cases he

/-- **call_reaches_handler, on the wire**: for every chooser, the server turn fed with the cells of the request
invokes the handler exactly once, with `callOf op`, and nothing of the message is left on the stream. -/
theorem call_reaches_handler_stream {σ : Type} (ch : Chooser σ) (cl : Bool) (cst : σ)
    (s : FSt) (bst : BSt) (op : Op) (req : Req) (s' : FSt) (h : HOut)
    (hreq : request s op = .ok (req, s')) (hb : ArgsInRange op) (hsrv : ServerAccepts bst s req) :
    ∃ c, callOf op = some c ∧
      (step ch cl bst cst (segCells (wire s req) req.fds) h).o.calls = [c] ∧
      (step ch cl bst cst (segCells (wire s req) req.fds) h).rest = [] := by
  obtain ⟨c, hc, hd⟩ := call_reaches_handler s bst op req s' h hreq hb hsrv
  obtain ⟨e1, e2⟩ := step_is_dispatch ch cl cst s bst op req s' h hreq hsrv
  exact ⟨c, hc, (congrArg Model.BackendSrv.Out.calls e1).trans hd, e2⟩

/-! ## sessions -/

/-- one API call of a session: the frontend's state when the call is made, the operation, and the scripted outcome of
the application's handler for it.  (The frontend state of each turn is arbitrary: whatever the replies of earlier turns
made of it.) -/
structure Turn where
  s : FSt
  op : Op
  h : HOut

/-- the server side of a session: every accepted call's request is written in one `sendmsg` and read by one
`handle_request`; locally refused calls write nothing.  Returns the handler log. -/
def serve {σ : Type} (ch : Chooser σ) (cl : Bool) : BSt → σ → List Turn → List Call
  | _, _, [] => []
  | bst, cst, t :: ts =>
    match request t.s t.op with
    | .error _ => serve ch cl bst cst ts
    | .ok (req, _) =>
      let r := step ch cl bst cst (segCells (wire t.s req) req.fds) t.h
      r.o.calls ++ serve ch cl r.o.st r.cst ts

/-- every call of the session is accepted by the API, has in-range arguments and is not refused by the server in the
state the server has reached by then -/
def SessionOk : BSt → List Turn → Prop
  | _, [] => True
  | bst, t :: ts =>
    ∃ req s', request t.s t.op = .ok (req, s') ∧ ArgsInRange t.op ∧ ServerAccepts bst t.s req ∧
      SessionOk (dispatch bst (reqHdr t.s req) req.body (filesOf req) t.h).st ts

/-- **session_calls**: over a session of accepted operations — for every chooser — the handler log is the list of
`callOf` of the operations, in order: one invocation per call, none other. -/
theorem session_calls {σ : Type} (ch : Chooser σ) (cl : Bool) : ∀ (ts : List Turn) (bst : BSt) (cst : σ),
    SessionOk bst ts → serve ch cl bst cst ts = ts.filterMap (fun t => callOf t.op) := by
  intro ts
  induction ts with
  | nil => intro _ _ _; rfl
  | cons t ts ih =>
    intro bst cst hok
    obtain ⟨req, s', hreq, hb, hsrv, hrest⟩ := hok
    obtain ⟨c, hc, hd⟩ := call_reaches_handler t.s bst t.op req s' t.h hreq hb hsrv
    obtain ⟨e, _⟩ := step_is_dispatch ch cl cst t.s bst t.op req s' t.h hreq hsrv
    have hd' : (dispatch bst (reqHdr t.s req) req.body (filesOf req) t.h).calls = [c] := hd
    simp only [serve, hreq, List.filterMap_cons, hc]
    rw [e, hd', ih _ _ hrest]
    rfl

/-! ## operations for which the statement is FALSE of the models (findings) -/

/-- **F-C02-logfd.** `set_log_fd(fd)` is accepted by the API in every state and writes SET_LOG_FD (code 7) with the
descriptor, but the request server has no arm for code 7 (and its handler interface no `set_log_fd`): whatever the
server state, header flags and handler script, the handler is **not** invoked — on the framed request, and on the
wire for every chooser.  `callOf` (the caller's expectation) is one `set_log_fd` call with that descriptor. -/
theorem set_log_fd_counterexample (s : FSt) (bst : BSt) (a : List Nat) (pl : Bytes) (fds : List Fd) (bad : Bool)
    (regs : Regions) (h : HOut) :
    request s ⟨"set_log_fd", a, pl, fds, bad, regs⟩ = .ok (⟨7, [], fds, .ack⟩, s) ∧
    callOf ⟨"set_log_fd", a, pl, fds, bad, regs⟩ = some ⟨"set_log_fd", [], [], fds⟩ ∧
    (dispatch bst (reqHdr s ⟨7, [], fds, .ack⟩) [] (filesOf ⟨7, [], fds, .ack⟩) h).calls = [] ∧
    (∀ {σ : Type} (ch : Chooser σ) (cl : Bool) (cst : σ), bitSet (reqFlags s) 2 = false → fds.length ≤ 32 →
      (step ch cl bst cst (segCells (wire s ⟨7, [], fds, .ack⟩) fds) h).o.calls = []) := by
  have hd : ∀ files, (dispatch bst (reqHdr s ⟨7, [], fds, .ack⟩) [] files h).calls = [] := fun files => by
    rw [Lemmas.BackendSrv.dispatch_unknown (by rfl)]
  refine ⟨rfl, rfl, hd _, ?_⟩
  intro σ ch cl cst _ hle
  have := Lemmas.Wire.step_segCells ch cl bst cst h 7 (reqFlags s) [] fds (by decide) (by decide) (Props.C02.request_flags s)
    (by decide) hle (fun _ => by decide)
  exact (congrArg Model.BackendSrv.Out.calls this.1).trans (hd _)

/-- **F-C02-logbase (1).** `set_log_base(base, None)` — and `set_log_base(base, Some(region))` while LOG_SHMFD is not
acknowledged on the frontend — is accepted by the API and writes SET_LOG_BASE with the 8-byte `base` and no descriptor.
This request server refuses every such request (it insists on LOG_SHMFD, exactly one descriptor and the 16-byte log
descriptor): the handler is **never** invoked, in any server state. -/
theorem set_log_base_plain_counterexample (s : FSt) (bst : BSt) (base : Nat) (pl : Bytes) (fds : List Fd) (bad : Bool)
    (regs : Regions) (h : HOut) :
    request s ⟨"set_log_base", [base], pl, fds, bad, regs⟩ = .ok (⟨6, u64 base, [], .noWait⟩, s) ∧
    (dispatch bst (reqHdr s ⟨6, u64 base, [], .noWait⟩) (u64 base) (filesOf ⟨6, u64 base, [], .noWait⟩) h).calls = [] := by
  refine ⟨rfl, ?_⟩
  show (dispatch bst ⟨6, reqFlags s, (u64 base).length⟩ (u64 base) none h).calls = []
  obtain ⟨e, he⟩ := Lemmas.BackendSrv.runGuards_error (st := bst)
    (c := { hdr := ⟨6, reqFlags s, (u64 base).length⟩, buf := u64 base, files := none })
    (gs := [.proto 1, .oneFile .incorrectFds, .body "VhostUserLog"]) (gd := .oneFile .incorrectFds) (by decide) (by simp)
    (fun h1 : (0 : Nat) = 1 => absurd h1 (by decide))
  rw [Lemmas.BackendSrv.dispatch_of_guard_error (a := ⟨6, _, .setLogBase⟩) rfl he]

/-- **F-C02-logbase (2).** With a region, the `base` argument is not transmitted at all (the wire message and the
handler's `set_log_base(log, file)` have no place for it): calls that differ only in `base` build the same request. -/
theorem set_log_base_base_not_transmitted (s : FSt) (base base' size off : Nat) (pl : Bytes) (fds : List Fd) (bad : Bool)
    (regs : Regions) :
    request s ⟨"set_log_base", [base, size, off], pl, fds, bad, regs⟩ =
    (if hasProto s 1 then .ok (⟨6, u64 size ++ u64 off, fds, .body "VhostUserLog"⟩, s)
     else .ok (⟨6, u64 base, [], .noWait⟩, s)) ∧
    (hasProto s 1 = true →
      request s ⟨"set_log_base", [base, size, off], pl, fds, bad, regs⟩ =
      request s ⟨"set_log_base", [base', size, off], pl, fds, bad, regs⟩) := by
  have e : ∀ b, request s ⟨"set_log_base", [b, size, off], pl, fds, bad, regs⟩ =
      (if hasProto s 1 then .ok (⟨6, u64 size ++ u64 off, fds, .body "VhostUserLog"⟩, s)
       else .ok (⟨6, u64 b, [], .noWait⟩, s)) := fun _ => rfl
  refine ⟨e base, fun hp => ?_⟩
  rw [e base, e base', if_pos hp, if_pos hp]

/-! ## non-vacuity -/

/-- ring size: accepted, in range, not refused by a fresh server -/
example : ∃ req s', request { maxQ := 2 } ⟨"set_vring_num", [1, 0x100], [], [], false, []⟩ = .ok (req, s') ∧
    ArgsInRange ⟨"set_vring_num", [1, 0x100], [], [], false, []⟩ ∧ ServerAccepts {} { maxQ := 2 } req :=
  ⟨_, _, rfl, by decide, by decide⟩

/-- a descriptor-carrying, gated request with a non-trivial validator -/
example : ∃ req s', request { ackedProto := 0x8000 } ⟨"add_mem_region", [0x1000, 0x2000, 0x7f0000, 0], [], [42], false, []⟩ =
      .ok (req, s') ∧
    ArgsInRange ⟨"add_mem_region", [0x1000, 0x2000, 0x7f0000, 0], [], [42], false, []⟩ ∧
    ServerAccepts { ackedProto := 0x8000 } { ackedProto := 0x8000 } req :=
  ⟨_, _, rfl, by decide, by decide⟩

/-- a memory table with two regions and two descriptors -/
example : ∃ req s', request {} ⟨"set_mem_table", [], [], [7, 8], false,
      [(0, 0x1000, 0x7000, 0, true), (0x1000, 0x1000, 0x9000, 0, true)]⟩ = .ok (req, s') ∧
    ArgsInRange ⟨"set_mem_table", [], [], [7, 8], false, [(0, 0x1000, 0x7000, 0, true), (0x1000, 0x1000, 0x9000, 0, true)]⟩ ∧
    ServerAccepts {} {} req :=
  ⟨_, _, rfl, by decide, by decide⟩

/-- what comes out for it -/
example : (dispatch {} (reqHdr {} ⟨5, u32 2 ++ u32 0 ++ [(0, 0x1000, 0x7000, 0, true), (0x1000, 0x1000, 0x9000, 0, true)].flatMap regionBytes,
      [7, 8], .ack⟩) (u32 2 ++ u32 0 ++ [(0, 0x1000, 0x7000, 0, true), (0x1000, 0x1000, 0x9000, 0, true)].flatMap regionBytes)
      (some [7, 8]) {}).calls = [⟨"set_mem_table", [0, 0x1000, 0x7000, 0, 0x1000, 0x1000, 0x9000, 0], [], [7, 8]⟩] := by
  decide

/-- a session: negotiate the protocol features, then use a gated operation -/
example : SessionOk { virtio := 0x40000000 }
    [⟨{ virtio := 0x40000000 }, ⟨"set_protocol_features", [0x8200], [], [], false, []⟩, {}⟩,
     ⟨{ virtio := 0x40000000, ackedProto := 0x8200 }, ⟨"get_config", [0, 4, 0, 4], [0, 0, 0, 0], [], false, []⟩, {}⟩,
     ⟨{ virtio := 0x40000000, ackedProto := 0x8200 }, ⟨"add_mem_region", [0x1000, 0x2000, 0x7f0000, 0], [], [42], false, []⟩, {}⟩] :=
  ⟨_, _, rfl, by decide, by decide, _, _, rfl, by decide, by decide, _, _, rfl, by decide, by decide, trivial⟩

end Props.C02Reach
