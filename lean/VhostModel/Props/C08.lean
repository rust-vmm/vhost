import VhostModel.Lemmas.Stream
import VhostModel.Model.Endpoint
import VhostModel.Model.BackendSrv
import VhostModel.Lemmas.BackendSrv
/-!
# C08 — message framing is independent of stream segmentation; truncation is an error

Over `Model.Stream` / `Model.Endpoint` / `Model.BackendSrv.step` (tied to `connection.rs` and the request
servers by the `srv` and `send` correspondence families).  All statements quantify over **every chooser**
(every kernel segmentation and arrival timing) resp. every script of partial writes.
-/
namespace Props.C08
open Base Model.Stream Model.Endpoint Lemmas.Stream Model.BackendSrv Model.Msgs

/-- `get_sub_iovs_offset` returns the position of byte `skip` in the concatenation of the buffers -/
theorem sub_iovs_offset_correct : ∀ (lens : List Nat) (skip nr : Nat), skip < lens.sum →
    let r := subIovsOffset lens skip nr
    nr ≤ r.1 ∧ r.1 - nr < lens.length ∧ r.2 < lens.getD (r.1 - nr) 0 ∧ (lens.take (r.1 - nr)).sum + r.2 = skip := by
  intro lens
  induction lens with
  | nil => intro skip nr h; simp at h
  | cons len rest ih =>
    intro skip nr h
    simp only [subIovsOffset]
    by_cases hs : skip ≥ len
    · simp only [hs, if_true]
      have h' : skip - len < rest.sum := by simp only [List.sum_cons] at h; omega
      obtain ⟨a, b, c, d⟩ := ih (skip - len) (nr + 1) h'
      have e : (subIovsOffset rest (skip - len) (nr + 1)).1 - nr = ((subIovsOffset rest (skip - len) (nr + 1)).1 - (nr + 1)) + 1 := by omega
      refine ⟨by omega, ?_, ?_, ?_⟩
      · simp only [List.length_cons]; omega
      · rw [e]; simpa using c
      · rw [e]; simp only [List.take_succ_cons, List.sum_cons]; omega
    · simp only [hs, if_false]
      refine ⟨Nat.le_refl _, ?_, ?_, ?_⟩ <;> simp <;> omega

/-- for every two choosers (segmentations / timings), the receive loop returns the same bytes and leaves the same
rest, whenever the stream holds the requested bytes with descriptors within the limit -/
theorem recv_all_segmentation_independent {σ τ : Type} (ch1 : Chooser σ) (ch2 : Chooser τ) (cap : Nat) (cl1 cl2 : Bool)
    (want : Nat) (st1 : σ) (st2 : τ) (s : List Cell) (f : Bool) (h : want ≤ s.length)
    (hf : ((s.take want).flatMap (·.fds)).length ≤ cap) :
    (recvAll ch1 cap cl1 want st1 s f).bytes = (recvAll ch2 cap cl2 want st2 s f).bytes ∧
    (recvAll ch1 cap cl1 want st1 s f).rest = (recvAll ch2 cap cl2 want st2 s f).rest ∧
    (recvAll ch1 cap cl1 want st1 s f).outcome = .done ∧ (recvAll ch2 cap cl2 want st2 s f).outcome = .done := by
  obtain ⟨a1, a2, a3⟩ := recvAll_complete ch1 cap cl1 want st1 s f h hf
  obtain ⟨b1, b2, b3⟩ := recvAll_complete ch2 cap cl2 want st2 s f h hf
  exact ⟨by rw [a1, b1], by rw [a2, b2], a3, b3⟩

theorem sendAll_wire (fds : List Fd) (evs : List SendEv) (rem : Bytes) (sent : Nat) (w : Wire) :
    ∃ k, k ≤ rem.length ∧ wireBytes (sendAll fds rem sent evs w).1 = wireBytes w ++ rem.take k ∧
      (∀ n, (sendAll fds rem sent evs w).2 = .ok n → n = sent + k) ∧
      ((sendAll fds rem sent evs w).2 = .ok (sent + rem.length) → k = rem.length) := by
  fun_induction sendAll fds rem sent evs w with
  | case3 b bs sent evs w ih => exact ih
  | case7 b bs sent evs w k n chunk ih =>
    have hnl : n ≤ (b :: bs).length := Nat.min_le_right _ _
    obtain ⟨k', h1, h2, h3, h4⟩ := ih
    rw [List.length_drop] at h1 h4
    refine ⟨n + k', by omega, ?_, fun m hh => by have := h3 m hh; omega, fun hh => ?_⟩
    · refine Eq.trans h2 ?_
      rw [List.take_add]
      simp only [chunk, wireBytes, List.flatMap_append, List.flatMap_cons, List.flatMap_nil, List.append_nil, List.append_assoc]
    · have := h4 (by rw [show sent + n + ((b :: bs).length - n) = sent + (b :: bs).length by omega]; exact hh)
      omega
  | _ => exact ⟨0, by simp⟩

/-- **send_all_once_in_order**: for every script of partial writes / retries, what reaches the socket is a prefix of the
message, and the whole message exactly once when the call reports all bytes sent -/
theorem send_all_once_in_order (fds : List Fd) (data : Bytes) (evs : List SendEv) :
    (∃ k, wireBytes (sendAll fds data 0 evs []).1 = data.take k) ∧
    ((sendAll fds data 0 evs []).2 = .ok data.length → wireBytes (sendAll fds data 0 evs []).1 = data) := by
  obtain ⟨k, h1, h2, h3, h4⟩ := sendAll_wire fds evs data 0 []
  refine ⟨⟨k, by simpa [wireBytes] using h2⟩, ?_⟩
  intro h
  have := h4 (by simpa using h)
  rw [h2, this]; simp [wireBytes]

/-- descriptors accompany only the first chunk that reaches the socket -/
theorem sendAll_fds_inv (fds : List Fd) (evs : List SendEv) (rem : Bytes) (sent : Nat) (w : Wire)
    (h0 : sent = 0 → w = []) (hw : ∀ c ∈ w.tail, c.2 = []) : ∀ c ∈ (sendAll fds rem sent evs w).1.tail, c.2 = [] := by
  fun_induction sendAll fds rem sent evs w with
  | case3 b bs sent evs w ih => exact ih h0 hw
  | case7 b bs sent evs w k n chunk ih =>
    -- a chunk that is not the first carries no descriptors
    refine ih (fun h => by omega) fun c hc => ?_
    cases w with
    | nil => simp at hc
    | cons x xs =>
      have hs : sent ≠ 0 := fun h => by simpa using h0 h
      simp only [List.cons_append, List.tail_cons, List.mem_append, List.mem_singleton] at hc
      rcases hc with hc | hc
      · exact hw c (by simpa using hc)
      · rw [hc]; simp [hs]
  | _ => exact hw

theorem send_all_fds_first_only (fds : List Fd) (data : Bytes) (evs : List SendEv) :
    ∀ c ∈ (sendAll fds data 0 evs []).1.tail, c.2 = [] :=
  sendAll_fds_inv fds evs data 0 [] (fun _ => rfl) (by simp)

/-- the stream ends inside the header: `PartialMessage`, nothing dispatched, and no waiting -/
theorem truncated_header_is_error {σ : Type} (ch : Chooser σ) (st : BSt) (cst : σ) (s : List Cell) (h : HOut)
    (h0 : 0 < s.length) (h12 : s.length < 12) (hf : (s.flatMap (·.fds)).length ≤ 32) :
    (step ch true st cst s h).o.res = .err .partialMsg ∧ (step ch true st cst s h).o.calls = [] := by
  obtain ⟨b1, b2, b3⟩ := recvAll_short ch 32 true 12 cst s true h12 hf
  have hl : (recvAll ch 32 true 12 cst s true).bytes.length = s.length := by rw [b1]; simp
  unfold step
  simp only [b3, if_true]
  have e1 : ((recvAll ch 32 true 12 cst s true).bytes.length == 0) = false := by
    rw [hl]; exact beq_false_of_ne (by omega)
  have e2 : ((recvAll ch 32 true 12 cst s true).bytes.length != 12) = true := by
    rw [hl]; simp; omega
  simp [e1, e2]

/-- a clean `Disconnected` is reported exactly at a message boundary (empty stream) -/
theorem disconnected_at_boundary {σ : Type} (ch : Chooser σ) (st : BSt) (cst : σ) (h : HOut) :
    (step ch true st cst [] h).o.res = .err .disconnected ∧ (step ch true st cst [] h).o.calls = [] := by
  unfold step
  simp [recvAll]

theorem disconnected_only_at_boundary {σ : Type} (ch : Chooser σ) (st : BSt) (cst : σ) (s : List Cell) (h : HOut)
    (hf : (s.flatMap (·.fds)).length ≤ 32) (hs : s.length < 12)
    (hd : (step ch true st cst s h).o.res = .err .disconnected) : s = [] := by
  by_cases h0 : s.length = 0
  · exact List.eq_nil_of_length_eq_zero h0
  · have := (truncated_header_is_error ch st cst s h (by omega) hs hf).1
    rw [this] at hd; simp at hd

theorem runAct_not_blocked (st : BSt) (c : Ctx) (h : HOut) (act : Act) : (runAct st c h act).res ≠ .blocked := by
  cases act with
  | getConfig | setConfig | memTable | backendReqFd | gpuSocket =>
    -- the actions with nested validation, through their one-condition form
    simp only [Lemmas.BackendSrv.runAct_getConfig, Lemmas.BackendSrv.runAct_setConfig, Lemmas.BackendSrv.runAct_memTable,
      Lemmas.BackendSrv.runAct_backendReqFd, Lemmas.BackendSrv.runAct_gpuSocket] <;>
      (repeat' split) <;> exact Res.noConfusion
  | _ => simp only [runAct] <;> (repeat' split) <;> exact Res.noConfusion

theorem dispatch_not_blocked (st : BSt) (hdr : Hdr) (buf : Bytes) (files : Option (List Fd)) (h : HOut) :
    (dispatch st hdr buf files h).res ≠ .blocked :=
  Lemmas.BackendSrv.dispatch_cases (P := fun o => o.res ≠ .blocked) st hdr buf files h (fun _ => Res.noConfusion)
    fun a _ _ _ => runAct_not_blocked st _ h a.act

/-- nothing ever blocks once the peer has closed -/
theorem never_blocks_when_closed {σ : Type} (ch : Chooser σ) (st : BSt) (cst : σ) (s : List Cell) (h : HOut) :
    (step ch true st cst s h).o.res ≠ .blocked := by
  unfold step
  simp only
  -- only the two reads and the two dispatches could yield `blocked`; name them, and the tests between them
  generalize hr : recvAll ch 32 true 12 cst s true = r
  have hb : r.outcome ≠ .blocked := hr ▸ recvAll_closed_not_blocked ch 32 12 cst s true
  generalize hd : recvData ch true _ r.st r.rest = d
  have hdb : d.outcome ≠ .blocked := hd ▸ recvData_closed_not_blocked ch _ _ _
  generalize h1 : dispatch st _ [] _ h = o1
  have h1b : o1.res ≠ .blocked := h1 ▸ dispatch_not_blocked _ _ _ _ _
  generalize h2 : dispatch st _ d.bytes _ h = o2
  have h2b : o2.res ≠ .blocked := h2 ▸ dispatch_not_blocked _ _ _ _ _
  generalize (decHeader r.bytes).map _ = v
  generalize (_ && !fdCodes.contains _) = b1
  generalize (leVal _ == 0) = b2
  -- every leaf is an error, the result of a dispatch, or lies under a read that reports `blocked`
  repeat' split
  all_goals first | exact Res.noConfusion | assumption | contradiction

theorem framed_fds (s : List Cell) (htail : ∀ c ∈ s.tail, c.fds = []) (hcap : ((s.head?.map (·.fds)).getD []).length ≤ 32) :
    ((s.take 12).flatMap (·.fds)).length ≤ 32 ∧ ∀ c ∈ s.drop 12, c.fds = [] := by
  refine ⟨?_, fun c hc => ?_⟩
  · rw [flatMap_fds_take_of_tail s (fun c hc => htail c (mem_tail_of_mem_tail_take hc)) (by decide) (Nat.le_refl 12)]; exact hcap
  · cases s with
    | nil => simp at hc
    | cons x t => exact htail c (List.mem_of_mem_drop (by simpa using hc))

/-- what one server turn does with a stream that starts with a complete message whose descriptors ride on its first byte:
a function of the stream alone (no chooser) -/
def framedOut (st : BSt) (s : List Cell) (h : HOut) : Out × List Cell :=
  let hb := (s.take 12).map (·.b)
  let fds := (s.head?.map (·.fds)).getD []
  let hdr : Hdr := ⟨leVal (hb.take 4), leVal ((hb.drop 4).take 4), leVal ((hb.drop 8).take 4)⟩
  let files : Option (List Fd) := if fds.isEmpty then none else some fds
  match (decHeader hb).map (·.isValid (Gen.Codes.FrontendReq.table.map (·.2))) with
  | some true =>
    if files.isSome && !fdCodes.contains hdr.code then ({ st := st, res := .err .invalidMsg, closed := [] ++ fds }, s.drop 12)
    else if hdr.size == 0 then
      let o := dispatch st hdr [] files h
      ({ o with closed := [] ++ o.closed }, s.drop 12)
    else
      let o := dispatch st hdr (((s.drop 12).take hdr.size).map (·.b)) files h
      ({ o with closed := [] ++ o.closed }, (s.drop 12).drop hdr.size)
  | _ => ({ st := st, res := .err .invalidMsg, closed := [] ++ fds }, s.drop 12)

/-- **server_step_segmentation_independent**: for every chooser (segmentation, timing), open or closed stream, a stream
that starts with a complete message is handled exactly as `framedOut` says — header *and* body are reassembled -/
theorem step_framed {σ : Type} (ch : Chooser σ) (cl : Bool) (st : BSt) (cst : σ) (s : List Cell) (h : HOut)
    (h12 : 12 ≤ s.length) (htail : ∀ c ∈ s.tail, c.fds = []) (hcap : ((s.head?.map (·.fds)).getD []).length ≤ 32)
    (hbody : 12 + leVal ((((s.take 12).map (·.b)).drop 8).take 4) ≤ s.length) :
    (step ch cl st cst s h).o = (framedOut st s h).1 ∧ (step ch cl st cst s h).rest = (framedOut st s h).2 := by
  obtain ⟨hfd12, hdrop⟩ := framed_fds s htail hcap
  obtain ⟨a1, a2, a3⟩ := recvAll_complete ch 32 cl 12 cst s true h12 hfd12
  obtain ⟨a4, a5⟩ := recvAll_fds_first ch 32 cl 12 cst s true htail hcap (by omega)
  have a5' := a5 rfl
  simp only [if_true] at a4
  have hlen : ((s.take 12).map (·.b)).length = 12 := by simp; omega
  have hb' : leVal ((((s.take 12).map (·.b)).drop 8).take 4) ≤ (s.drop 12).length := by
    simp only [List.length_drop]; omega
  obtain ⟨d1, d2, d3, d4⟩ := recvData_complete ch cl _ (recvAll ch 32 cl 12 cst s true).st (s.drop 12) hb' (fun c hc => hdrop c (List.mem_of_mem_take hc))
  unfold step framedOut
  simp only [a1, a2, a3, a4, a5', hlen]
  cases hv : (decHeader ((s.take 12).map (·.b))).map (·.isValid (Gen.Codes.FrontendReq.table.map (·.2))) with
  | none => simp
  | some bv =>
    cases bv with
    | false => simp
    | true =>
      simp only
      cases hc1 : ((if ((s.head?.map (·.fds)).getD []).isEmpty then (none : Option (List Fd)) else some ((s.head?.map (·.fds)).getD [])).isSome &&
          !fdCodes.contains (leVal (((s.take 12).map (·.b)).take 4)))
      · simp only [Bool.false_eq_true, if_false]
        cases hc2 : (leVal ((((s.take 12).map (·.b)).drop 8).take 4) == 0)
        · simp only [Bool.false_eq_true, if_false, d1, d2, d4]
          exact ⟨rfl, rfl⟩
        · simp only [if_true]
          exact ⟨rfl, rfl⟩
      · simp only [if_true]
        exact ⟨rfl, rfl⟩

theorem server_step_segmentation_independent {σ τ : Type} (ch1 : Chooser σ) (ch2 : Chooser τ) (cl1 cl2 : Bool) (st : BSt)
    (c1 : σ) (c2 : τ) (s : List Cell) (h : HOut)
    (h12 : 12 ≤ s.length) (htail : ∀ c ∈ s.tail, c.fds = []) (hcap : ((s.head?.map (·.fds)).getD []).length ≤ 32)
    (hbody : 12 + leVal ((((s.take 12).map (·.b)).drop 8).take 4) ≤ s.length) :
    (step ch1 cl1 st c1 s h).o = (step ch2 cl2 st c2 s h).o ∧ (step ch1 cl1 st c1 s h).rest = (step ch2 cl2 st c2 s h).rest := by
  obtain ⟨x1, x2⟩ := step_framed ch1 cl1 st c1 s h h12 htail hcap hbody
  obtain ⟨y1, y2⟩ := step_framed ch2 cl2 st c2 s h h12 htail hcap hbody
  exact ⟨by rw [x1, y1], by rw [x2, y2]⟩

/-- the stream ends inside the body of a request with a valid header: an error, nothing dispatched -/
theorem truncated_body_is_error {σ : Type} (ch : Chooser σ) (st : BSt) (cst : σ) (s : List Cell) (h : HOut)
    (h12 : 12 ≤ s.length) (htail : ∀ c ∈ s.tail, c.fds = []) (hcap : ((s.head?.map (·.fds)).getD []).length ≤ 32)
    (hshort : s.length < 12 + leVal ((((s.take 12).map (·.b)).drop 8).take 4)) :
    (∃ e, (step ch true st cst s h).o.res = .err e) ∧ (step ch true st cst s h).o.calls = [] := by
  obtain ⟨hfd12, hdrop⟩ := framed_fds s htail hcap
  obtain ⟨a1, a2, a3⟩ := recvAll_complete ch 32 true 12 cst s true h12 hfd12
  have hlen : ((s.take 12).map (·.b)).length = 12 := by simp; omega
  have hb' : (s.drop 12).length < leVal ((((s.take 12).map (·.b)).drop 8).take 4) := by
    simp only [List.length_drop]; omega
  obtain ⟨_, _, _, d1⟩ := recvData_prefix ch true _ (recvAll ch 32 true 12 cst s true).st (s.drop 12)
    fun c hc => hdrop c (List.mem_of_mem_take hc)
  rw [if_neg (Nat.not_le_of_lt hb'), if_pos rfl] at d1
  have hne : (leVal ((((s.take 12).map (·.b)).drop 8).take 4) == 0) = false := by
    apply beq_false_of_ne; omega
  unfold step
  simp only [a1, a2, a3, hlen]
  cases hv : (decHeader ((s.take 12).map (·.b))).map (·.isValid (Gen.Codes.FrontendReq.table.map (·.2))) with
  | none => exact ⟨⟨_, rfl⟩, rfl⟩
  | some bv =>
    cases bv with
    | false => exact ⟨⟨_, rfl⟩, rfl⟩
    | true =>
      simp only [show ((12 : Nat) != 12) = false from rfl, show ((12 : Nat) == 0) = false from rfl, Bool.false_eq_true, if_false]
      cases hc1 : ((if (recvAll ch 32 true 12 cst s true).fds.isEmpty then (none : Option (List Fd))
            else some (recvAll ch 32 true 12 cst s true).fds).isSome &&
          !fdCodes.contains (leVal (((s.take 12).map (·.b)).take 4)))
      · simp only [Bool.false_eq_true, if_false, hne, d1]
        -- the body read comes back `short`: `InvalidMessage`, no call
        exact ⟨⟨_, rfl⟩, trivial⟩
      · simp

example : subIovsOffset [4, 4, 5] 6 0 = (1, 2) := by decide
example : (sendAll [7] [1, 2, 3] 0 [.accept 1, .retry, .accept 5] []).1 = [([1], [7]), ([2, 3], [])] := by
  simp [sendAll]
example : (12 : Nat) ≤ (segCells [3,0,0,0, 1,0,0,0, 0,0,0,0] []).length ∧
    (∀ c ∈ (segCells [3,0,0,0, 1,0,0,0, 0,0,0,0] []).tail, c.fds = []) := by decide

end Props.C08
