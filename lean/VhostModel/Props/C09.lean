import VhostModel.Lemmas.Stream
import VhostModel.Model.BackendSrv
/-!
# C09 — every descriptor received is handed over exactly once or closed; none leak

Descriptors are linear tokens riding on stream cells.  Proved for every chooser (segmentation / timing), every
stream and every request size, by counting occurrences of an arbitrary token `f`:
* `recvAll_fds_linear` — after `recv_into_iovec_all` each token that rode on the stream is in exactly one of:
  handed to the caller, closed by the library (dropped `File`s of later reads, `MSG_CTRUNC` teardown), still unread;
* `recvData_fds_linear` — same for `recv_data` (no control buffer: arriving descriptors are discarded by the kernel);
* `Lemmas.Stream.recvAll_fds_nil_of_not_first` — descriptors of later reads are never handed out; `recvAll_fds_le_cap`.
The token flow inside the dispatch arms (`files` → handler by value / closed) is modelled (`Out.closed`, `Call.fds`)
and exercised by the correspondence, where the real process is inspected: after every scenario (valid, invalid,
truncated, over-stuffed histories; teardown after every message and error path) no open descriptor of the process may
refer to an object that travelled over the socket (`L=`), descriptors lent to the frontend API must still be open
after the call (`lc=`).  Not counted (DESIGN.md): the exit-event consumer `VringEpollHandler::new` turns into a raw
descriptor and never closes — it never travelled over a vhost-user socket.
-/
namespace Props.C09
open Base Model.Stream Lemmas.Stream

def fdsOf (s : List Cell) : List Fd := s.flatMap (·.fds)

theorem fdsOf_split (s : List Cell) (k : Nat) (f : Fd) :
    (fdsOf s).count f = (fdsOf (s.take k)).count f + (fdsOf (s.drop k)).count f := by
  unfold fdsOf
  conv => lhs; rw [← List.take_append_drop k s]
  rw [List.flatMap_append, List.count_append]

/-- **descriptor linearity of the receive loop**: every descriptor that rode on the stream is, after the loop, in exactly
one place — handed to the caller, closed by the library, or still in the unread rest — for every chooser -/
theorem recvAll_fds_linear {σ : Type} (ch : Chooser σ) (cap : Nat) (cl : Bool) (f : Fd) :
    ∀ (want : Nat) (st : σ) (s : List Cell) (first : Bool),
      (fdsOf s).count f = (recvAll ch cap cl want st s first).fds.count f + (recvAll ch cap cl want st s first).closed.count f +
        (fdsOf (recvAll ch cap cl want st s first).rest).count f := by
  intro want st s first
  fun_induction recvAll ch cap cl want st s first with
  | case1 first st s => simp [fdsOf]
  | case2 first n st => simp [fdsOf]
  | case3 want st c s first k0 st' hnext k chunk rest cf hgt r ih =>
    have := fdsOf_split (c :: s) k f
    simp only [List.count_append]
    simp only [fdsOf, chunk, rest, cf, r] at this ih ⊢
    omega
  | case4 want st c s first k0 st' hnext k chunk rest cf hle r ih =>
    have := fdsOf_split (c :: s) k f
    simp only [fdsOf, chunk, rest, cf, r] at this ih ⊢
    have hr := recvAll_fds_nil_of_not_first ch cap cl (want + 1 - k) st' (List.drop k (c :: s)) false rfl
    cases first <;> simp only [List.count_append, if_true, if_false, Bool.false_eq_true, List.count_nil, hr] at ih ⊢ <;> omega

theorem recvData_fds_linear {σ : Type} (ch : Chooser σ) (cl : Bool) (f : Fd) :
    ∀ (want : Nat) (st : σ) (s : List Cell),
      (fdsOf s).count f = (recvData ch cl want st s).lost.count f + (fdsOf (recvData ch cl want st s).rest).count f := by
  intro want st s
  fun_induction recvData ch cl want st s with
  | case1 st s => simp [fdsOf]
  | case2 n st => simp [fdsOf]
  | case3 want st c s k0 st' hnext k chunk rest cf hne =>
    have := fdsOf_split (c :: s) k f
    simp only [fdsOf, chunk, rest, cf] at this ⊢
    omega
  | case4 want st c s k0 st' hnext k chunk rest cf he r ih =>
    have := fdsOf_split (c :: s) k f
    have hcf : cf = [] := by simpa using he
    simp only [fdsOf, chunk, rest, cf, r] at this ih hcf ⊢
    rw [hcf] at this
    simp only [List.count_nil] at this
    omega

/-- the caller never gets more descriptors than the receive limit -/
theorem recvAll_fds_le_cap {σ : Type} (ch : Chooser σ) (cap : Nat) (cl : Bool) :
    ∀ (want : Nat) (st : σ) (s : List Cell) (first : Bool), (recvAll ch cap cl want st s first).fds.length ≤ cap := by
  intro want st s first
  fun_induction recvAll ch cap cl want st s first with
  | case1 first st s => simp
  | case2 first n st => simp
  | case3 want st c s first k0 st' hnext k chunk rest cf hgt r ih => exact ih
  | case4 want st c s first k0 st' hnext k chunk rest cf hle r ih =>
    cases first
    · exact ih
    · simp only [if_true]; omega

/-! ### non-vacuity -/
example : fdsOf (segCells [1, 2, 3] [7, 8]) = [7, 8] := by decide

end Props.C09
