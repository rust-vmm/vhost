import VhostModel.Model.Frontend
import VhostModel.Lemmas.Stream
import VhostModel.Props.C03
/-!
# C06 — frontend-side parsers accept only the matching reply

Over `Model.Frontend.recv` (the reply readers of `frontend.rs`, tied by the `fe` correspondence family, peer
mode with mutated replies): for every stream, chooser and request, a reply is accepted only if it carries
the REPLY flag, the request's own code, a valid header and body, and descriptors exactly as the reply type
allows; the value handed to the caller is computed from the accepted bytes only (`Model.Frontend.finish`).
The proxies (`backend_req.rs`, `gpu_backend_req.rs`) and the frontend's request server are covered by the
`proxy`/`besrv` families (see Props.C18).
Recorded limit (DESIGN.md): the fixed-size readers do not compare the header's size field with the bytes read.
-/
namespace Props.C06
open Base Model.Stream Model.Frontend Lemmas.Stream
open Model.BackendSrv (Err Hdr bitSet)

/-- what `recv_body::<ty>` accepts: exactly 12 + sizeof(ty) bytes, a valid header and a valid body -/
theorem recvBody_ok_sound {σ : Type} (ch : Chooser σ) (cl : Bool) (ty : String) (cst : σ) (s : List Cell) (r : Reply)
    (h : (recvBody ch cl ty cst s).res = .ok r) :
    ∃ n hb, sizeOfTy ty = some n ∧ hb.length = 12 ∧ r.body.length = n ∧ hdrValid hb = true ∧ r.hdr = parseHdr hb ∧
      bodyValidTy ty r.body = some true ∧ r.payload = [] := by
  revert h
  -- the only `.ok` branch of `recvBody` sits behind the length test and the two validity tests
  fun_cases recvBody ch cl ty cst s <;> intro h <;> simp_all +zetaDelta
  subst h
  have hlen := ‹List.length _ = 12 + _›
  have hval := ‹hdrValid _ = true ∧ bodyValidTy ty _ = some true›
  exact ⟨_, by simp [hlen], by simp [hlen], hval.1, rfl, hval.2, rfl⟩

/-- **accept only the matching reply**: whenever a reply-reading call accepts bytes, they carry the REPLY flag, the
request's own code, a valid header and body, and descriptors exactly as the reply type allows -/
theorem recv_ok_is_reply_for {σ : Type} (ch : Chooser σ) (cl : Bool) (s : FSt) (req : Req) (cst : σ) (str : List Cell) (r : Reply)
    (h : (recv ch cl s req cst str).res = .ok r)
    (hwait : match req.kind with
      | .noWait => False
      | .ack => bitSet s.ackedProto 3 = true ∧ (reqHdr s req).needReply = true
      | _ => True) :
    isReplyFor r.hdr (reqHdr s req) = true ∧
    (match req.kind with
     | .ack | .body _ | .payload _ => r.files = none
     | .bodyFiles _ => r.files.isSome = true
     | _ => True) := by
  revert h
  -- every `.ok` branch of `recv` hands out what `recvBody` delivered, behind the `isReplyFor` test and the reader's
  -- test of the descriptors; the payload reader's, left over, fills in the payload of such a reply
  fun_cases recv ch cl s req cst str <;> intro h <;> simp_all +zetaDelta [Option.isSome_iff_ne_none]
  subst h
  simp_all

/-- the value handed to the caller is a function of the accepted reply alone -/
theorem never_fabricates (s : FSt) (op : Op) (r₁ r₂ : Reply) (h : r₁ = r₂) : finish s op r₁ = finish s op r₂ := by rw [h]

/-! ### non-vacuity -/
example : isReplyFor ⟨1, 5, 8⟩ ⟨1, 1, 0⟩ = true := by decide
example : isReplyFor ⟨2, 5, 8⟩ ⟨1, 1, 0⟩ = false := by decide
example : isReplyFor ⟨1, 1, 8⟩ ⟨1, 1, 0⟩ = false := by decide

end Props.C06
