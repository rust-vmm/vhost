import VhostModel.Lemmas.Bits
import VhostModel.Gen.Codes
import VhostModel.Gen.Validators
import VhostModel.Spec.Valid

/-!
# C20 — message validators accept exactly the protocol-valid encodings

For every message type `X`: `Gen.X.isValid m = true ↔ Spec.validX (fields of m as naturals)`, for
all bit patterns.  `Gen.*` is regenerated from `message.rs` / `gpu_message.rs` on every run.
-/

namespace Props.C20
open Base Gen

/-! ### request-code tables -/

theorem frontend_codes : Codes.FrontendReq.table.map (·.2) = Spec.frontendCodes := by decide +kernel
theorem backend_codes : Codes.BackendReq.table.map (·.2) = Spec.backendCodes := by decide +kernel
theorem gpu_codes : Codes.GpuBackendReq.table.map (·.2) = Spec.gpuCodes := by decide +kernel

theorem codeOkN_iff (codes : List Nat) (v : Nat) : codeOkN codes v = true ↔ v ∈ codes := by
  simp [codeOkN]

theorem codeOk_iff (t : List (String × Nat)) (v : Nat) : codeOk t v = true ↔ v ∈ t.map (·.2) := by
  simp [codeOk, List.any_eq_true]

/-- every `u32`: the header's request code is accepted iff it is a code of the channel -/
theorem header_code_known_iff (v : BitVec 32) :
    codeOkN (Codes.FrontendReq.table.map (·.2)) v.toNat = true ↔ (1 ≤ v.toNat ∧ v.toNat ≤ 44) := by
  rw [codeOkN_iff, frontend_codes]
  simp [Spec.frontendCodes]
  constructor
  · rintro ⟨a, h, e⟩; omega
  · intro h; exact ⟨v.toNat - 1, by omega, by omega⟩

/-! ### the atoms of the validators, as statements about the field values -/

/-- a validator written as a chain of early rejections accepts iff no test fires and the rest accepts -/
theorem reject_iff (c : Prop) [Decidable c] (b : Bool) : (if c then false else b) = true ↔ ¬c ∧ b = true := by
  by_cases h : c <;> simp [h]

theorem eq_zero_iff {n : Nat} (x : BitVec n) : (x == 0#n) = true ↔ x.toNat = 0 := by
  simp [BitVec.toNat_eq]

theorem ne_zero_iff {n : Nat} (x : BitVec n) : (x != 0#n) = true ↔ x.toNat ≠ 0 := by
  simp [BitVec.toNat_eq]

/-! ### headers -/

theorem isValid_header_iff (codes : List Nat) (m : VhostUserMsgHeader) :
    m.isValid codes = true ↔ Spec.validHeader codes m.request.toNat m.flags.toNat m.size.toNat := by
  have hv : m.flags &&& 0x3#32 = 0x1#32 ↔ m.flags.toNat % 4 = 1 := lo_eq_iff m.flags 2 1 (by decide) (by decide)
  have hr : m.flags &&& 0xfffffff0#32 = 0#32 ↔ m.flags.toNat < 16 := hi_zero_iff m.flags 4
  have hs : ¬ 0x1000#64 < BitVec.setWidth 64 m.size ↔ m.size.toNat ≤ 4096 := by
    rw [BitVec.lt_def, BitVec.toNat_setWidth, Nat.mod_eq_of_lt (Nat.lt_trans m.size.isLt (by decide)), Nat.not_lt]
    rfl
  simp only [VhostUserMsgHeader.isValid, Spec.validHeader, reject_iff, Bool.not_eq_true', Bool.not_eq_false,
    codeOkN_iff, decide_eq_true_eq, bne_iff_ne, ne_eq, Decidable.not_not, hv, hr, hs, and_true]

/-- front-end channel header (the statement's "known request code" = 1..=44) -/
theorem isValid_frontend_header_iff (m : VhostUserMsgHeader) :
    m.isValid (Codes.FrontendReq.table.map (·.2)) = true ↔
      Spec.validHeader Spec.frontendCodes m.request.toNat m.flags.toNat m.size.toNat := by
  rw [isValid_header_iff, frontend_codes]

/-- back-end channel header (codes 1..=10) -/
theorem isValid_backend_header_iff (m : VhostUserMsgHeader) :
    m.isValid (Codes.BackendReq.table.map (·.2)) = true ↔
      Spec.validHeader Spec.backendCodes m.request.toNat m.flags.toNat m.size.toNat := by
  rw [isValid_header_iff, backend_codes]

theorem isValid_gpu_header_iff (m : VhostUserGpuMsgHeader) :
    m.isValid (Codes.GpuBackendReq.table.map (·.2)) = true ↔
      Spec.validGpuHeader m.request.toNat m.flags.toNat := by
  simp only [VhostUserGpuMsgHeader.isValid, Spec.validGpuHeader, Bool.and_eq_true, codeOkN_iff, gpu_codes,
    beq_iff_eq]
  have key : (m.flags &&& ~~~(0x4#32) = 0x0#32) ↔ (m.flags.toNat = 0 ∨ m.flags.toNat = 4) := by
    rw [and_not_eq_zero_iff, BitVec.toNat_eq, BitVec.toNat_and]
    have := nat_and_two_pow_cases m.flags.toNat 2
    constructor
    · intro h; simp at h this; omega
    · rintro (h | h) <;> rw [h] <;> rfl
  rw [key]

/-! ### bodies -/

theorem isValid_memory_iff (m : VhostUserMemory) :
    m.isValid = true ↔ Spec.validMemory m.num_regions.toNat m.padding1.toNat := by
  have hn : BitVec.setWidth 32 0x20#64 < m.num_regions ↔ 32 < m.num_regions.toNat := by simp [BitVec.lt_def]
  simp only [VhostUserMemory.isValid, Spec.validMemory, reject_iff, ne_zero_iff, eq_zero_iff, Bool.or_eq_true,
    decide_eq_true_eq, hn, and_true]
  omega

theorem isValid_region_iff (m : VhostUserMemoryRegion) :
    m.isValid = true ↔
      Spec.validRegion m.guest_phys_addr.toNat m.memory_size.toNat m.user_addr.toNat m.mmap_offset.toNat := by
  simp only [VhostUserMemoryRegion.isValid, Spec.validRegion, Bool.and_eq_true, checkedAdd_isSome_iff,
    ne_zero_iff, and_assoc]

/-- single-region add/remove messages are held to the same region rules as the memory table -/
theorem isValid_single_iff (m : VhostUserSingleMemoryRegion) :
    m.isValid = true ↔
      Spec.validRegion m.region.guest_phys_addr.toNat m.region.memory_size.toNat m.region.user_addr.toNat
        m.region.mmap_offset.toNat :=
  isValid_region_iff m.region

theorem isValid_vring_addr_iff (m : VhostUserVringAddr) :
    m.isValid = true ↔
      Spec.validVringAddr m.flags.toNat m.descriptor.toNat m.used.toNat m.available.toNat := by
  have hf : m.flags &&& ~~~0x1#32 = 0#32 ↔ m.flags.toNat < 2 := hi_zero_iff m.flags 1
  have hd : m.descriptor &&& 0xf#64 = 0#64 ↔ m.descriptor.toNat % 16 = 0 := lo_zero_iff m.descriptor 4 (by decide)
  have ha : m.available &&& 0x1#64 = 0#64 ↔ m.available.toNat % 2 = 0 := lo_zero_iff m.available 1 (by decide)
  have hu : m.used &&& 0x3#64 = 0#64 ↔ m.used.toNat % 4 = 0 := lo_zero_iff m.used 2 (by decide)
  simp only [VhostUserVringAddr.isValid, Spec.validVringAddr, reject_iff, bne_iff_ne, ne_eq, Decidable.not_not,
    hf, hd, ha, hu, and_true]

theorem isValid_config_iff (m : VhostUserConfig) :
    m.isValid = true ↔ Spec.validConfig m.offset.toNat m.size.toNat m.flags.toNat := by
  have hf : m.flags &&& ~~~0x3#32 = 0#32 ↔ m.flags.toNat < 4 := hi_zero_iff m.flags 2
  have := m.size.isLt; have := m.offset.isLt
  simp only [VhostUserConfig.isValid, Spec.validConfig]
  cases hc : checkedAdd m.size m.offset with
  | none =>
    have := (checkedAdd_eq_none _ _).1 hc
    simp; omega
  | some addr =>
    obtain ⟨h1, h2⟩ := (checkedAdd_eq_some _ _ _).1 hc
    have ha : 0x1000#32 < addr ↔ 4096 < addr.toNat := by simp [BitVec.lt_def]
    simp only [reject_iff, bne_iff_ne, ne_eq, Decidable.not_not, hf, eq_zero_iff, Bool.or_eq_true, decide_eq_true_eq,
      ha, and_true]
    omega

theorem isValid_inflight_iff (m : VhostUserInflight) :
    m.isValid = true ↔ Spec.validInflight m.num_queues.toNat m.queue_size.toNat := by
  simp only [VhostUserInflight.isValid, Spec.validInflight, reject_iff, eq_zero_iff, Bool.or_eq_true, not_or, ne_eq,
    and_true]

theorem isValid_log_iff (m : VhostUserLog) :
    m.isValid = true ↔ Spec.validLog m.mmap_size.toNat m.mmap_offset.toNat := by
  simp only [VhostUserLog.isValid, Spec.validLog, reject_iff, eq_zero_iff, Bool.or_eq_true, checkedAdd_isNone_iff,
    not_or, Nat.not_le, ne_eq, and_true]

theorem transfer_direction_codes : Codes.VhostTransferStateDirection.table.map (·.2) = [0, 1] := by decide
theorem transfer_phase_codes : Codes.VhostTransferStatePhase.table.map (·.2) = [0] := by decide

theorem isValid_transfer_iff (m : VhostUserTransferDeviceState) :
    m.isValid = true ↔ Spec.validTransfer m.direction.toNat m.phase.toNat := by
  simp only [VhostUserTransferDeviceState.isValid, Spec.validTransfer, Bool.and_eq_true, codeOk_iff,
    transfer_direction_codes, transfer_phase_codes]
  simp; omega

theorem isValid_shared_iff (m : VhostUserSharedMsg) :
    m.isValid = true ↔ Spec.validUuid m.uuid.toNat := by
  simp [VhostUserSharedMsg.isValid, Spec.validUuid, BitVec.toNat_eq]

theorem isValid_mmap_iff (m : VhostUserMMap) :
    m.isValid = true ↔ Spec.validMMap m.fd_offset.toNat m.shm_offset.toNat m.len.toNat m.flags.toNat := by
  have hf : m.flags &&& ~~~0x1#64 = 0#64 ↔ m.flags.toNat < 2 := hi_zero_iff m.flags 1
  simp only [VhostUserMMap.isValid, Spec.validMMap, Bool.and_eq_true, checkedAdd_isSome_iff, ne_zero_iff,
    beq_iff_eq, hf]
  constructor
  · rintro ⟨⟨⟨a, b⟩, c⟩, d⟩; exact ⟨c, a, b, d⟩
  · rintro ⟨a, b, c, d⟩; exact ⟨⟨⟨b, c⟩, a⟩, d⟩

/-! ### messages without protocol rules keep the default (always valid) -/

theorem u64_always_valid (m : VhostUserU64) : m.isValid = true := rfl
theorem vring_state_always_valid (m : VhostUserVringState) : m.isValid = true := rfl
theorem validator_kinds :
    (validatorKinds.filter (·.2 == "custom")).map (·.1) =
      ["VhostUserMsgHeader", "VhostUserMemory", "VhostUserMemoryRegion", "VhostUserSingleMemoryRegion",
       "VhostUserVringAddr", "VhostUserConfig", "VhostUserInflight", "VhostUserLog", "VhostUserSharedMsg",
       "VhostUserTransferDeviceState", "VhostUserMMap", "VhostUserGpuMsgHeader"] := by rfl

/-! ### non-vacuity: each rule accepts something and rejects something -/

example : (⟨1, 1, 0⟩ : VhostUserMsgHeader).isValid (Codes.FrontendReq.table.map (·.2)) = true := by decide
example : (⟨45, 1, 0⟩ : VhostUserMsgHeader).isValid (Codes.FrontendReq.table.map (·.2)) = false := by decide
example : (⟨1, 1, 0x1001⟩ : VhostUserMsgHeader).isValid (Codes.FrontendReq.table.map (·.2)) = false := by decide
example : (⟨0x1000, 0x1000, 0xffffffffffffe000, 0⟩ : VhostUserMemoryRegion).isValid = true := by decide
example : (⟨0x1000, 0x1000, 0xfffffffffffff000, 0⟩ : VhostUserMemoryRegion).isValid = false := by decide
example : (⟨0, ⟨0x1000, 0, 0, 0⟩⟩ : VhostUserSingleMemoryRegion).isValid = false := by decide
example : (⟨0xfff, 1, 3⟩ : VhostUserConfig).isValid = true := by decide
example : (⟨0xfff, 2, 0⟩ : VhostUserConfig).isValid = false := by decide
example : (⟨0xffffffff, 1, 0⟩ : VhostUserConfig).isValid = false := by decide

end Props.C20
