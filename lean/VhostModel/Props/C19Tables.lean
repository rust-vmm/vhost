import VhostModel.Lemmas.Kern
import VhostModel.Gen.Ioctl
/-!
# C19, tables: the two joins and the request an operation issues

`table_rows_are_uapi` joins `Gen.Ioctl.table` with `Spec.Uapi.ioctls` (by ioctl name), `ops_joined` joins `Gen.Ioctl.ops` with the
UAPI's operation map (by `Trait.method`) and with `table` (by request name); `issued_at` / `issued_is_uapi` hand an operation's
request value and argument size to the per-operation theorems.  Rests on `Lemmas/Kern.lean` (`issued`).
-/
namespace Props.C19
open Base Base.K Gen.Ioctl Model.Kern Lemmas.Kern

theorem table_rows_are_uapi :
    ∀ r ∈ table, ∃ u ∈ Spec.Uapi.ioctlByName r.name, u.dir = dirOf r.kind ∧ r.ty = Spec.Uapi.VHOST_VIRTIO ∧
      u.nr = r.nr ∧ u.size = argSize r ∧ u.request = requestOfRow r ∧ (requestOfRow r).isSome := by
  decide +kernel

/-- every generated `ioctl_io*_nr!` row: the UAPI defines an ioctl of that name with the same direction,
    type, number and argument size, hence the same request value -/
theorem ioctl_numbers_match_uapi :
    ∀ r ∈ table, ∃ u ∈ Spec.Uapi.ioctls, u.name = r.name ∧ u.dir = dirOf r.kind ∧ r.ty = Spec.Uapi.VHOST_VIRTIO ∧
      u.nr = r.nr ∧ u.size = argSize r ∧ u.request = requestOfRow r ∧ (requestOfRow r).isSome := by
  intro r hr
  obtain ⟨u, hu, h⟩ := table_rows_are_uapi r hr
  exact ⟨u, List.mem_of_find?_eq_some hu, by simpa using List.find?_some hu, h⟩

/-- every method joined with the UAPI's operation map (by `Trait.method`) and with the generated table (by request name) -/
theorem ops_joined :
    ∀ o ∈ ops, Spec.Uapi.requestFor (o.scope ++ "." ++ o.method) = some o.request ∧
      ∃ r ∈ rowByName o.request, (r.kind = .io ↔ o.wrapper = "ioctl") ∧
        (r.kind = .ior ∨ r.kind = .iowr → o.wrapper = "ioctl_with_mut_ref" ∨ o.wrapper = "ioctl_with_ptr") := by
  decide +kernel

/-- every method of the four backends passes the request the UAPI defines for that operation -/
theorem op_issues_uapi_ioctl : ∀ o ∈ ops, Spec.Uapi.requestFor (o.scope ++ "." ++ o.method) = some o.request :=
  fun o ho => (ops_joined o ho).1

/-- all the string-keyed lookups in one evaluation; an operation reads its row off by position (`Option.some.inj (issued_at k)`),
    which compares no strings -/
theorem issued_at (k : Nat) : (ops[k]?).map (fun o => issued o.scope o.method) =
    [some (0x8008af00, 8), some (0x4008af00, 8), some (0xaf01, 0), some (0xaf02, 0), some (0x4008af03, 8), some (0x4008af04, 8),
     some (0x4004af07, 4), some (0x4008af10, 8), some (0x4028af11, 40), some (0x4008af12, 8), some (0xc008af12, 8),
     some (0x4008af21, 8), some (0x4008af20, 8), some (0x4008af22, 8), some (0x8008af26, 8), some (0x4008af25, 8),
     some (0x4028af11, 40), some (0x8004af70, 4), some (0x8001af71, 1), some (0x4001af72, 1), some (0x8008af73, 8),
     some (0x4008af74, 8), some (0x4008af75, 8), some (0x8002af76, 2), some (0x4004af77, 4), some (0x8010af78, 16),
     some (0x8004af79, 4), some (0x8004af80, 4), some (0x8004af81, 4), some (0x8004af7a, 4), some (0xc008af7b, 8),
     some (0x4008af7c, 8), some (0xaf7d, 0), some (0x4008af30, 8), some (0x4004af61, 4), some (0x4008af60, 8)][k]? := by
  rw [← List.getElem?_map]
  exact congrArg (·[k]?) (by decide +kernel)

theorem issued_is_uapi {scope method : String} {req size : Nat} (h : issued scope method = some (req, size)) :
    opRequest scope method = some req ∧
    ∃ u, (Spec.Uapi.requestFor (scope ++ "." ++ method)).bind Spec.Uapi.ioctlByName = some u ∧
      u.request = some req ∧ u.size = some size := by
  unfold issued at h
  obtain ⟨o, ho, h⟩ := Option.bind_eq_some_iff.1 h
  obtain ⟨r, hr, h⟩ := Option.bind_eq_some_iff.1 h
  obtain ⟨s, hs, h⟩ := Option.map_eq_some_iff.1 h
  obtain ⟨rfl, rfl⟩ := Prod.mk.inj h
  have hreq : requestOfRow r = some (ioctlExpr (dirOf r.kind) r.ty r.nr s) := by simp [requestOfRow, hs]
  refine ⟨by simp [opRequest, ho, hr, hreq], ?_⟩
  have hk := List.find?_some ho
  simp only [Bool.and_eq_true, beq_iff_eq] at hk
  have hn := List.find?_some hr
  simp only [beq_iff_eq] at hn
  obtain ⟨u, hu, -, -, -, hsz, hrq, -⟩ := table_rows_are_uapi r (List.mem_of_find?_eq_some hr)
  refine ⟨u, ?_, hrq.trans hreq, hsz.trans hs⟩
  rw [← hk.1, ← hk.2, op_issues_uapi_ioctl o (List.mem_of_find?_eq_some ho), Option.bind_some, ← hn]
  exact hu

end Props.C19
