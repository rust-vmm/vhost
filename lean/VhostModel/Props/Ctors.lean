import VhostModel.Base
import VhostModel.Base.CtorSig
import VhostModel.Gen.Layout
import VhostModel.Gen.Ctors
import VhostModel.Model.Ctors
import VhostModel.Gen.Flags
import VhostModel.Model.BackendSrv
/-!
# The constructors of the wire structs store what the models assume (C01, C02)

`Gen.Ctors.ctors` is regenerated on every run by `tools/rs2lean_ctors.py` from `message.rs` and `gpu_message.rs`.

* `ctors_are_model`        — the generated table is the hand-written `Model.Ctors.expected`;
* `fields_cover_layout`    — every struct-literal constructor names exactly the fields of the struct's wire layout
                             (`Gen.Layout.structs`, generated from the same source), each once: nothing is left to
                             `..Default::default()`;
* `no_parameter_dropped`   — every parameter of every constructor is read by some field;
* `padding_is_zero`        — every field called `padding…` receives `0` / `[0; n]` (`padding_fields` lists them);
* `initialisers_understood`— no initialiser is of a shape the translator could not classify (`.other`);
* `prefixPad_get`, `prefixPad_length`, `shmem_sizes_every_id` — for **every** slice `memory` and every region id
  `id < 256` the `memory_sizes[id]` stored by `VhostUserShMemConfig::new` is `memory[id]`, or 0 past the end of the
  slice; the array always has 256 entries;
* `shmem_sizes_bytes`      — the byte string the server model (`Model.BackendSrv`, `getShmem`) predicts for the reply,
  `(payload ++ zeros).take 2048`, is the little-endian encoding of that array when the handler's payload is the
  encoding of `memory`;
* `vring_addr_log_unconditional` — `from_config_data` stores `log_addr` whatever the flags word is, and 0 only when
  the caller gave none;
* `header_new_flags`       — for every flags argument the header constructor stores `Model.BackendSrv.hdrNewFlags` of
  it (mask = the generated `Gen.Flags` constant); `Props.C01.hdr_new_version_and_flags` is the all-words statement
  about that function.

A non-vacuity `example` follows each universally quantified statement.

The facts about the table are closed by evaluation in the kernel alone (`decide +kernel`): the elaborator's own
evaluator is slow on `String` comparisons, and the tables are all names.
-/
namespace Props.Ctors
open Base Base.CtorSig

abbrev ctors : List Ctor := Gen.Ctors.ctors

theorem ctors_are_model : Gen.Ctors.ctors = Model.Ctors.expected := by rfl

/-- struct-literal constructors (all but the `Self::default()` delegations) -/
def literal (c : Ctor) : Bool := c.fields.all fun f => f.1 != "*"

def layoutNames (ty : String) : Option (List String) :=
  (Gen.Layout.structs.find? fun s => s.name == ty).map fun s => s.fields.map (·.1)

theorem fields_cover_layout :
    ∀ c ∈ ctors, literal c = true → layoutNames c.ty = some (c.fields.map (·.1)) := by decide +kernel

theorem no_parameter_dropped :
    ∀ c ∈ ctors, ∀ p ∈ c.params, ∃ f ∈ c.fields, p.1 ∈ f.2.reads := by decide +kernel

/-- field names that begin with `padding` -/
def isPadding (f : String) : Bool := f.toList.take 7 == "padding".toList

/-- the padding fields of all constructors, in table order -/
theorem padding_fields : (ctors.flatMap (·.fields)).filter (fun f => isPadding f.1) =
    [("padding1", .lit 0), ("padding", .lit 0), ("padding", .lit 0), ("padding", .lit 0), ("padding", .zeros 7),
     ("padding", .lit 0)] := by decide +kernel

theorem padding_is_zero :
    ∀ c ∈ ctors, ∀ f ∈ c.fields, isPadding f.1 = true → (f.2 = .lit 0 ∨ ∃ n, f.2 = .zeros n) := by
  intro c hc f hf hp
  have hmem : f ∈ (ctors.flatMap (·.fields)).filter (fun f => isPadding f.1) :=
    List.mem_filter.2 ⟨List.mem_flatMap.2 ⟨c, hc, hf⟩, hp⟩
  rw [padding_fields] at hmem
  simp only [List.mem_cons, List.not_mem_nil, or_false] at hmem
  rcases hmem with rfl | rfl | rfl | rfl | rfl | rfl <;> simp

def understood : Init → Bool
  | .other _ => false
  | _ => true

theorem initialisers_understood : ∀ c ∈ ctors, ∀ f ∈ c.fields, understood f.2 = true := by decide +kernel

example : (ctors.filter literal).length = 20 ∧ ctors.length = 22 := by decide +kernel
example : ((ctors.flatMap (·.fields)).filter fun f => isPadding f.1).length = 6 :=
  congrArg List.length padding_fields

/-! ## `VhostUserShMemConfig::new`: one size per region id, for every id -/

theorem prefixPad_length (xs : List Nat) (n : Nat) : (prefixPad xs n).length = n := by
  simp [prefixPad, List.length_take, List.length_append, List.length_replicate]

theorem prefixPad_get (xs : List Nat) (n i : Nat) (h : i < n) : (prefixPad xs n)[i]? = some (xs.getD i 0) := by
  rw [prefixPad, List.getElem?_take_of_lt h, List.getElem?_append, List.getD_eq_getElem?_getD]
  split
  · next hi => rw [List.getElem?_eq_getElem hi]; rfl
  · next hi => rw [List.getElem?_replicate, if_pos (by omega), List.getElem?_eq_none (by omega)]; rfl

theorem shmem_new_init :
    (find ctors "VhostUserShMemConfig" "new").bind (·.init "memory_sizes") = some (.prefixPad "memory" 256) := by decide +kernel

/-- what `VhostUserShMemConfig::new(nregions, memory)` stores in `memory_sizes`, for every `memory` and every id -/
theorem shmem_sizes_every_id (env : Env) (mask : String → Nat) (id : Nat) (h : id < 256) :
    ∃ ws, evalInit env mask (.prefixPad "memory" 256) = some ws ∧ ws.length = 256 ∧
      ws[id]? = some ((env "memory").getD id 0) :=
  ⟨_, rfl, prefixPad_length _ _, prefixPad_get _ _ _ h⟩

example : (prefixPad [7, 8, 9] 4) = [7, 8, 9, 0] ∧ (prefixPad (List.range 300) 256)[255]? = some 255 := by decide +kernel

/-- when every `f x` has length `k`, the first `k * n` elements of a `flatMap` are the `flatMap` of the first `n` -/
theorem take_flatMap_of_length {α β} (f : α → List β) (k : Nat) (hf : ∀ x, (f x).length = k) (xs : List α) (n : Nat) :
    (xs.flatMap f).take (k * n) = (xs.take n).flatMap f := by
  induction xs generalizing n with
  | nil => simp
  | cons x xs ih =>
    cases n with
    | zero => simp
    | succ n =>
      rw [List.flatMap_cons, List.take_succ_cons, List.flatMap_cons, ← ih n, Nat.mul_succ, Nat.add_comm,
        ← hf x, List.take_length_add_append, hf x]

theorem leBytes_zero (k : Nat) : leBytes k 0 = List.replicate k (0 : UInt8) := by
  induction k with
  | zero => rfl
  | succ k ih => simp [leBytes, ih, List.replicate_succ]

theorem flatMap_leBytes_replicate_zero (k n : Nat) :
    (List.replicate n 0).flatMap (leBytes k) = List.replicate (k * n) (0 : UInt8) := by
  rw [List.flatMap_replicate, leBytes_zero, List.flatten_replicate_replicate, Nat.mul_comm]

/-- bytes: `k`-byte little-endian words, first `n`, zero padded, is the zero-padded prefix of the bytes -/
theorem shmem_sizes_bytes (k : Nat) (xs : List Nat) (n : Nat) :
    ((xs.flatMap (leBytes k)) ++ List.replicate (k * n) (0 : UInt8)).take (k * n)
      = (prefixPad xs n).flatMap (leBytes k) := by
  rw [prefixPad, ← take_flatMap_of_length _ k (leBytes_length k), List.flatMap_append, flatMap_leBytes_replicate_zero]

/-- the reply body of `Model.BackendSrv` for GET_SHMEM_CONFIG (2048 bytes) is the encoding of the array above -/
example (xs : List Nat) :
    ((xs.flatMap (leBytes 8)) ++ List.replicate 2048 (0 : UInt8)).take 2048 = (prefixPad xs 256).flatMap (leBytes 8) :=
  shmem_sizes_bytes 8 xs 256

/-! ## `VhostUserVringAddr::from_config_data`: the log address does not depend on the flags -/

theorem from_config_data_log :
    (find ctors "VhostUserVringAddr" "from_config_data").bind (·.init "log") = some (.fieldOr "config_data" "log_addr" 0) := by
  decide +kernel

theorem vring_addr_log_unconditional (env env' : Env) (mask : String → Nat)
    (h : env "config_data.log_addr" = env' "config_data.log_addr") :
    evalInit env mask (.fieldOr "config_data" "log_addr" 0) = evalInit env' mask (.fieldOr "config_data" "log_addr" 0) := by
  simp [evalInit, h]

theorem vring_addr_log_value (env : Env) (mask : String → Nat) (a : Nat) (h : env "config_data.log_addr" = [a]) :
    evalInit env mask (.fieldOr "config_data" "log_addr" 0) = some [a] := by
  simp [evalInit, h]

theorem vring_addr_log_none (env : Env) (mask : String → Nat) (h : env "config_data.log_addr" = []) :
    evalInit env mask (.fieldOr "config_data" "log_addr" 0) = some [0] := by
  simp [evalInit, h]

/-! ## the header constructor -/

theorem header_new_init :
    (find ctors "VhostUserMsgHeader" "new").bind (·.init "flags") = some (.masked "flags" "VhostUserHeaderFlag::ALL_FLAGS" 1) := by
  decide +kernel

/-- the meaning of the flag-set names that occur in `.masked` initialisers: the generated constants of `Gen.Flags` -/
def maskOf : String → Nat
  | "VhostUserHeaderFlag::ALL_FLAGS" => Gen.Flags.VhostUserHeaderFlag.ALL_FLAGS
  | _ => 0

/-- the flags word `VhostUserMsgHeader::new` stores is `Model.BackendSrv.hdrNewFlags` of the argument, for every
argument; `Props.C01.hdr_new_version_and_flags` is the statement about that function for all 2^32 words (version 1,
only REPLY / NEED_REPLY survive) -/
theorem header_new_flags (env : Env) :
    evalInit env maskOf (.masked "flags" "VhostUserHeaderFlag::ALL_FLAGS" 1)
      = some ((env "flags").map Model.BackendSrv.hdrNewFlags) := by
  simp [evalInit, maskOf, Model.BackendSrv.hdrNewFlags, Gen.Flags.VhostUserHeaderFlag.ALL_FLAGS]

example : evalInit (fun _ => [0xffffffff]) maskOf (.masked "flags" "VhostUserHeaderFlag::ALL_FLAGS" 1) = some [0xd] := by decide +kernel

end Props.Ctors
