import VhostModel.Lemmas.Routing

/-!
# C17 — kicks are routed to the owning worker with the ring's rank as event id

`Model.Routing` transcribes `handler.rs` (slices, `update_vring_registration`) and `event_loop.rs` (exit id, listener id
check, `as u16` dispatch) — with the listener rule of the tree repaired by `fix-c17-listener-id.patch`.
`Spec.Routing` is the property statement.  Theorems (all for arbitrary 64-bit masks, any number of threads, `n ≤ 64`
queues — beyond 64 the Rust shift `queues_mask >> index` overflows, which is C05's subject):

* `evtIdx_is_rank`            popcount(mask) − popcount(mask >> q) = #{p < q | bit p of mask}   (all 2^64 masks, q < 64)
* `threadVrings_is_slice`     the slice of thread t is its queues in increasing order
* `slice_at_rank_is_queue`    slice[evtIdx] = q
* `registration_is_owner`, `owner_unique`   one registration, on the first thread whose mask has q
* `exit_id_distinct`          a queue's event id is < num_queues = exit id, and is a valid index of the slice
* `kick_meets_spec`           Model ⊨ Spec for one kick (the very predicate the spec driver evaluates on the implementation)
* `listener_id_exact`         accepted id ⇒ delivered as exactly that id, not a ring index, not the exit id, no queue's rank
* `listener_model_meets_spec` the model's listener outcome satisfies `Spec.Routing.listenerOk`
* `listener_id_truncated_counterexample`  the unmodified rule (`listenerAcceptedOld`) violates it: 65536+k is delivered
  as k (a ring's kick, or the exit event) — finding F-C17-u16.
-/

namespace Props.C17
open Model.Routing
open Lemmas.Routing

/-! ### the event id is the rank -/
/-- **for all 2^64 masks and all `q < 64`** (in particular those with bit `q` set):
`count_ones(mask) − count_ones(mask >> q)` is the number of set bits below `q` -/
theorem evtIdx_is_rank (mask : U64) (q : Nat) (hq : q < 64) :
    evtIdx mask q = Spec.Routing.rank mask.toNat q := by
  unfold evtIdx popcount Spec.Routing.rank
  rw [popcount_split 64 mask.toNat q mask.isLt (by omega), BitVec.toNat_ushiftRight,
    List.countP_eq_length_filter]
  have : (fun i => mask.toNat.testBit i) = Spec.Routing.inMask mask.toNat := by
    funext i; rfl
  rw [this]; omega
example : evtIdx 0xa5#64 5 = 2 ∧ hasQueue 0xa5#64 5 = true := by decide
/-! ### slices -/
/-- the slice handed to the backend on worker `t` is that worker's queues in increasing queue order -/
theorem threadVrings_is_slice (masks : List U64) (n t : Nat) :
    threadVrings masks n t = masks[t]?.map (fun m => Spec.Routing.slice m.toNat n) := by
  unfold threadVrings Spec.Routing.slice
  cases masks[t]? with
  | none => rfl
  | some m => simp [hasQueue_fun]
/-- the element of the slice at the event id is the kicked queue -/
theorem slice_at_rank_is_queue (masks : List U64) (n t q : Nat) (m : U64) (sl : List Nat)
    (hn : n ≤ 64) (hq : q < n) (hm : masks[t]? = some m) (hb : hasQueue m q = true)
    (hs : threadVrings masks n t = some sl) : sl[evtIdx m q]? = some q := by
  rw [threadVrings_is_slice, hm] at hs
  simp at hs; subst hs
  rw [evtIdx_is_rank m q (by omega)]
  rw [hasQueue_iff] at hb
  exact filter_range_at_rank _ n q hq hb
example : threadVrings [0x5#64, 0x2a#64] 6 1 = some [1, 3, 5] ∧ evtIdx 0x2a#64 3 = 1 := by decide
/-! ### ownership -/
/-- `update_vring_registration` registers the kick descriptor exactly once: on the property's owner (the first thread
whose mask contains `q`), with that thread's `evtIdx`; no owner ⇒ no registration -/
theorem registration_is_owner (masks : List U64) (q : Nat) :
    registration masks q =
      (Spec.Routing.owner (masks.map (·.toNat)) q).bind (fun t => masks[t]?.map (fun m => (t, evtIdx m q))) := by
  unfold registration Spec.Routing.owner
  rw [registrationFrom_eq]
  simp
/-- the property's owner, read on the model's masks: the thread exists, its mask has `q`, no earlier mask has it -/
theorem owner_eq_some (masks : List U64) (q t : Nat) (h : Spec.Routing.owner (masks.map (·.toNat)) q = some t) :
    ∃ m, masks[t]? = some m ∧ hasQueue m q = true ∧
      ∀ t' m', t' < t → masks[t']? = some m' → hasQueue m' q = false := by
  obtain ⟨hlt, hp, hmin⟩ := List.findIdx?_eq_some_iff_getElem.1 h
  rw [List.length_map] at hlt
  refine ⟨masks[t], List.getElem?_eq_getElem hlt, by simpa [hasQueue_iff] using hp, fun t' m' hlt' hm' => ?_⟩
  obtain ⟨hl', rfl⟩ := List.getElem?_eq_some_iff.1 hm'
  simpa [hasQueue_iff] using hmin t' hlt'

/-- the owner is unique: it has the bit, and no earlier thread has it -/
theorem owner_unique (masks : List U64) (q t e : Nat) (h : registration masks q = some (t, e)) :
    ∃ m, masks[t]? = some m ∧ hasQueue m q = true ∧ e = evtIdx m q ∧
      ∀ t' m', t' < t → masks[t']? = some m' → hasQueue m' q = false := by
  simp only [registration_is_owner, Option.bind_eq_some_iff, Option.map_eq_some_iff, Prod.mk.injEq] at h
  obtain ⟨_, ho, m, hm, rfl, rfl⟩ := h
  obtain ⟨m', hm', hb, hmin⟩ := owner_eq_some masks q _ ho
  obtain rfl : m' = m := Option.some.inj (hm'.symm.trans hm)
  exact ⟨m', hm, hb, rfl, hmin⟩
example : registration [0x4#64, 0x6#64, 0x2#64] 1 = some (1, 0) := by decide
/-! ### exit id -/
theorem evtIdx_le (m : U64) (q : Nat) (hq : q < 64) : evtIdx m q ≤ q := by
  rw [evtIdx_is_rank m q hq]
  unfold Spec.Routing.rank
  have := List.length_filter_le (Spec.Routing.inMask m.toNat) (List.range q)
  simpa using this
/-- the event id of a queue of the thread is a valid index of the thread's slice and is smaller than `num_queues`, the id
of the exit event; so the event loop treats it as a ring kick, never as the exit event -/
theorem exit_id_distinct (m : U64) (n q : Nat) (hasExit : Bool) (hn : n ≤ 64) (hq : q < n) (hb : hasQueue m q = true) :
    evtIdx m q < exitId n ∧
    evtIdx m q < ((List.range n).filter (hasQueue m)).length ∧
    dispatch n ((List.range n).filter (hasQueue m)).length hasExit (BitVec.ofNat 64 (evtIdx m q)) = .ring (evtIdx m q) := by
  have h1 : evtIdx m q ≤ q := evtIdx_le m q (by omega)
  have h2 : evtIdx m q < ((List.range n).filter (hasQueue m)).length := by
    rw [evtIdx_is_rank m q (by omega)]
    have h := rank_lt_slice_length (hasQueue m) n q hq hb
    simpa [Spec.Routing.rank, hasQueue_fun] using h
  refine ⟨by unfold exitId; omega, h2, ?_⟩
  unfold dispatch evType
  have hev : (BitVec.setWidth 16 (BitVec.ofNat 64 (evtIdx m q))).toNat = evtIdx m q := by
    rw [BitVec.toNat_setWidth, BitVec.toNat_ofNat]; omega
  simp only [hev]
  have : (evtIdx m q == n) = false := by simp; omega
  simp [this, h2]
example : evtIdx 0x3f#64 5 < exitId 6 := by decide
/-! ### Model ⊨ Spec for a kick -/
/-- **main theorem**: for every configuration (any masks, `n ≤ 64` queues, with or without exit events) and every queue
`q < n`, what the model lets the backend see for a kick on `q` is what the property demands: nothing if no mask contains
`q`; otherwise exactly one call, on the first thread whose mask contains `q`, with event id = rank of `q` in that mask
and a slice (the thread's queues in increasing order) whose element at that id is `q`. -/
theorem kick_meets_spec (masks : List U64) (n q : Nat) (hasExit : Bool) (hn : n ≤ 64) (hq : q < n) :
    Spec.Routing.kickOk (masks.map (·.toNat)) n q (kickObs masks n q hasExit) = true := by
  unfold kickObs Spec.Routing.kickOk
  rw [registration_is_owner]
  cases ho : Spec.Routing.owner (masks.map (·.toNat)) q with
  | none => rfl
  | some t =>
    obtain ⟨m, hm, hb, _⟩ := owner_eq_some masks q t ho
    obtain ⟨_, _, h3⟩ := exit_id_distinct m n q hasExit hn hq hb
    have hs : threadVrings masks n t = some ((List.range n).filter (hasQueue m)) := by simp [threadVrings, hm]
    have hat := slice_at_rank_is_queue masks n t q m _ hn hq hm hb hs
    simp only [Option.bind_some, hm, Option.map_some, hs, h3, List.getElem?_map]
    rw [evtIdx_is_rank m q (by omega), hasQueue_fun] at hat ⊢
    simp [Spec.Routing.slice, hat]
example : kickObs [0x5#64, 0x2#64] 3 2 true = [(0, 1, [0, 2])] := by decide
example : kickObs [0x30#64] 3 2 true = [] := by decide
/-! ### custom listeners -/
/-- an id accepted by `register_listener` (repaired rule) is delivered to the backend as exactly that id; the event
loop does not touch a ring for it (`custom`, not `ring`), does not take it for the exit event, and no queue of any
worker has it as event id -/
theorem listener_id_exact (n sliceLen : Nat) (hasExit : Bool) (data : U64)
    (hsl : sliceLen ≤ n) (hacc : listenerAccepted n data = true) :
    dispatch n sliceLen hasExit data = .custom data.toNat ∧
    data.toNat ≠ exitId n ∧
    (∀ (m : U64) (q : Nat), q < n → n ≤ 64 → evtIdx m q ≠ data.toNat) := by
  unfold listenerAccepted at hacc
  simp at hacc
  obtain ⟨h1, h2⟩ := hacc
  have hev : evType data = data.toNat := by
    unfold evType; rw [BitVec.toNat_setWidth]; omega
  refine ⟨?_, by unfold exitId; omega, ?_⟩
  · unfold dispatch
    simp only [hev]
    have : (data.toNat == n) = false := by simp; omega
    have h3 : ¬ data.toNat < sliceLen := by omega
    simp [this, h3]
  · intro m q hq hn
    have := evtIdx_le m q (by omega)
    omega
example : listenerAccepted 4 0xffff#64 = true ∧ dispatch 4 3 true 0xffff#64 = .custom 0xffff := by decide
/-- the model's listener outcome satisfies the Spec's `listenerOk` (refused, or delivered on its worker as its id) -/
theorem listener_model_meets_spec (n sliceLen thread : Nat) (hasExit : Bool) (data : U64) (hsl : sliceLen ≤ n) :
    Spec.Routing.listenerOk n thread data.toNat
      (match listener n sliceLen hasExit data with
       | none => .rejected
       | some .exit => .lost
       | some (.ring ev) => .delivered thread ev
       | some (.custom ev) => .delivered thread ev) = true := by
  unfold listener
  cases hacc : listenerAccepted n data
  · simp [Spec.Routing.listenerOk]
  · obtain ⟨h1, _, _⟩ := listener_id_exact n sliceLen hasExit data hsl hacc
    simp only [if_true, h1]
    unfold listenerAccepted at hacc
    simp at hacc
    simp [Spec.Routing.listenerOk]; omega
/-- **F-C17-u16**: with the rule of the unmodified tree an id ≥ 65536 is accepted and delivered truncated —
65536+2 becomes a kick of ring 2 of the worker, 65536+4 (= 65536 + num_queues) becomes the exit event -/
theorem listener_id_truncated_counterexample :
    listenerOld 4 3 true 0x10002#64 = some (.ring 2) ∧
    listenerOld 4 3 true 0x10004#64 = some .exit ∧
    listenerOld 4 3 true 0x100000007#64 = some (.custom 7) ∧
    Spec.Routing.listenerOk 4 0 0x10002 (.delivered 0 2) = false := by decide
/-- with the unmodified rule the exactness statement is false -/
theorem listener_id_exact_old_false :
    ¬ (∀ (n sliceLen : Nat) (hasExit : Bool) (data : U64), sliceLen ≤ n → listenerAcceptedOld n data = true →
        dispatch n sliceLen hasExit data = .custom data.toNat) := by
  intro h
  have := h 4 3 true 0x10002#64 (by decide) (by decide)
  revert this; decide

end Props.C17
