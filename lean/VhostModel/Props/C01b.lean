import VhostModel.Props.C06b
/-!
# C01 (second part) — headers and encodings on the backend→frontend channel and the GPU channel

Companion of `Props.C01`.  Over `Model.BackendProxy.request` (`backend_req.rs`, `send_message`), `Model.FrontendSrv.ackBytes`
(`frontend_req_handler.rs`, `send_ack_message`) and `Model.GpuProxy.request` (`gpu_backend_req.rs`), tied to the code by the
`proxy` (peer mode), `besrv` and `gpu` correspondence families, where every byte written is also compared with the Spec
encoders by the spec driver:
* `proxy_codes_match_generated`, `gpu_codes_match_generated` — the request codes the models use are the generated enum values;
* `proxy_request_header` — every request header of the proxy: version 1, REPLY clear, NEED_REPLY iff REPLY_ACK negotiated,
  no other bit; `proxy_wire_is_spec_encoding` — header ++ payload is byte for byte `Spec.BackendChannel.encodeReq`;
* `ack_header` — every acknowledgement of the frontend's server: request's code, flags 5 (version 1 | REPLY), size 8;
* `gpu_header_flags` — every GPU request header carries flags = 0 (no version bits, REPLY clear), which the Spec calls valid;
  `gpu_reply_detection_only_bit2` — a reply is recognised by bit 2 alone, and an accepted reply has flags exactly 4;
* `gpu_methods_match_spec` — the method table (code, payload struct, optional descriptor, reply type) is the Spec's;
  `gpu_wire_is_spec_encoding` — header ++ struct ++ pixel data is byte for byte `Spec.Gpu.encodeReq`.
-/
namespace Props.C01b
open Base Model.Stream Model.Msgs Model.RecvBody Lemmas.BackendChannel
open Model.BackendSrv (Err Hdr encHdr hdrNewFlags)
open Model.Frontend (parseHdr)

/-! ### request codes -/
theorem proxy_codes_match_generated :
    Gen.Codes.BackendReq.table.lookup "SHARED_OBJECT_ADD" = some Model.BackendProxy.Kind.add.code ∧
    Gen.Codes.BackendReq.table.lookup "SHARED_OBJECT_REMOVE" = some Model.BackendProxy.Kind.remove.code ∧
    Gen.Codes.BackendReq.table.lookup "SHARED_OBJECT_LOOKUP" = some Model.BackendProxy.Kind.lookup.code ∧
    Gen.Codes.BackendReq.table.lookup "SHMEM_MAP" = some Model.BackendProxy.Kind.map.code ∧
    Gen.Codes.BackendReq.table.lookup "SHMEM_UNMAP" = some Model.BackendProxy.Kind.unmap.code := by decide

/-- the frontend server's arms use the generated codes of CONFIG_CHANGE_MSG and the five requests -/
theorem server_codes_match_generated :
    Model.FrontendSrv.arms.map (·.code) =
      ["CONFIG_CHANGE_MSG", "SHARED_OBJECT_ADD", "SHARED_OBJECT_REMOVE", "SHARED_OBJECT_LOOKUP", "SHMEM_MAP", "SHMEM_UNMAP"].filterMap
        (Gen.Codes.BackendReq.table.lookup ·) := by rfl

/-- GPU method ↦ generated `GpuBackendReq` value -/
theorem gpu_codes_match_generated :
    Model.GpuProxy.methods.map (fun m => (m.name, some m.code)) =
      [("get_protocol_features", "GET_PROTOCOL_FEATURES"), ("set_protocol_features", "SET_PROTOCOL_FEATURES"),
       ("get_display_info", "GET_DISPLAY_INFO"), ("get_edid", "GET_EDID"), ("set_scanout", "SCANOUT"), ("update_scanout", "UPDATE"),
       ("set_dmabuf_scanout", "DMABUF_SCANOUT"), ("set_dmabuf_scanout2", "DMABUF_SCANOUT2"), ("update_dmabuf_scanout", "DMABUF_UPDATE"),
       ("cursor_pos", "CURSOR_POS"), ("cursor_pos_hide", "CURSOR_POS_HIDE"), ("cursor_update", "CURSOR_UPDATE")].map
        (fun p => (p.1, Gen.Codes.GpuBackendReq.table.lookup p.2)) := by rfl

/-! ### the backend→frontend proxy -/
section Proxy
open Model.BackendProxy

/-- request header flags: version 1, REPLY clear, NEED_REPLY iff REPLY_ACK negotiated, nothing else — the Spec's value -/
theorem proxy_request_header (st : PSt) :
    reqFlags st = Spec.BackendChannel.reqFlags st.replyAck ∧ reqFlags st % 4 = 1 ∧ reqFlags st < 16 ∧
    (reqFlags st).testBit 2 = false ∧ (reqFlags st).testBit 3 = st.replyAck := by
  rw [reqFlags_eq]; cases st.replyAck <;> decide

def specKind : Kind → Spec.BackendChannel.Kind
  | .add => .add | .remove => .remove | .lookup => .lookup | .map => .map | .unmap => .unmap

theorem specKind_code (k : Kind) : (specKind k).code = k.code ∧ (specKind k).carriesFd = k.hasFd := by cases k <;> exact ⟨rfl, rfl⟩

/-- what the proxy writes for a call whose argument struct holds the Spec encoding of `a` is byte for byte the Spec's
request: 12-byte header (code, flags, size) then the payload; the descriptor rides along exactly for lookup / map -/
theorem proxy_wire_is_spec_encoding (st : PSt) (c : Model.BackendProxy.Call) (req : Req) (a : Spec.BackendChannel.Arg)
    (h : request st c = .ok req) (hb : c.body = Spec.BackendChannel.encodeArg a) :
    wire req = Spec.BackendChannel.encodeReq st.replyAck (specKind c.kind) a ∧
    req.fds = (if (specKind c.kind).carriesFd then c.fds else []) := by
  obtain ⟨_, _, _, rfl⟩ := request_ok st c req h
  obtain ⟨e1, e2⟩ := specKind_code c.kind
  exact ⟨by simp only [wire, Spec.BackendChannel.encodeReq, encHdr, e1, (proxy_request_header st).1, ← hb], by rw [e2]⟩

end Proxy

/-! ### acknowledgements of the frontend's server -/

/-- `send_ack_message`: request's code, flags = 5 (version 1, REPLY set, NEED_REPLY clear), size 8, 8 bytes of value -/
theorem ack_header (code v : Nat) (hc : code < 2^32) :
    parseHdr ((Model.FrontendSrv.ackBytes code v).take 12) = ⟨code, 5, 8⟩ ∧ (Model.FrontendSrv.ackBytes code v).length = 20 := by
  obtain ⟨a, _, c⟩ := ackBytes_parts code v
  exact ⟨a ▸ parseHdr_encHdr code 5 8 hc (by decide) (by decide), c⟩

/-! ### the GPU proxy -/
section Gpu
open Model.GpuProxy

/-- the method table is the specification's request table -/
theorem gpu_methods_match_spec :
    ∀ m ∈ methods, ∃ r ∈ Spec.Gpu.requests, r.name = m.name ∧ r.code = m.code ∧ r.body = m.bodyTy ∧ r.fd = m.fd ∧
      r.data = (m.send == .payload) ∧ (m.reply.ty.bind sizeOfTy) = (if r.reply == .none then none else some r.reply.size) := by
  decide

theorem gpu_methods_codes : ∀ m ∈ methods, m.code ∈ Spec.gpuCodes := by decide
theorem gpu_methods_header_iff : ∀ m ∈ methods, (m.send = .header ↔ m.bodyTy = none) := by decide

/-- **GPU request headers: flags = 0** — no version bits, REPLY clear —, the method's code; the header is written first,
and the Spec calls it a valid GPU header -/
theorem gpu_header_flags (st : GSt) (c : Model.GpuProxy.Call) (req : Req) (h : request st c = .ok req) :
    req.hdr.flags = 0 ∧ req.hdr.code = req.m.code ∧ req.bytes.take 12 = encHdr req.m.code 0 req.hdr.size ∧
    Spec.validGpuHeader req.hdr.code req.hdr.flags := by
  obtain ⟨hm, _, _, hc, hf, hb, _⟩ := gpu_request_ok st c req h
  refine ⟨hf, hc, ?_, ?_⟩
  · rw [hb, List.append_assoc, List.take_left' (encHdr_length _ _ _)]
  · rw [hc, hf]; exact ⟨gpu_methods_codes _ (List.mem_of_find?_eq_some hm), Or.inl rfl⟩

/-- a reply is recognised by bit 2 of the flags word alone (`is_reply`); whatever `recv_reply` accepts has flags exactly 4
(`Props.C06b.gpu_reply_flags_exact`) -/
theorem gpu_reply_detection_only_bit2 (h : Hdr) : h.isReply = h.flags.testBit 2 := rfl

/-- header ++ struct ++ pixel data is byte for byte the Spec's encoding of the request -/
theorem gpu_wire_is_spec_encoding (st : GSt) (c : Model.GpuProxy.Call) (req : Req) (h : request st c = .ok req) :
    ∃ r ∈ Spec.Gpu.requests, r.name = c.name ∧
      req.bytes = Spec.Gpu.encodeReq r (if r.body.isSome then c.body else []) (if r.data then c.payload else []) := by
  obtain ⟨hm, _, _, _, _, hb, hsz⟩ := gpu_request_ok st c req h
  have hmem := List.mem_of_find?_eq_some hm
  obtain ⟨r, hr, e1, e2, e3, _, e5, _⟩ := gpu_methods_match_spec req.m hmem
  refine ⟨r, hr, by simpa [e1] using List.find?_some hm, ?_⟩
  have hh := gpu_methods_header_iff req.m hmem
  rw [hb, hsz]
  simp only [Spec.Gpu.encodeReq, Spec.Gpu.encodeHdr, encHdr, e2, e3, e5]
  by_cases h1 : req.m.send = .header
  · have h2 : req.m.bodyTy = none := hh.1 h1
    simp [h1, h2]
  · have h2 : req.m.bodyTy ≠ none := fun e => h1 (hh.2 e)
    have h3 : req.m.bodyTy.isSome = true := by cases hbt : req.m.bodyTy <;> simp_all
    by_cases h4 : req.m.send = .payload <;> simp [h1, h3, h4]

end Gpu

/-! ### non-vacuity -/
example : (Model.GpuProxy.request {} { name := "set_scanout", body := leBytes 4 1 ++ leBytes 4 640 ++ leBytes 4 480 }).toOption.map (·.hdr) =
    some ⟨7, 0, 12⟩ := by decide
example : (Model.GpuProxy.request {} { name := "get_display_info" }).toOption.map (·.bytes) = some (encHdr 3 0 0) := by decide
example : Model.BackendProxy.reqFlags { replyAck := true } = 9 ∧ Model.BackendProxy.reqFlags {} = 1 := by decide

end Props.C01b
