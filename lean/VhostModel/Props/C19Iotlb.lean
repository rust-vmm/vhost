import VhostModel.Props.C19Shapes
/-!
# C19: IOTLB messages

The writer's layout by the acknowledged feature bit, writer against the two parsers (`iotlb_roundtrip`), `send_iotlb_msg` /
`dma_map` / `dma_unmap` (`sendIotlb_meets`) and the parsers against the Spec.  Rests on the scenario vocabulary of
`Props/C19Shapes.lean` and on `Lemmas/Kern.lean`.
-/
namespace Props.C19
open Base Base.K Gen.Ioctl Model.Kern Lemmas.Kern

/-- the leaves `send_iotlb_msg` writes into a `vhost_msg` (v1) -/
def v1Leaves (m : IotlbMsg) : List Leaf :=
  [(0, 4, 1), (8, 8, m.iova), (16, 8, m.size), (24, 8, m.ua), (32, 1, m.perm), (33, 1, m.ty)]

/-- … and into a `vhost_msg_v2` -/
def v2Leaves (m : IotlbMsg) : List Leaf :=
  [(0, 4, 2), (8, 8, m.iova), (16, 8, m.size), (24, 8, m.ua), (32, 1, m.perm), (33, 1, m.ty)]

theorem v2Selected_eq (acked : Nat) : v2Selected acked = some (acked.testBit 1) := by
  show some ((acked &&& 2 ^ 1) != 0) = some (acked.testBit 1)
  rw [Base.and_two_pow]
  cases acked.testBit 1 <;> rfl

/-- **v1/v2 selection**: the message is written in the v2 layout exactly when bit
    `VHOST_BACKEND_F_IOTLB_MSG_V2` (= 1) of the acknowledged backend features is set -/
theorem iotlb_version_by_acked_feature (acked : Nat) (m : IotlbMsg) :
    iotlbBytes acked m = some (imageOf 72 (if acked.testBit Spec.Uapi.VHOST_BACKEND_F_IOTLB_MSG_V2 then v2Leaves m else v1Leaves m)) := by
  unfold iotlbBytes
  show (v2Selected acked).bind _ = _
  rw [v2Selected_eq]
  show writeBranch _ m = _
  cases h : acked.testBit 1 <;> simp only [Spec.Uapi.VHOST_BACKEND_F_IOTLB_MSG_V2, h] <;> rfl

/-- a well-typed IOTLB message: three 64-bit words and two bytes -/
def WellTyped (m : IotlbMsg) : Prop :=
  m.iova < 2 ^ 64 ∧ m.size < 2 ^ 64 ∧ m.ua < 2 ^ 64 ∧ m.perm < 256 ∧ m.ty < 256

section
open Spec.Uapi

abbrev msgStruct (v2 : Bool) : String := if v2 then "vhost_msg_v2" else "vhost_msg"
abbrev msgType (v2 : Bool) : Nat := if v2 then 2 else 1

/-- bytes 4..8 are the `asid` word of v2, which the writer never touches -/
theorem msg_peeks (v2 : Bool) (m : IotlbMsg) (bs : Bytes) (h : bs = imageOf 72 (if v2 then v2Leaves m else v1Leaves m)) :
    bs.length = 72 ∧ peek bs 0 4 = msgType v2 ∧ peek bs 4 4 = 0 ∧ peek bs 8 8 = m.iova % 256 ^ 8 ∧
      peek bs 16 8 = m.size % 256 ^ 8 ∧ peek bs 24 8 = m.ua % 256 ^ 8 ∧ peek bs 32 1 = m.perm % 256 ^ 1 ∧
      peek bs 33 1 = m.ty % 256 ^ 1 := by
  have hls : (if v2 then v2Leaves m else v1Leaves m) =
      [(0, 4, msgType v2), (8, 8, m.iova), (16, 8, m.size), (24, 8, m.ua), (32, 1, m.perm), (33, 1, m.ty)] := by
    cases v2 <;> rfl
  subst h
  rw [hls]
  have hb : ∀ l ∈ [(0, 4, msgType v2), (8, 8, m.iova), (16, 8, m.size), (24, 8, m.ua), (32, 1, m.perm), (33, 1, m.ty)],
      l.1 + l.2.1 ≤ 72 := by simp
  have hp := peek_imageOf 72 _ hb (by simp [LeafDisjoint])
  refine ⟨imageOf_length 72 _ hb, (hp (0, 4, msgType v2) (by simp)).trans (by cases v2 <;> rfl),
    peek_imageOf_untouched 72 _ 4 4 hb (by simp), hp (8, 8, m.iova) (by simp), hp (16, 8, m.size) (by simp),
    hp (24, 8, m.ua) (by simp), hp (32, 1, m.perm) (by simp), hp (33, 1, m.ty) (by simp)⟩

theorem msg_peekField (v2 : Bool) (bs : Bytes) (hl : bs.length = 72) :
    peekField bs (msgStruct v2) ["type"] = some (peek bs 0 4) ∧
    (v2 = true → peekField bs (msgStruct v2) ["asid"] = some (peek bs 4 4)) ∧
    peekField bs (msgStruct v2) ["iotlb", "iova"] = some (peek bs 8 8) ∧
    peekField bs (msgStruct v2) ["iotlb", "size"] = some (peek bs 16 8) ∧
    peekField bs (msgStruct v2) ["iotlb", "uaddr"] = some (peek bs 24 8) ∧
    peekField bs (msgStruct v2) ["iotlb", "perm"] = some (peek bs 32 1) ∧
    peekField bs (msgStruct v2) ["iotlb", "type"] = some (peek bs 33 1) := by
  have hf : fieldAt (msgStruct v2) ["type"] = some (0, 4) ∧ (v2 = true → fieldAt (msgStruct v2) ["asid"] = some (4, 4)) ∧
      fieldAt (msgStruct v2) ["iotlb", "iova"] = some (8, 8) ∧ fieldAt (msgStruct v2) ["iotlb", "size"] = some (16, 8) ∧
      fieldAt (msgStruct v2) ["iotlb", "uaddr"] = some (24, 8) ∧ fieldAt (msgStruct v2) ["iotlb", "perm"] = some (32, 1) ∧
      fieldAt (msgStruct v2) ["iotlb", "type"] = some (33, 1) := by
    cases v2 <;> decide +kernel
  obtain ⟨f0, fa, f1, f2, f3, f4, f5⟩ := hf
  exact ⟨peekField_of _ _ _ 0 4 _ f0 (by omega) rfl, fun h => peekField_of _ _ _ 4 4 _ (fa h) (by omega) rfl,
    peekField_of _ _ _ 8 8 _ f1 (by omega) rfl, peekField_of _ _ _ 16 8 _ f2 (by omega) rfl,
    peekField_of _ _ _ 24 8 _ f3 (by omega) rfl, peekField_of _ _ _ 32 1 _ f4 (by omega) rfl,
    peekField_of _ _ _ 33 1 _ f5 (by omega) rfl⟩

/-- closed form of `impl VhostIotlbMsgParser for vhost_msg` / `vhost_msg_v2` on a buffer of the struct's size -/
theorem parse_closed (v2 : Bool) (bs : Bytes) (hbs : bs.length = 72) :
    parseMsg (msgStruct v2) bs =
      if peek bs 0 4 ≠ msgType v2 then some none else if peek bs 33 1 = 0 then some none else
        some (some ⟨peek bs 8 8, peek bs 16 8, peek bs 24 8, peek bs 32 1, peek bs 33 1⟩) := by
  have key : ∀ s, Model.Kern.sizeOf s = some 72 → parseMsg s bs = (parserFor s).bind fun p => parseWith p bs := by
    intro s h
    unfold parseMsg
    cases parserFor s <;> simp [h, hbs]
  cases v2 <;> exact (key _ (by decide +kernel)).trans rfl

theorem iotlb_roundtrip (v2 : Bool) (acked : Nat) (m : IotlbMsg) (hw : WellTyped m) (hv : acked.testBit 1 = v2) :
    ∃ bs, iotlbBytes acked m = some bs ∧ bs.length = 72 ∧
      parseMsg (msgStruct v2) bs = some (if m.ty = 0 then none else some m) := by
  subst hv
  obtain ⟨hl, p0, -, p1, p2, p3, p4, p5⟩ := msg_peeks (acked.testBit 1) m _ rfl
  obtain ⟨h1, h2, h3, h4, h5⟩ := hw
  refine ⟨imageOf 72 (if acked.testBit 1 then v2Leaves m else v1Leaves m), iotlb_version_by_acked_feature acked m, hl, ?_⟩
  rw [parse_closed _ _ hl, p0, p1, p2, p3, p4, p5, Nat.mod_eq_of_lt (by omega : m.iova < 256 ^ 8),
    Nat.mod_eq_of_lt (by omega : m.size < 256 ^ 8), Nat.mod_eq_of_lt (by omega : m.ua < 256 ^ 8),
    Nat.mod_eq_of_lt (by omega : m.perm < 256 ^ 1), Nat.mod_eq_of_lt (by omega : m.ty < 256 ^ 1)]
  by_cases ht : m.ty = 0 <;> simp [ht]

end

/-- **round trip, v1**: what `send_iotlb_msg` writes without the v2 feature is parsed back by
    `impl VhostIotlbMsgParser for vhost_msg` to the same values, for all field values
    (a message of type 0 = `Empty` is rejected by the parser) -/
theorem iotlb_v1_roundtrip (acked : Nat) (m : IotlbMsg) (hw : WellTyped m) (hv : acked.testBit 1 = false) :
    ∃ bs, iotlbBytes acked m = some bs ∧ bs.length = 72 ∧
      parseMsg "vhost_msg" bs = some (if m.ty = 0 then none else some m) :=
  iotlb_roundtrip false acked m hw hv

theorem iotlb_v2_roundtrip (acked : Nat) (m : IotlbMsg) (hw : WellTyped m) (hv : acked.testBit 1 = true) :
    ∃ bs, iotlbBytes acked m = some bs ∧ bs.length = 72 ∧
      parseMsg "vhost_msg_v2" bs = some (if m.ty = 0 then none else some m) :=
  iotlb_roundtrip true acked m hw hv

/-- the roundtrip hypotheses are satisfiable: a v2 `Update` of a read-write mapping -/
example : ∃ bs, iotlbBytes 2 ⟨0x1000, 0x2000, 0x7f0000001000, 3, 2⟩ = some bs ∧ bs.length = 72 ∧
    parseMsg "vhost_msg_v2" bs = some (some ⟨0x1000, 0x2000, 0x7f0000001000, 3, 2⟩) := by
  obtain ⟨bs, h1, h2, h3⟩ := iotlb_v2_roundtrip 2 ⟨0x1000, 0x2000, 0x7f0000001000, 3, 2⟩ (by unfold WellTyped; decide) (by decide)
  exact ⟨bs, h1, h2, by simpa using h3⟩

section
open Spec.Uapi

theorem iotlbProblem_image (v2 : Bool) (m : IotlbMsg) {iova size ua perm : Option Nat}
    (hi : iova = none ∨ iova = some m.iova) (hs : size = none ∨ size = some m.size) (hu : ua = none ∨ ua = some m.ua)
    (hp : perm = none ∨ perm = some m.perm) :
    iotlbProblem v2 iova size ua perm m.ty (imageOf 72 (if v2 then v2Leaves m else v1Leaves m)) = none := by
  obtain ⟨hl, p0, pa, p1, p2, p3, p4, p5⟩ := msg_peeks v2 m _ rfl
  obtain ⟨f0, fa, f1, f2, f3, f4, f5⟩ := msg_peekField v2 _ hl
  have ht : msgType v2 = if v2 then VHOST_IOTLB_MSG_V2 else VHOST_IOTLB_MSG := rfl
  have ha : ¬ (v2 = true ∧ peekField (imageOf 72 (if v2 then v2Leaves m else v1Leaves m)) (msgStruct v2) ["asid"] ≠ some 0) :=
    fun h => h.2 ((fa h.1).trans (congrArg some pa))
  unfold iotlbProblem
  simp only [hl, f0, p0, ht, ha, f1, f2, f3, f4, f5, p1, p2, p3, p4, p5, ne_eq, not_true_eq_false, if_false]
  refine orElse_none ?_ (orElse_none ?_ (orElse_none ?_ (orElse_none ?_ (if_pos trivial))))
  · rcases hi with rfl | rfl <;> simp
  · rcases hs with rfl | rfl <;> simp
  · rcases hu with rfl | rfl <;> simp
  · rcases hp with rfl | rfl <;> simp

theorem sendIotlb_meets {be op : String} {a : List Nat} {e : Env} (m : IotlbMsg) {iova size ua perm : Option Nat}
    (hrun : run (inp be op a e) = sendIotlb (inp be op a e) m)
    (hexp : expect (inp be op a e) = .free ∨ expect (inp be op a e) = .iotlb iova size ua perm m.ty)
    (hi : iova = none ∨ iova = some m.iova) (hs : size = none ∨ size = some m.size) (hu : ua = none ∨ ua = some m.ua)
    (hp : perm = none ∨ perm = some m.perm) :
    Meets (inp be op a e) ⟨[.wr (imageOf 72 (if e.feat.testBit 1 then v2Leaves m else v1Leaves m))],
      if e.rc ≠ 0 then .err "io" else .ok, none⟩ := by
  have h2 : sendIotlb (inp be op a e) m = (iotlbBytes e.feat m).bind fun bs =>
      some ⟨[.wr bs], if e.rc ≠ 0 then .err "io" else .ok, none⟩ := rfl
  have hcf : run (inp be op a e) = some ⟨[.wr (imageOf 72 (if e.feat.testBit 1 then v2Leaves m else v1Leaves m))],
      if e.rc ≠ 0 then .err "io" else .ok, none⟩ := by
    rw [hrun, h2, iotlb_version_by_acked_feature]
    rfl
  refine ⟨hcf, fun o ho => ?_⟩
  cases hcf.symm.trans ho
  rcases hexp with hexp | hexp
  · exact problem_free _ _ hexp
  · exact problem_iotlb _ _ _ _ _ _ _ _ hexp rfl (iotlbProblem_image (e.feat.testBit 1) m hi hs hu hp) rfl

end

/-- `send_iotlb_msg` on the kernel-vhost and vDPA backends: one `write` of 72 bytes in the layout the acknowledged
    features select, carrying the five values at the UAPI offsets (any values; types 0 and > 6 and permissions > 3
    are outside the property's domain and nothing is demanded for them) -/
theorem send_iotlb_msg_meets_uapi (be : String) (hbe : be ∈ FBES) (iova size ua perm ty : Nat) (e : Env) :
    run (inp be "send_iotlb_msg" [iova, size, ua, perm, ty] e) =
      some ⟨[.wr (imageOf 72 (if e.feat.testBit 1 then v2Leaves ⟨iova, size, ua, perm, ty⟩ else v1Leaves ⟨iova, size, ua, perm, ty⟩))],
        if e.rc ≠ 0 then .err "io" else .ok, none⟩ ∧
    ∀ o, run (inp be "send_iotlb_msg" [iova, size, ua, perm, ty] e) = some o →
      Spec.Uapi.problem (inp be "send_iotlb_msg" [iova, size, ua, perm, ty] e) o = none := by
  obtain ⟨hr, hx⟩ := features hbe (op := "send_iotlb_msg") (by decide +kernel) [iova, size, ua, perm, ty] e
  have hexp : Spec.Uapi.expect (inp "kern" "send_iotlb_msg" [iova, size, ua, perm, ty] e) =
      if ty = 0 ∨ 6 < ty ∨ 3 < perm then .free else .iotlb (some iova) (some size) (some ua) (some perm) ty := rfl
  refine sendIotlb_meets ⟨iova, size, ua, perm, ty⟩ (hr.trans rfl) ?_ (.inr rfl) (.inr rfl) (.inr rfl) (.inr rfl)
  rw [hx, hexp]
  split
  · exact .inl rfl
  · exact .inr rfl

/-- `dma_map`: an `Update` message with read-only or read-write permission -/
theorem dma_map_meets_uapi (iova size va ro : Nat) (e : Env) :
    ∀ o, run (inp "vdpa" "dma_map" [iova, size, va, ro] e) = some o →
      Spec.Uapi.problem (inp "vdpa" "dma_map" [iova, size, va, ro] e) o = none :=
  (sendIotlb_meets ⟨iova, size, va, if ro != 0 then 1 else 3, 2⟩ rfl (.inr rfl) (.inr rfl) (.inr rfl) (.inr rfl) (.inr rfl)).2

/-- `dma_unmap`: an `Invalidate` message for the range -/
theorem dma_unmap_meets_uapi (iova size : Nat) (e : Env) :
    ∀ o, run (inp "vdpa" "dma_unmap" [iova, size] e) = some o →
      Spec.Uapi.problem (inp "vdpa" "dma_unmap" [iova, size] e) o = none :=
  (sendIotlb_meets ⟨iova, size, 0, 0, 3⟩ rfl (.inr rfl) (.inr rfl) (.inr rfl) (.inl rfl) (.inl rfl)).2

open Spec.Uapi in
/-- the two parsers: a buffer that is a UAPI v1 (v2) IOTLB message with a defined type and permission is
    parsed to exactly the values at the UAPI offsets, for every buffer content -/
theorem parse_meets_uapi (v2 : Bool) (a : List Nat) (e : Env) :
    ∀ o, run (inp "none" (if v2 then "parse_v2" else "parse_v1") a e) = some o →
      problem (inp "none" (if v2 then "parse_v2" else "parse_v1") a e) o = none := by
  intro o ho
  have hexp : expect (inp "none" (if v2 then "parse_v2" else "parse_v1") a e) = .parse v2 := by cases v2 <;> rfl
  unfold problem
  rw [hexp]
  by_cases hl : e.buf.length = 72
  · have hrun : run (inp "none" (if v2 then "parse_v2" else "parse_v1") a e) = (parseMsg (msgStruct v2) e.buf).map fun r =>
        ⟨[], match r with | some m => .ok5 m.iova m.size m.ua m.perm m.ty | none => .err "iotlb", none⟩ := by
      cases v2 <;> rfl
    rw [hrun, parse_closed v2 _ hl] at ho
    obtain ⟨k0, -, k1, k2, k3, k4, k5⟩ := msg_peekField v2 e.buf hl
    have ht : msgType v2 = if v2 then VHOST_IOTLB_MSG_V2 else VHOST_IOTLB_MSG := rfl
    simp only [inp, hl, k0, k1, k2, k3, k4, k5, Option.getD_some, ← ht, ne_eq, not_true_eq_false, if_false]
    by_cases c1 : peek e.buf 0 4 = msgType v2
    · by_cases c2 : peek e.buf 33 1 = 0
      · simp [c1, c2]
      · simp [c1, c2] at ho
        subst ho
        simp [c1, c2]
    · simp [c1]
  · simp [inp, hl]

end Props.C19
