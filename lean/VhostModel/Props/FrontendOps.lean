import VhostModel.Lemmas.FrontendTable
import VhostModel.Props.C02
import VhostModel.Props.C03
import VhostModel.Gen.FrontendOps
import VhostModel.Gen.Consts
/-!
# The frontend endpoint of the model is the frontend endpoint of the source

`Gen.FrontendOps.rows` is regenerated on every run from `vhost/src/vhost_user/frontend.rs` (`tools/rs2lean_frontend.py`):
for every method of `impl VhostBackend for Frontend` and `impl VhostUserFrontend for Frontend`, in source order, the
local checks in front of the send (the method's own, then those of the `FrontendInternal` send helper it calls; feature
constants resolved to bit numbers, named constants to values), the `FrontendReq` code, the body type, whether
descriptors are attached, the reply reader, the assignments to the node and the handling of the reply.
`Gen.FrontendOps.helpers` lists the helper methods of `FrontendInternal` statement by statement.

Three layers, each a theorem:

1. **table = source** — `model_ops_match_source`: the hand-written `Model.FrontendTable.modelOps` (what
   `Model.Frontend.request` / `finish` do, per operation) is the generated table, row by row and check by check, through
   the projection `toModel`; `helpers_match_source` the same for the reply readers.  A dropped, added, reordered or
   altered check, a different request code, body type, reply reader or state update in `frontend.rs` breaks these.
2. **what the projection drops is justified** — `error_field_never_written`, `body_sizes_fit`, `feature_helpers`,
   `payload_reader_refuses_files`, `not_in_model_all_used`, and the three theorems about the source checks that have no
   counterpart in the model (below).
3. **table = executable model**, for all states and calls — `request_ok_table`, `request_error_table`,
   `accepted_iff_no_check_fires`, `check_fires_sends_nothing`, `finish_table`, and the reply readers' local refusals.

## Differences between model and source (reported, not hidden)

`Model.FrontendTable.notInModel` lists the source checks for which `Model.Frontend.request` has no counterpart; the
comparison theorem removes exactly these (and `not_in_model_all_used` says none of the three is stale):

* **D1 `set_mem_table` / `msgSizeAbove 4096`** (`send_request_with_payload`: `size_of::<VhostUserMemory>() + payload.len() >
  MAX_MSG_SIZE`).  The model does not test it.  Not observable: `mem_table_size_implied` — every memory table the model
  accepts has `8 + 32·n ≤ 0x1000` bytes.
* **D2 `set_mem_table` / `fdCountAbove 32`** (`send_request_with_payload`: `fds.len() > MAX_ATTACHED_FD_ENTRIES`).  In the
  source the descriptors are collected from the regions, one each, so the check is implied by `regions.len() <= 32`.  The
  model sends `op.fds`, whatever their number: `mem_table_fds_from_call`.  With one descriptor per region (what the
  harness does) the bound holds: `mem_table_fd_count_implied`.
* **D3 `set_device_state_fd` / `invalid VhostUserTransferDeviceState`** (`!body.is_valid()` on a body built from the typed
  `direction` / `phase` enums).  The model performs no such check and its arguments are untyped numbers:
  `devstate_check_absent_from_model` exhibits an accepted call whose body the generated validator refuses.  For values of
  the two enums the check cannot fail: `devstate_typed_valid`.

Further, `toModel` drops the assignment to `protocol_features_ready` (no such field in the model; the source never reads
it) and `get_config`'s re-test of the descriptors after `recv_reply_with_payload` (`payload_reader_refuses_files`).
-/
namespace Props.FrontendOps
open Base Model.Stream Model.Msgs Model.Frontend Model.FrontendTable Lemmas.FrontendTable Lemmas.RequestInv
open Model.BackendSrv (Err bitSet)

/-! ## 1. the table is the source -/

/-- per operation (model name mapped to the Rust method by `srcName`), in source order: the
same checks in the same order with the same errors, the same request code, body type, descriptor flag, reply reader,
state updates and reply errors. -/
theorem model_ops_match_source :
    modelOps.map (fun r => { r with name := srcName r.name }) = Gen.FrontendOps.rows.map toModel := by
  decide +kernel

/-- the reply readers of the model (`recv`) follow the helpers' statements, in order (the helpers' `check_state` call and
static size test aside) -/
theorem helpers_match_source :
    modelHelpers =
      (Gen.FrontendOps.helpers.filter (fun h => modelHelpers.any (fun m => m.1 == h.1))).map
        (fun h => (h.1, h.2.filter (fun st => !FeStep.neverFires st))) := by
  decide +kernel

/-! ## 2. what the projection drops -/

/-- `check_state` reads `self.error`; no impl of `frontend.rs` assigns the field (it is `None` from `Frontend::new`) -/
theorem error_field_never_written :
    Gen.FrontendOps.errorFieldWrites = 0 ∧
    Gen.FrontendOps.helpers.lookup "check_state" = some [.check .errorSet "SocketBroken"] := by
  decide +kernel

def bodySizeOk (r : FeRow) : Bool :=
  (match r.body with
   | .none => true
   | .fixed ty | .withPayload ty => match sizeOfTy ty with
     | some n => decide (n ≤ Gen.Consts.MAX_MSG_SIZE)
     | none => false) &&
  r.checks.all (fun c => match c.1 with
    | .bodySizeAbove m => m == Gen.Consts.MAX_MSG_SIZE
    | _ => true)

/-- the static test `size_of::<T>() > MAX_MSG_SIZE` of `send_request_with_body` fails for none of the body types sent
(sizes from the generated layout) -/
theorem body_sizes_fit : Gen.FrontendOps.rows.all bodySizeOk = true := by
  decide +kernel

/-- `check_feature` tests the *offered* virtio features, `check_proto_feature` the *acknowledged* protocol features -/
theorem feature_helpers :
    Gen.FrontendOps.helpers.lookup "check_feature" = some [.check (.paramBitClear "virtio_features") "InactiveFeature"] ∧
    Gen.FrontendOps.helpers.lookup "check_proto_feature" =
      some [.check (.paramBitClear "acked_protocol_features") "InactiveOperation"] := by
  decide +kernel

/-- `recv_reply_with_payload` refuses a reply that carries descriptors: `get_config`'s own test of them is dead -/
theorem payload_reader_refuses_files :
    ((Gen.FrontendOps.helpers.lookup "recv_reply_with_payload").getD []).contains (.check .filesPresent "InvalidMessage") = true := by
  decide +kernel

/-- every entry of `notInModel` removes a check that the source has (no stale exception), and nothing else is removed
by it -/
theorem not_in_model_all_used :
    Gen.FrontendOps.rows.flatMap (fun r =>
      ((dedup (r.checks.filter (fun c => !FeCond.neverFires c.1))).filter
        (fun c => notInModel.contains (r.name, c.1))).map (fun c => (r.name, c.1))) = notInModel := by
  decide +kernel

theorem flatMap_regionBytes_length (rs : List (Nat × Nat × Nat × Nat × Bool)) :
    (rs.flatMap regionBytes).length = 32 * rs.length := by
  induction rs with
  | nil => rfl
  | cons r rs ih =>
    simp only [List.flatMap_cons, List.length_append, ih, List.length_cons, regionBytes, u64, leBytes_length]
    omega

/-- **D1**: the total-size check of `send_request_with_payload` cannot fail on a memory table the model accepts -/
theorem mem_table_size_implied (s : FSt) (op : Op) (req : Req) (s' : FSt) (hreq : request s op = .ok (req, s'))
    (hn : op.name = "set_mem_table") :
    req.body.length = 8 + 32 * op.regions.length ∧ req.body.length ≤ 0x1000 := by
  have hB := request_built s op req s' hreq
  cases hB
  case set_mem_table a pl fds bad regs h1 h32 =>
    dsimp only
    simp only [List.length_append, u32, leBytes_length, flatMap_regionBytes_length]
    have h32' : regs.length ≤ 32 := h32
    exact ⟨trivial, by omega⟩
  all_goals (simp at hn)

/-- **D2** (the difference): the model attaches the descriptors of the call, not one per region -/
theorem mem_table_fds_from_call (s : FSt) (op : Op) (req : Req) (s' : FSt) (hreq : request s op = .ok (req, s'))
    (hn : op.name = "set_mem_table") : req.fds = op.fds ∧ 1 ≤ op.regions.length ∧ op.regions.length ≤ 32 := by
  have hB := request_built s op req s' hreq
  cases hB
  case set_mem_table a pl fds bad regs h1 h32 => exact ⟨rfl, h1, h32⟩
  all_goals (simp at hn)

/-- **D2**: with one descriptor per region the descriptor-count check cannot fail -/
theorem mem_table_fd_count_implied (s : FSt) (op : Op) (req : Req) (s' : FSt) (hreq : request s op = .ok (req, s'))
    (hn : op.name = "set_mem_table") (hfds : op.fds.length = op.regions.length) : req.fds.length ≤ 32 := by
  obtain ⟨e, _, h32⟩ := mem_table_fds_from_call s op req s' hreq hn
  rw [e, hfds]; exact h32

/-- **D3**: for values of `VhostTransferStateDirection` (0, 1) and `VhostTransferStatePhase` (0) the generated validator
accepts the body: the source's `!body.is_valid()` cannot fail -/
theorem devstate_typed_valid (d p : Nat) (hd : d ≤ 1) (hp : p = 0) :
    Model.BackendSrv.bodyValid "VhostUserTransferDeviceState" (u32 d ++ u32 p) = some true := by
  subst hp
  have : d = 0 ∨ d = 1 := by omega
  rcases this with rfl | rfl <;> decide +kernel

/-- **D3** (the difference): the model accepts a `set_device_state_fd` whose body the validator refuses -/
theorem devstate_check_absent_from_model :
    ∃ s op req s', request s op = .ok (req, s') ∧ op.name = "set_device_state_fd" ∧
      Model.BackendSrv.bodyValid "VhostUserTransferDeviceState" req.body = some false :=
  ⟨{ ackedProto := 0x80000 }, ⟨"set_device_state_fd", [5, 7], [], [3], false, []⟩, _, _, rfl, rfl, by decide +kernel⟩

/-! ## 3. the table is the executable model -/

/-- whatever the state and the call, if the model's API accepts it then there is a row of the
table, of the operation's name, such that: the request carries the row's code; it is awaited by the row's reply reader;
every protocol feature the row requires is acknowledged; a virtio feature the row requires is acknowledged
(`acked = true`) resp. offered (`acked = false`); the queue index is below `maxQ` (and at most the row's bound) where the
row checks it; no other check of the row fires either; descriptors are the caller's exactly where the row attaches them;
the body has the size of the row's body type; the state after the send is the row's pre-reply updates applied. -/
theorem request_ok_table (s : FSt) (op : Op) (req : Req) (s' : FSt) (hreq : request s op = .ok (req, s')) :
    ∃ row ∈ modelOps, rowFor s op = some row ∧ row.name = op.name ∧
      req.code = row.code ∧ awaitOf req.kind = row.await ∧
      (∀ b e, (FeCond.protoMissing b, e) ∈ row.checks → hasProto s b = true) ∧
      (∀ b e, (FeCond.virtioMissing b true, e) ∈ row.checks → bitSet s.acked b = true) ∧
      (∀ b e, (FeCond.virtioMissing b false, e) ∈ row.checks → bitSet s.virtio b = true) ∧
      (∀ e, (FeCond.queueIdxOob, e) ∈ row.checks → arg op 0 < s.maxQ) ∧
      (∀ m e, (FeCond.idxAbove m, e) ∈ row.checks → arg op 0 ≤ m) ∧
      (∀ c ∈ row.checks, fires c.1 s op = false) ∧
      req.fds = (if row.fds then op.fds else []) ∧
      bodyFits row.body req.body = true ∧
      s' = applyPre row.updates s op := by
  obtain ⟨row, hrow, hfe, ⟨hcode, haw, hfds, hbody⟩, hst⟩ := request_ok_row s op req s' hreq
  obtain ⟨hmem, hname, _⟩ := rowFor_mem hrow
  have hall := (firstErr_none_iff _ _ _).1 hfe
  refine ⟨row, hmem, hrow, hname, hcode, haw, ?_, ?_, ?_, ?_, ?_, hall, hfds, hbody, hst⟩
  all_goals
    intros
    rename_i h
    simpa [fires] using hall _ h

/-- a refused call is refused with `.other` (argument list of a shape the operation does not
have — an artefact of the untyped `Op`, or an unknown operation) or with the error of the first check, in table order,
that fires; the firing check is exhibited -/
theorem request_error_table (s : FSt) (op : Op) (e : Err) (h : request s op = .error e) :
    e = .other ∨ ∃ row ∈ modelOps, rowFor s op = some row ∧ row.name = op.name ∧ firstErr row.checks s op = some e ∧
      ∃ c ∈ row.checks, fires c.1 s op = true ∧ errOf c.2 = e := by
  rcases request_error_row s op e h with h | ⟨row, hrow, hfe⟩
  · exact Or.inl h
  · obtain ⟨hmem, hname, _⟩ := rowFor_mem hrow
    exact Or.inr ⟨row, hmem, hrow, hname, hfe, firstErr_some_fires hfe⟩

/-- the table's checks are *all* the model's checks — a call of the right shape is
accepted exactly when no check of its row fires -/
theorem accepted_iff_no_check_fires (s : FSt) (op : Op) (row : FeRow) (hrow : rowFor s op = some row)
    (hshape : request s op ≠ .error .other) :
    (∃ req s', request s op = .ok (req, s')) ↔ ∀ c ∈ row.checks, fires c.1 s op = false := by
  rcases request_row s op with h | ⟨row', x, hrow', heq, _⟩
  · exact absurd h hshape
  · rw [hrow] at hrow'; cases hrow'
    rw [heq, ← firstErr_none_iff, verdict]
    cases firstErr row.checks s op with
    | none => simpa using ⟨x.1, x.2, rfl⟩
    | some e => simp

/-- a firing check: nothing reaches the wire -/
theorem check_fires_sends_nothing {σ : Type} (ch : Chooser σ) (cl : Bool) (s : FSt) (op : Op) (cst : σ) (str : List Cell)
    (row : FeRow) (c : FeCheck) (hrow : rowFor s op = some row) (hc : c ∈ row.checks) (hf : fires c.1 s op = true) :
    (call ch cl s op cst str).wire = [] ∧ (call ch cl s op cst str).wireFds = [] ∧ (call ch cl s op cst str).st = s := by
  obtain ⟨e, he⟩ := refused_of_check s op c (fun row' hrow' => by rw [hrow] at hrow'; cases hrow'; exact hc) hf
  rw [Props.C02.call_refused ch cl cst str he]; exact ⟨rfl, rfl, rfl⟩

/-- for every row of the operation's name: an error raised while post-processing an accepted reply
is one of the row's reply errors (`.other`: `get_config` with a malformed argument list), and the state afterwards is
the row's post-reply updates applied to the value of the reply (unchanged when an error is raised) -/
theorem finish_table (s : FSt) (op : Op) (r : Reply) (row : FeRow) (hrow : row ∈ modelOps) (hname : row.name = op.name) :
    (∀ e, (finish s op r).1 = .err e → e = .other ∨ e ∈ postErrs row.post) ∧
    (finish s op r).2 = (if Ret.isErr (finish s op r).1 then s else applyPost row.updates s op (leVal r.body)) := by
  constructor
  · intro e he
    rcases finish_err s op r e he with h | h
    · exact Or.inl h
    · have := List.all_eq_true.1 (List.all_eq_true.1 finishErrs_rows _ h) row hrow
      simp only [hname, bne_self_eq_false, Bool.false_or] at this
      exact Or.inr (List.contains_iff_mem.1 this)
  · obtain ⟨h1, h2, h3, hno⟩ := post_rows row hrow
    rw [hname] at h1 h2 h3 hno
    unfold finish
    split
    case h_1 h => rw [h1 h]; rfl
    case h_2 h => rw [h2 h]; rfl
    case h_3 h => rw [h3 h]; dsimp only; split <;> rfl
    -- the arms of `finish` in source order: 1–3 are the operations that assign to the node, 13 is the catch-all; the
    -- others leave the node as it is, and their rows have no update after the reply
    case h_13 => rw [applyPost_none _ _ _ _ (hno ‹_› ‹_› ‹_›), ite_self]
    all_goals
      rw [applyPost_none _ _ _ _ (hno (by simp [*]) (by simp [*]) (by simp [*])), ite_self]
      try dsimp only
      repeat' split
      all_goals rfl

def FePost.conditional : FePost → Bool
  | .bind _ _ | .errIf _ _ | .okIf _ _ | .takeSingleIf _ _ => true
  | _ => false

/-- the methods that look *into* the reply, with the conditions as the source states them.
`model_ops_match_source` compares only the errors (`FePost.skeleton`); the conditions are tied to
`Model.Frontend.finish` by `Props.FeRecv.finish_matches_*` (and by the differential `fe` family), so a change of any of
them must show up here. -/
theorem reply_handling_pinned :
    (Gen.FrontendOps.rows.filter (fun r => r.post.any FePost.conditional)).map (fun r => (r.name, r.post)) =
    [("get_queue_num", [.errIf "val.value > VHOST_USER_MAX_VRINGS" "InvalidMessage", .ok "node.max_queue_num"]),
     ("get_config",
       [.errIf "rfds.is_some()" "InvalidMessage", .errIf "body_reply.size == 0" "BackendInternalError",
        .errIf "body_reply.size != body.size || body_reply.size as usize != buf.len() || body_reply.offset != body.offset || buf_reply.len() != buf.len()"
          "InvalidMessage",
        .ok "(body_reply, buf_reply)"]),
     ("set_device_state_fd",
       [.bind "msg" "body.value", .okIf "msg == 256 && files.is_none()" "None",
        .takeSingleIf "msg == 0 && files.is_some()" "IncorrectFds", .err "BackendInternalError"]),
     ("check_device_state", [.errIf "body.value != 0" "BackendInternalError", .ok "()"])] := by
  decide +kernel

/-- the model's counterparts of these conditions, as equations of `finish` (constants from the generated tables) -/
theorem finish_conditions (s : FSt) (a : List Nat) (pl : Bytes) (fds : List Fd) (bad : Bool)
    (regs : List (Nat × Nat × Nat × Nat × Bool)) (r : Reply) :
    finish s ⟨"get_queue_num", a, pl, fds, bad, regs⟩ r =
      (if leVal r.body > Gen.Consts.VHOST_USER_MAX_VRINGS then (.err .invalidMsg, s)
       else (.val (leVal r.body), { s with maxQ := leVal r.body })) ∧
    finish s ⟨"check_device_state", a, pl, fds, bad, regs⟩ r =
      (if leVal r.body != 0 then (.err .backendInternal, s) else (.unit, s)) ∧
    finish s ⟨"set_device_state_fd", a, pl, fds, bad, regs⟩ r =
      (if leVal r.body == 0x100 && r.files.isNone then (.noFile, s)
       else if leVal r.body == 0 && r.files.isSome then
         (match takeSingle r.files with | some f => .file f | none => .err .incorrectFds, s)
       else (.err .backendInternal, s)) :=
  ⟨rfl, rfl, rfl⟩

/-- the header of every request: the row's code, `hdr_flags | 1` through `VhostUserMsgHeader::new`, the body's size
(`new_request_header`, as listed in `modelHelpers`) -/
theorem request_header (s : FSt) (req : Req) :
    reqHdr s req = ⟨req.code, Model.BackendSrv.hdrNewFlags (s.hdrFlags ||| 1), req.body.length⟩ := rfl

/-! ### the reply readers' local refusals: what `recv` refuses before anything is read -/

/-- `wait_for_ack` returns at once — reading nothing — unless REPLY_ACK (bit 3) is acknowledged and the request asked
for a reply -/
theorem ack_skipped {σ : Type} (ch : Chooser σ) (cl : Bool) (s : FSt) (req : Req) (cst : σ) (str : List Cell)
    (hk : req.kind = .ack) (h : bitSet s.ackedProto 3 = false ∨ (reqHdr s req).needReply = false) :
    (recv ch cl s req cst str).res = .ok ⟨reqHdr s req, u64 0, [], none⟩ ∧ Untouched (recv ch cl s req cst str) cst str := by
  rw [Props.C03.recv_ack_skipped ch cl cst str hk h]; exact ⟨rfl, rfl, rfl, rfl⟩

/-- `recv_reply*`: a request header with the REPLY flag is refused with `InvalidParam` before anything is read -/
theorem reply_header_refused {σ : Type} (ch : Chooser σ) (cl : Bool) (s : FSt) (req : Req) (cst : σ) (str : List Cell)
    (ty : String) (hk : req.kind = .body ty ∨ req.kind = .bodyOptFiles ty ∨ req.kind = .bodyFiles ty)
    (h : (reqHdr s req).isReply = true) :
    (recv ch cl s req cst str).res = .err .invalidParam ∧ Untouched (recv ch cl s req cst str) cst str := by
  rcases hk with hk | hk | hk <;> simp [recv, hk, h, Untouched]

/-- `recv_reply_with_payload`: request size not above the body size, above `MAX_MSG_SIZE`, or a REPLY header —
`InvalidParam` before anything is read -/
theorem payload_window_refused {σ : Type} (ch : Chooser σ) (cl : Bool) (s : FSt) (req : Req) (cst : σ) (str : List Cell)
    (ty : String) (n : Nat) (hk : req.kind = .payload ty) (hn : sizeOfTy ty = some n)
    (h : (reqHdr s req).size ≤ n ∨ (reqHdr s req).size > 0x1000 ∨ (reqHdr s req).isReply = true) :
    (recv ch cl s req cst str).res = .err .invalidParam ∧ Untouched (recv ch cl s req cst str) cst str := by
  have hc : (decide ((reqHdr s req).size ≤ n) || decide ((reqHdr s req).size > 0x1000) || (reqHdr s req).isReply) = true := by
    rcases h with h | h | h <;> simp [h]
  simp only [recv, hk, hn, hc, if_true, Untouched, and_self]

/-! ## consequences for single operations -/

/-- ring enable needs PROTOCOL_FEATURES *acknowledged* (not merely offered) and an index below `maxQ` -/
theorem set_vring_enable_needs (s : FSt) (op : Op) (req : Req) (s' : FSt) (hn : op.name = "set_vring_enable")
    (hreq : request s op = .ok (req, s')) : bitSet s.acked 30 = true ∧ arg op 0 < s.maxQ ∧ req.code = 18 := by
  obtain ⟨row, hmem, hrow, hname, hcode, _, _, hacked, _, hq, _⟩ := request_ok_table s op req s' hreq
  obtain ⟨n, a, pl, fds, bad, regs⟩ := op
  simp only at hn; subst hn
  rw [show rowFor s ⟨"set_vring_enable", a, pl, fds, bad, regs⟩ = some _ from rfl] at hrow
  cases hrow
  exact ⟨hacked 30 "InactiveFeature" (by decide), hq "InvalidParam" (by decide), hcode⟩

/-- `get_config` needs CONFIG (bit 9) acknowledged -/
theorem get_config_needs (s : FSt) (op : Op) (req : Req) (s' : FSt) (hn : op.name = "get_config")
    (hreq : request s op = .ok (req, s')) : hasProto s 9 = true ∧ req.code = 24 ∧ req.kind = .payload "VhostUserConfig" := by
  obtain ⟨row, hmem, hrow, hname, hcode, haw, hproto, _⟩ := request_ok_table s op req s' hreq
  obtain ⟨n, a, pl, fds, bad, regs⟩ := op
  simp only at hn; subst hn
  rw [show rowFor s ⟨"get_config", a, pl, fds, bad, regs⟩ = some _ from rfl] at hrow
  cases hrow
  refine ⟨hproto 9 "InactiveOperation" (by decide), hcode, ?_⟩
  cases hk : req.kind <;> rw [hk] at haw <;> first | (cases haw; done) | skip
  cases haw; rfl

/-! ## non-vacuity -/

/-- an accepted call and its row -/
example : ∃ req s' row, request { maxQ := 2, acked := 0x40000000 } ⟨"set_vring_enable", [1, 1], [], [], false, []⟩ = .ok (req, s') ∧
    rowFor { maxQ := 2, acked := 0x40000000 } ⟨"set_vring_enable", [1, 1], [], [], false, []⟩ = some row ∧
    row.checks = [(.virtioMissing 30 true, "InactiveFeature"), (.queueIdxOob, "InvalidParam")] ∧ req.code = row.code :=
  ⟨_, _, _, rfl, rfl, rfl, rfl⟩

/-- offered but not acknowledged: the first check fires, the call is refused with its error -/
example : firstErr [(.virtioMissing 30 true, "InactiveFeature"), (.queueIdxOob, "InvalidParam")]
      { maxQ := 2, virtio := 0x40000000 } ⟨"set_vring_enable", [1, 1], [], [], false, []⟩ = some .inactiveFeature ∧
    request { maxQ := 2, virtio := 0x40000000 } ⟨"set_vring_enable", [1, 1], [], [], false, []⟩ = .error .inactiveFeature :=
  ⟨by decide, rfl⟩

/-- both send paths of `set_log_base` are rows -/
example : (rowFor { ackedProto := 2 } ⟨"set_log_base", [0, 0x1000, 0], [], [5], false, []⟩).map (·.await) = some (.reply "VhostUserLog") ∧
    (rowFor {} ⟨"set_log_base", [0, 0x1000, 0], [], [5], false, []⟩).map (·.await) = some .none ∧
    (rowFor { ackedProto := 2 } ⟨"set_log_base", [0], [], [], false, []⟩).map (·.await) = some .none := by
  decide

end Props.FrontendOps
