import VhostModel.Gen.LtsSteps
import VhostModel.Lemmas.LtsWorker
import VhostModel.Lemmas.LtsControl
import VhostModel.Lemmas.LtsShutdown
import VhostModel.Lemmas.LtsTeardown
/-!
# The atomic steps of `Model.Worker` (C12) and `Model.Shutdown` (C16) are the code segments between the hold points

`Gen.LtsSteps` is regenerated on every run from `vhost-user-backend/src/{event_loop.rs, vring.rs, handler.rs, lib.rs}`
(`tools/rs2lean_lts.py`) *with* the statements under `#[cfg(feature = "verif-hooks")]`: per function the events of its body
with the hold points as events, and per function the segments — the residual programs from function entry and from every
hold point up to the next hold points.

Three layers:

1. **table = source** — `worker_segments_match_source`, `control_segments_match_source`, `shutdown_segments_match_source`:
   the hand-written `Model.LtsTable` *is* what the translator derived (every segment, every event, in order);
   `segments_derivation_agrees`: the translator's derivation of the segments from the rows and the one written in Lean
   (`Base.LSeg.segmentsOf`) give the same segments.  A hold point moved, a statement moved across a hold point, a dropped /
   added / reordered check or call breaks these.
2. **table = executable transition systems**, for all states:
   * C12 worker: `worker_steps_are_segments` (every `wpc`, every `Cfg`), with `worker_read_kick_local` for the hold point
     the model merges; `worker_cfg_edits`, `worker_pinned_steps`: the configurations are the segments with the repairs
     reverted as edits of the *generated* segments;
   * C12 control: `control_steps_are_segments` (every message, every stage, both readings of the stages two hold points
     share, `Cfg.nofdStarts` as the edit `mutNofd`), `control_stage_numbering_reachable`;
   * C16: `daemon_enter_is_segment`, `daemon_return_is_segment`, `daemon_inner_steps`, `daemon_loop_is_segment`,
     `daemon_exit_is_segment`, `shutdown_steps_are_segments`, `wait_steps_are_segments`, `wait_arms_are_source`,
     `drop_is_segment`, `serve_tail_is_segment`, `handler_drop_is_segments`, `worker_exit_partial`.
3. **non-vacuity** — examples at the end.

## What the comparison found

No step on which a model and the source disagree.  Differences of *granularity*, each visible in a statement:

* **`worker.read_kick`** — `Model.Worker` has no program counter for this hold point: `wStep` at `checked` is the segment from
  `worker.pre_read` followed by the one from `worker.read_kick`.  The second looks at the local `enabled` only
  (`worker_read_kick_local`), so no interleaving is lost.
* **`ctl.state` of SET_VRING_KICK** — the model evaluates the guard `vring_needs_init` when it *reaches* the hold point
  (stage `1` or `2`), the code when it *leaves* it.  Equal because no other thread writes `ready` / `kick`
  (`Lemmas.Worker.w_frame`); the theorems carry `StageInv`, which holds in every reachable state.  Stage `2` is
  `ctl.state` (guard false) or `ctl.ready`, stage `3` is either occurrence of `ctl.epoll`: the theorem holds for both.
* **`wait()`, `serve()`, the two `Drop`s** have no hold point: the models are *finer* than the segments (`wJoin` /
  `wClassify`; one `svSignal` / `hSignal` / `hJoin` per worker) and the theorems are about the run of those steps.
  `wait()` reads the flag through `conn_state` (`is_some_and`); the model reads it directly — equal under `ConnInv`
  (`conn_state` is there whenever there is a thread to join), which holds in every reachable state.
* **`handle_request`** is a run of model steps (one per system call), not a segment: the tie is the control skeleton around it
  (`daemon_enter_is_segment`, `daemon_return_is_segment`, `daemon_inner_steps`).
* **`wkExit`** — `worker_exit_partial`: the exit path of `run` is read off the segment from `worker.woken`; that
  `epoll.wait` reports the exit event exactly when it was raised is the model's reading of epoll, not a segment.
-/
namespace Props.LtsSteps
open Base Model.LtsTable

/-! ## 1. the table is the source -/

theorem worker_segments_match_source : workerSegments = Gen.LtsSteps.workerSegments := by rfl

theorem control_segments_match_source : controlSegments = Gen.LtsSteps.controlSegments := by rfl

theorem shutdown_segments_match_source : shutdownSegments = Gen.LtsSteps.shutdownSegments := by rfl

/-- the segments the translator derived are the segments `Base.LSeg.segmentsOf` derives from the generated rows -/
theorem segments_derivation_agrees :
    LSeg.segmentsOfRows Gen.LtsSteps.workerRows = Gen.LtsSteps.workerSegments ∧
    LSeg.segmentsOfRows Gen.LtsSteps.controlRows = Gen.LtsSteps.controlSegments ∧
    LSeg.segmentsOfRows Gen.LtsSteps.shutdownRows = Gen.LtsSteps.shutdownSegments :=
  ⟨by rfl, by rfl, by rfl⟩

mutual
/-- every `helperCall` / `readKick` carries the body the helper has in `H` (`check_feature`: its one test, with the flag of
the call, as in `Props.HandlerOps.callsOk`) -/
def callsOk (H : List LRow) : LEvent → Bool
  | .act _ => true
  | .node k ss b1 b2 =>
    (match k with
     | .helperCall _ =>
       (match H.lookup (ss.headD "") with
        | some hb =>
          LEvent.beqL hb b1 ||
          (ss.headD "" == "check_feature" &&
           (match b1 with
            | [.act (.h (.featureAcked _ e))] => e == "InactiveFeature"
            | _ => false))
        | none => false)
     | .readKick =>
       (match H.lookup "read_kick" with
        | some hb => LEvent.beqL hb b1
        | none => false)
     | _ => true) && callsOkL H b1 && callsOkL H b2
def callsOkL (H : List LRow) : List LEvent → Bool
  | [] => true
  | e :: es => callsOk H e && callsOkL H es
end

/-- the bodies carried along by the rows (and by the helpers) are the helpers' own rows -/
theorem helper_calls_consistent :
    (Gen.LtsSteps.workerRows.all fun r => callsOkL Gen.LtsSteps.workerHelpers r.2) = true ∧
    (Gen.LtsSteps.workerHelpers.all fun r => callsOkL Gen.LtsSteps.workerHelpers r.2) = true ∧
    (Gen.LtsSteps.controlRows.all fun r => callsOkL Gen.LtsSteps.controlHelpers r.2) = true ∧
    (Gen.LtsSteps.controlHelpers.all fun r => callsOkL Gen.LtsSteps.controlHelpers r.2) = true ∧
    (Gen.LtsSteps.shutdownRows.all fun r => callsOkL Gen.LtsSteps.shutdownHelpers r.2) = true ∧
    (Gen.LtsSteps.shutdownHelpers.all fun r => callsOkL Gen.LtsSteps.shutdownHelpers r.2) = true := by
  -- the lookups by name, the comparison of a carried body with the helper's row by `beqL_refl`
  simp [Gen.LtsSteps.workerRows, Gen.LtsSteps.workerHelpers, Gen.LtsSteps.controlRows, Gen.LtsSteps.controlHelpers,
    Gen.LtsSteps.shutdownRows, Gen.LtsSteps.shutdownHelpers, callsOkL, callsOk, List.lookup, LEvent.beqL_refl]

/-- the hold points, per function, in source order -/
theorem source_hold_points :
    Gen.LtsSteps.workerRows.map (fun r => (r.1, LSeg.holdsL r.2)) =
      [("run", ["worker.wait", "worker.woken", "worker.pre_read", "worker.read_kick", "worker.dispatch"])] ∧
    Gen.LtsSteps.controlRows.map (fun r => (r.1, LSeg.holdsL r.2)) =
      [("set_vring_enable", ["ctl.state", "ctl.epoll"]), ("reset_device", ["ctl.state", "ctl.epoll"]),
       ("get_vring_base", ["ctl.state", "ctl.epoll", "ctl.drop"]),
       ("set_vring_kick", ["ctl.state", "ctl.ready", "ctl.epoll", "ctl.epoll"])] ∧
    Gen.LtsSteps.shutdownRows.map (fun r => (r.1, LSeg.holdsL r.2)) =
      [("daemon_thread", ["daemon.before_handle_request", "daemon.after_handle_request_ok", "daemon.before_final_shutdown"]),
       ("start_daemon", []), ("shutdown", ["shutdown.between_flag_and_socket"]), ("wait", []), ("serve", []),
       ("daemon_drop", []), ("handler_drop", [])] :=
  ⟨by rfl, by rfl, by rfl⟩

/-! ## 2. the table is the executable transition systems -/

section Worker
open Model.Worker Lemmas.LtsWorker

/-- the generated segment of `run` from point `p` -/
def runSeg (p : String) : List LEvent := segOf Gen.LtsSteps.workerSegments "run" p

-- what running a concrete segment unfolds
attribute [local simp] evsW evW armsW actW isArmW armOkW holdW endFor endLoop startW finishW condW afterCallW afterReadKick
  inHandleEvent exitCheck eventHead epollTop events exitCond isRing notReady

theorem worker_table_is_source :
    segWait = runSeg "worker.wait" ∧ segWoken = runSeg "worker.woken" ∧ segPreRead = runSeg "worker.pre_read" ∧
    segReadKick = runSeg "worker.read_kick" ∧ segDispatch = runSeg "worker.dispatch" :=
  ⟨by rfl, by rfl, by rfl, by rfl, by rfl⟩

/-- **worker_steps_are_segments** (C12, worker side): for every state and every configuration, the worker's step is the
interpretation of the generated segment its program counter stands for — `wait`: `epoll.wait` (blocked: the state
unchanged) up to `worker.woken`; `woken`: the exit test and the `ready()` test up to `worker.pre_read` or round to
`worker.wait`; `checked`: `read_kick` (the disabled / `EAGAIN` / consumed cases) up to `worker.read_kick` and on through
`if !enabled` to `worker.dispatch` / `worker.wait`, or the thread ends; `toDispatch`: `backend.handle_event` and round to
`worker.wait` — with the repairs `cfg` switches off reverted (`edit`) -/
theorem worker_steps_are_segments (s : St) :
    wStep s =
      match s.wpc with
      | .dead => none
      | .wait => finishW s (evsW (edit s.cfg (runSeg "worker.wait")) (startW s))
      | .woken => finishW s (evsW (edit s.cfg (runSeg "worker.woken")) (startW s))
      | .checked =>
        let s1 := evsW (edit s.cfg (runSeg "worker.pre_read")) (startW s)
        (match s1.flow with
         | .held n =>
           if n = "worker.read_kick" then finishW s (evsW (edit s.cfg (runSeg "worker.read_kick")) { s1 with flow := .run })
           else none
         | _ => finishW s s1)
      | .toDispatch => finishW s (evsW (edit s.cfg (runSeg "worker.dispatch")) (startW s)) := by
  obtain ⟨h1, h2, h3, h4, h5⟩ := worker_table_is_source
  rw [← h1, ← h2, ← h3, ← h4, ← h5]
  unfold wStep
  cases s.wpc with
  | dead => rfl
  | wait =>
    simp only [edit_segWait]
    by_cases hr : readyAny s = true <;> simp [segWait, hr]
  | woken =>
    simp only [edit_segWoken]
    cases s.cfg.fixStopped <;> cases hr : s.ready <;> simp [segWokenOf, hr]
  | checked =>
    simp only [edit_segPreRead, edit_segReadKick]
    cases s.cfg.fixLost <;> cases s.cfg.fixEagain <;> cases hen : s.enabled <;> cases hk : s.kick with
    | none => simp [segPreReadOf, readKickBodyOf, segReadKick, hen, hk]
    | some k =>
      by_cases hc : s.cnt k = 0 <;> simp [segPreReadOf, readKickBodyOf, segReadKick, noteConsumed, emit, hen, hk, hc]
  | toDispatch =>
    simp only [edit_segDispatch]
    simp [segDispatch, emit]

/-- the hold point the model merges: the segment from `worker.read_kick` moves the program counter according to the local
`enabled` and reads nothing shared -/
theorem worker_read_kick_local (s : WS) (h : s.flow = .run) :
    (evsW (runSeg "worker.read_kick") s).st =
      if s.enabledLoc then { s.st with wpc := .toDispatch, rdStale := false } else { s.st with wpc := .wait } := by
  rw [← worker_table_is_source.2.2.2.1]
  obtain ⟨st, flow, en, rv, wb, co, ex⟩ := s
  subst h
  cases en <;> simp [segReadKick]

/-- **worker_cfg_edits**: which source edit each flag of `Cfg` stands for, as a rewrite of the generated segments —
`fixLost = false`: commit b54e7e9 reverted (`revLost`: `read_kick` without `if !self.enabled { return Ok(false) }`);
`fixEagain = false`: commit e4698fd reverted (`revEagain`: `kick.consume()?` instead of the `match` with the `WouldBlock`
arm); `fixStopped = false`: commit 2d45ace reverted (`revStopped`: `handle_event` without the `ready()` test).  The repaired
configuration is the source as it is; the pinned one has exactly the three reverted. -/
theorem worker_cfg_edits (p : String) :
    edit Cfg.repaired (runSeg p) = runSeg p ∧
    edit Cfg.pinned (runSeg p) =
      LSeg.rewriteL revStopped (LSeg.rewriteL revEagain (LSeg.rewriteL revLost (runSeg p))) ∧
    (∀ a b c d, edit ⟨a, b, c, d⟩ (runSeg p) =
      (if c then id else LSeg.rewriteL revStopped)
        ((if b then id else LSeg.rewriteL revEagain) ((if a then id else LSeg.rewriteL revLost) (runSeg p)))) := by
  refine ⟨rfl, rfl, ?_⟩
  intro a b c d
  cases a <;> cases b <;> cases c <;> rfl

/-- what the three reverts do to the generated segments (the other segments are untouched) -/
theorem worker_reverted_segments :
    edit Cfg.pinned (runSeg "worker.woken") = segWokenOf false ∧
    edit Cfg.pinned (runSeg "worker.pre_read") = segPreReadOf false false ∧
    edit Cfg.pinned (runSeg "worker.wait") = runSeg "worker.wait" ∧
    edit Cfg.pinned (runSeg "worker.read_kick") = runSeg "worker.read_kick" ∧
    edit Cfg.pinned (runSeg "worker.dispatch") = runSeg "worker.dispatch" := by
  obtain ⟨h1, h2, h3, h4, h5⟩ := worker_table_is_source
  rw [← h1, ← h2, ← h3, ← h4, ← h5]
  exact ⟨edit_segWoken _, edit_segPreRead _, edit_segWait _, edit_segReadKick _, edit_segDispatch _⟩

/-- **worker_pinned_steps**: the pinned configuration is the interpretation of the generated segments with exactly the
three commits reverted -/
theorem worker_pinned_steps (s : St) (hc : s.cfg = Cfg.pinned) (rev : List LEvent → List LEvent)
    (hrev : rev = fun es => LSeg.rewriteL revStopped (LSeg.rewriteL revEagain (LSeg.rewriteL revLost es))) :
    wStep s =
      match s.wpc with
      | .dead => none
      | .wait => finishW s (evsW (rev (runSeg "worker.wait")) (startW s))
      | .woken => finishW s (evsW (rev (runSeg "worker.woken")) (startW s))
      | .checked =>
        let s1 := evsW (rev (runSeg "worker.pre_read")) (startW s)
        (match s1.flow with
         | .held n =>
           if n = "worker.read_kick" then finishW s (evsW (rev (runSeg "worker.read_kick")) { s1 with flow := .run })
           else none
         | _ => finishW s s1)
      | .toDispatch => finishW s (evsW (rev (runSeg "worker.dispatch")) (startW s)) := by
  subst hrev
  rw [worker_steps_are_segments, hc]
  rfl

/-- **`wkExit`, partial** (`Model.Shutdown.TD.wkExit`, "worker `i` sees its exit event and returns", as far as the worker's
segments say it): when the event taken at `worker.woken` is the exit event, `handle_event` returns `Ok(true)`, `run` breaks
out of `'epoll` and returns `Ok(())` — the thread ends (`gone i`) — without touching a ring, whatever the configuration.
*Partial*: that `epoll.wait` reports the exit event exactly when it was raised and never consumes it (`evt i ∧ ¬gone i` in
the model) is the model's reading of epoll, not a segment. -/
theorem worker_exit_partial (st : Model.Worker.St) :
    (Lemmas.LtsWorker.evsW (Lemmas.LtsWorker.edit st.cfg (runSeg "worker.woken"))
      { Lemmas.LtsWorker.startW st with exitEvt := true }).flow = .ret false ∧
    (Lemmas.LtsWorker.evsW (Lemmas.LtsWorker.edit st.cfg (runSeg "worker.woken"))
      { Lemmas.LtsWorker.startW st with exitEvt := true }).st = st := by
  rw [← worker_table_is_source.2.1, edit_segWoken]
  cases st.cfg.fixStopped <;> simp [segWokenOf]

end Worker

section Control
open Model.Worker Lemmas.LtsControl Spec.KickDelivery

/-- the generated segment stage `k` of message `m` stands for -/
def ctlSrcSeg (m : CMsg) (k : Nat) (viaInit : Bool) : List LEvent :=
  segOf Gen.LtsSteps.controlSegments (ctlFn m) (ctlPoint m k viaInit)

-- what running a concrete segment unfolds
attribute [local simp] evsC evC actC vringCallC boolArgC afterCallC endForC finishC condC_ownsRing condC_readyEnabled
  condC_needsInit condC_notReady ctlSeg ctlFn ctlPoint segOf lrowOf List.lookup

theorem control_table_is_source (m : CMsg) (k : Nat) (v : Bool) : ctlSeg m k v = ctlSrcSeg m k v := by
  unfold ctlSeg ctlSrcSeg
  rw [control_segments_match_source]

/-- **control_steps_are_segments** (C12, control side): for every state within the model's stage numbering, the control
thread's step is the interpretation of the generated segment of the method that serves the message, from the hold point the
stage stands for (`ctlPoint`) to the next hold point or to the reply: SET_VRING_ENABLE / RESET_DEVICE
`set_enabled · update_vring_registration · reply`, GET_VRING_BASE `set_queue_ready(false) · update_vring_registration ·
set_kick(None); set_call(None) · reply`, SET_VRING_KICK (fresh descriptor or the no-descriptor flag) `unregister_vring_kick;
set_kick · [set_queue_ready(true)] · update_vring_registration · reply`; `update_vring_registration`,
`unregister_vring_kick`, `initialize_vring` run through their own events.  `cfg.nofdStarts` is the edit `mutNofd`
(the guard `self.vring_needs_init(vring)` replaced by `!vring.get_ref().get_queue().ready()`); the three worker-side flags
do not touch these segments.  `viaInit`: both readings of the stages two hold points share. -/
theorem control_steps_are_segments (s : St) (h : StageInv s) (viaInit : Bool) :
    cStep s =
      match s.cpc with
      | .idle => none
      | .inMsg m k =>
        if k ≤ 3 then finishC (evsC (editC s.cfg (ctlSrcSeg m k viaInit)) (startC s m)) else none := by
  cases hpc : s.cpc with
  | idle => simp [cStep, hpc]
  | inMsg m k =>
    by_cases hk : k ≤ 3
    · simp only [hk, if_true, ← control_table_is_source, editC, editB_ctlSeg _ _ _ _ hk, ctlSegOf, startC]
      split
      · -- from `ctl.state` of `set_vring_kick`: the stage number says how the guard evaluates
        rename_i hks
        obtain ⟨hm, hk'⟩ := (atKickState_iff m k viaInit).1 hks
        rw [evsC_kickStateSeg _ _ _ hm]
        rcases hk' with rfl | ⟨rfl, rfl⟩ <;> cases m <;> simp [isKick] at hm <;> simp [StageInv, hpc] at h <;>
          simp [cStep, hpc, h]
      · rename_i hks
        have hk4 : k = 0 ∨ k = 1 ∨ k = 2 ∨ k = 3 := by omega
        cases m
        case restart | nofd =>
          -- at the entry the model picks the next stage by the guard in the new state
          rcases hk4 with rfl | rfl | rfl | rfl <;> simp [atKickState, isKick] at hks <;> (try subst hks) <;>
            (try cases viaInit) <;>
            simp [cStep, hpc, controlSegments, initializeVring, stageAt, evC_unregisterKick, evC_updateReg_head,
              evC_updateReg_tail, unregKick_ready, Lemmas.Worker.unregKick_next, unregKick_cfg, guardC_eq, isKick] <;>
            cases s.ready <;> cases s.cfg.nofdStarts <;> rfl
        all_goals
          rcases hk4 with rfl | rfl | rfl | rfl <;> simp [StageInv, hpc] at h <;>
            simp [cStep, hpc, controlSegments, resetLoopBody, stageAt, evC_updateReg_head, evC_updateReg_tail, evsC_resetTail,
              noteDisable_cpc, noteStop_cpc, isKick]
    · obtain ⟨j, rfl⟩ : ∃ j, k = j + 4 := ⟨k - 4, by omega⟩
      simp [hpc, cStep]

/-- the stage numbering holds in every state reachable from the model's initial state -/
theorem control_stage_numbering_reachable (cfg : Cfg) (ls : List Lbl) (s : St) (h : run (init cfg) ls = some s) :
    StageInv s :=
  Lemmas.Worker.isRun.inv (fun _ _ _ => step_inv) (stageInv_init cfg) h

/-- the mutation behind `Props.C12.nofd_kick_marks_ready_counterexample`, as an edit of the generated segment: only the
segment of `set_vring_kick` from `ctl.state` changes, and only in its guard -/
theorem control_nofd_mutation :
    editC Cfg.nofdMutant (ctlSrcSeg .nofd 1 false) = kickStateSeg true ∧
    editC Cfg.repaired (ctlSrcSeg .nofd 1 false) = kickStateSeg false ∧
    editC Cfg.pinned (ctlSrcSeg .nofd 1 false) = kickStateSeg false ∧
    (∀ m k v, k ≤ 3 → ¬ (isKick m = true ∧ (k = 1 ∨ (k = 2 ∧ v = false))) →
      editC Cfg.nofdMutant (ctlSrcSeg m k v) = ctlSrcSeg m k v) := by
  simp only [← control_table_is_source]
  refine ⟨editB_ctlSeg true .nofd 1 false (by omega), editB_ctlSeg false .nofd 1 false (by omega),
    editB_ctlSeg false .nofd 1 false (by omega), fun m k v hk hn => ?_⟩
  rw [editC, show Cfg.nofdMutant.nofdStarts = true from rfl, editB_ctlSeg true m k v hk, ctlSegOf,
    if_neg (mt (atKickState_iff m k v).1 hn)]

end Control

section Shutdown
open Model.Shutdown Lemmas.LtsShutdown

/-- the generated segment of the daemon thread's closure from point `p` -/
def daemonSrcSeg (p : String) : List LEvent := segOf Gen.LtsSteps.shutdownSegments "daemon_thread" p

-- what running a concrete segment unfolds
attribute [local simp] evsS evS armsS actS holdS valueS patOkS afterCallS endLoopS startS segOf lrowOf List.lookup

/-- the generated segment from `daemon.before_handle_request`: the call of `handle_request`, then `daemonAfterCall` -/
theorem daemon_iteration_source :
    daemonSrcSeg "daemon.before_handle_request" =
      .loopFrom "" "result" (.handleRequest "HandleRequest" :: daemonAfterCall) daemonLoopTop :: daemonExit := by
  rfl

/-- **daemon loop iteration, entry** (`dEnter`): from `daemon.before_handle_request` into `handle_request` -/
theorem daemon_enter_is_segment (s : St) (h : s.d = .pre) :
    step s .dEnter =
      (let r := evsS (daemonSrcSeg "daemon.before_handle_request") (startS s)
       match r.flow with
       | .held _ | .inCall => some r.st
       | .ret => some { r.st with d := .exited (r.result.getD default) }
       | _ => none) := by
  simp [step, h, daemon_iteration_source]

/-- **daemon loop iteration, return** : the rest of that segment read with the result of `handle_request` — `Ok` goes to
`daemon.after_handle_request_ok`, `Err(e)` leaves the loop with `Err(e)` for `daemon.before_final_shutdown` -/
theorem daemon_return_is_segment (r : Option Err) (s : St) :
    returned r s = some { s with d := match r with
                                      | none => .post
                                      | some e => .fin e } := by
  cases r <;> simp [returned, daemonAfterCall, daemonExit]

/-- every step the model takes inside `handle_request` stays inside or returns as `daemon_return_is_segment` says -/
theorem daemon_inner_steps (s s' : St) (l : Lbl) (hin : DPc.inCall s.d = true) (hl : l.isDaemon = true)
    (h : step s l = some s') : DPc.inCall s'.d = true ∨ ∃ r, returned r s' = some s' := by
  have h' := inner_pc s s' l hin hl h
  cases hd : s'.d with
  | post => exact .inr ⟨none, by simp only [daemon_return_is_segment, ← hd]⟩
  | fin e => exact .inr ⟨some e, by simp only [daemon_return_is_segment, ← hd]⟩
  | pre | exited _ => rw [hd] at h'; cases h'
  | _ => exact .inl rfl

/-- **daemon loop iteration, round** (`dLoop`) -/
theorem daemon_loop_is_segment (s : St) (h : s.d = .post) :
    step s .dLoop =
      (let r := evsS (daemonSrcSeg "daemon.after_handle_request_ok") (startS s)
       match r.flow with
       | .held _ | .inCall => some r.st
       | .ret => some { r.st with d := .exited (r.result.getD default) }
       | _ => none) := by
  simp [step, h, daemonSrcSeg, ← shutdown_segments_match_source, shutdownSegments, daemonLoopTop]

/-- **exit path** (`dFinal`): `conn.shutdown(Both)` whatever the loop's value, then the thread returns it -/
theorem daemon_exit_is_segment (s : St) (e : Err) (h : s.d = .fin e) :
    step s .dFinal =
      (let r := evsS (daemonSrcSeg "daemon.before_final_shutdown") (startS s)
       match r.flow with
       | .held _ | .inCall => some r.st
       | .ret => some { r.st with d := .exited (r.result.getD default) }
       | _ => none) := by
  simp [step, h, daemonSrcSeg, ← shutdown_segments_match_source, shutdownSegments]

/-- **the two steps of `shutdown()`**: the flag store up to the hold point, then the socket shutdown and the return -/
theorem shutdown_steps_are_segments (s : St) (i : Nat) :
    (s.callers i = .idle →
      step s (.cStore i) =
        (let r := evsS (segOf Gen.LtsSteps.shutdownSegments "shutdown" "entry") { startS s with who := i }
         match r.flow with
         | .held _ => some r.st
         | .ret => some { r.st with callers := upd r.st.callers i .idle, completed := r.st.completed + 1 }
         | _ => none)) ∧
    (s.callers i = .stored →
      step s (.cShut i) =
        (let r := evsS (segOf Gen.LtsSteps.shutdownSegments "shutdown" "shutdown.between_flag_and_socket")
                    { startS s with who := i }
         match r.flow with
         | .held _ => some r.st
         | .ret => some { r.st with callers := upd r.st.callers i .idle, completed := r.st.completed + 1 }
         | _ => none)) := by
  refine ⟨fun h => ?_, fun h => ?_⟩ <;> simp [step, h, ← shutdown_segments_match_source, shutdownSegments]

/-- the generated body of `wait()` is the part up to `join` followed by the classification -/
theorem wait_source_split :
    segOf Gen.LtsSteps.shutdownSegments "wait" "entry" = waitJoin ++ waitClassify := by rfl

/-- **`wait()`**: `wJoin` is the segment up to and including `join` (blocked while the thread runs), `wClassify` the rest,
`wNoThread` the `let … else` arm; `wJoin` then `wClassify` is the whole generated body -/
theorem wait_steps_are_segments (s : St) :
    (s.hasThread = true ∧ s.w = .idle ∧ s.dropped = false → step s .wJoin = interpWaitJoin s) ∧
    (∀ e, s.w = .joined e → s.hasConn = true → step s .wClassify = finishWait (evsS waitClassify (startS s))) ∧
    (s.hasThread = false ∧ s.w = .idle ∧ s.dropped = false →
      step s .wNoThread = finishWait (evsS (segOf Gen.LtsSteps.shutdownSegments "wait" "entry") (startS s))) ∧
    (∀ e, s.hasThread = true ∧ s.w = .idle ∧ s.dropped = false → s.d = .exited e → s.hasConn = true →
      run s [.wJoin, .wClassify] = finishWait (evsS (segOf Gen.LtsSteps.shutdownSegments "wait" "entry") (startS s))) := by
  rw [wait_source_split]
  refine ⟨wJoin_is_segment s, fun e h hc => wClassify_is_segment s e h hc, fun ⟨h1, h2, h3⟩ => ?_,
    fun e h hd hc => wait_is_segment s e h hd hc⟩
  simp [step, h1, h2, h3, finishWait, waitJoin, waitClassify, resetConn]

/-- **every arm of `wait()`**: for a thread result `Err(HandleRequest(e))` the interpretation of the generated arms records
`Ok` for `SocketBroken`, `Ok` for any other error iff the shutdown flag is set, the error otherwise (the `Ok(())` arm is
dead: the loop is only left through an error) -/
theorem wait_arms_are_source (s : St) (e : Err) (h : s.w = .joined e) (hc : s.hasConn = true) :
    (finishWait (evsS ((segOf Gen.LtsSteps.shutdownSegments "wait" "entry").drop 3) (startS s))).map (·.results) =
      some (s.results ++ [if e = .sockBroken then .ok else if s.flag then .ok else .err e]) := by
  rw [wait_source_split]
  show (finishWait (evsS waitClassify (startS s))).map _ = _
  rw [← wClassify_is_segment s e h hc]
  simp [step, h, classifyWait_err]

/-- `conn_state` is there whenever there is a thread to join, in every reachable state -/
theorem wait_conn_reachable (reqs : List Req) (ls : List Lbl) (s : St) (h : run (init reqs) ls = some s) : ConnInv s :=
  Lemmas.Shutdown.isRun.inv connInv_step (connInv_init reqs []) h

/-- **`Drop for VhostUserDaemon`** -/
theorem drop_is_segment (s : St) (h : s.dropped = false ∧ s.w = .idle) :
    step s .drop =
      (let r := evsS (segOf Gen.LtsSteps.shutdownSegments "daemon_drop" "entry") (startS s)
       match r.flow with
       | .ret => some { r.st with dropped := true }
       | _ => none) :=
  Lemmas.LtsShutdown.drop_is_segment s h

end Shutdown

section Teardown
open Model.Shutdown Model.Shutdown.TD Lemmas.LtsTeardown

-- what running a concrete segment unfolds
attribute [local simp] evsT evT armsT actT isArmT patOkT afterCallT

/-- the generated body of `serve()` ends with `serveTail`; that of `Drop for VhostUserHandler` is `send_exit_event` then
the joins -/
theorem teardown_source_split :
    segOf Gen.LtsSteps.shutdownSegments "serve" "entry" = serveHead ++ serveTail ∧
    segOf Gen.LtsSteps.shutdownSegments "handler_drop" "entry" = [sendExitEvent "self"] ++ [joinWorkers, .done] :=
  ⟨by rfl, by rfl⟩

/-- **the tail of `serve()`**: once `wait()` has returned `w` — whatever `w` — the model's `c.n + 1` steps `svSignal` are
`send_exit_event` for every worker followed by the mapping of the result (`classifyServe`) -/
theorem serve_tail_is_segment (c : TD.Cfg) (t : TD.St) (w : WRes) (h : t.sv = .signalling 0 w) :
    TD.run c t (List.replicate (c.n + 1) .svSignal) =
      some (finishServe (evsT c ((segOf Gen.LtsSteps.shutdownSegments "serve" "entry").drop serveHead.length) (startT t w))) := by
  rw [teardown_source_split.1, List.drop_left]
  have hr := run_chain c .svSignal c.n (fun k => { t with evt := signalAll c t.evt k, sv := .signalling k w })
    fun k hk => by simp [TD.step, hk, signalAll, upd_or]
  rw [show { t with evt := signalAll c t.evt 0, sv := .signalling 0 w } = t by rw [← h]; rfl] at hr
  have h2 : evsT c serveTail (startT t w) =
      evsT c [serveResultMatch] { startT t w with t := { t with evt := signalAll c t.evt c.n } } := by
    rw [serveTail, evsT, evT_sendExitEvent c _ (startT t w) rfl]; rfl
  rw [hr, h2, serve_result c _ rfl, finishServe]
  simp [TD.step, startT]

/-- **`Drop for VhostUserHandler`**: `hBegin` and the steps `hSignal` are `self.send_exit_event()`; with every worker gone the
steps `hJoin` are the joins and the return; a worker still running blocks both -/
theorem handler_drop_is_segments (c : TD.Cfg) (t : TD.St) :
    (t.h = .alive → (t.sv = .off ∨ ∃ w r, t.sv = .done w r) →
      TD.run c t (.hBegin :: List.replicate (c.n + 1) .hSignal) =
        some { (evsT c ((segOf Gen.LtsSteps.shutdownSegments "handler_drop" "entry").take 1) (startT t .ok)).t with
               h := .joining 0 }) ∧
    (t.h = .joining 0 → (∀ i, i < c.n → t.gone i = true) →
      TD.run c t (List.replicate (c.n + 1) .hJoin) =
        some { (evsT c ((segOf Gen.LtsSteps.shutdownSegments "handler_drop" "entry").drop 1) (startT t .ok)).t with
               h := .dropped }) ∧
    (t.h = .joining 0 → 0 < c.n → t.gone 0 = false →
      TD.step c t .hJoin = none ∧ (evsT c [.threadJoin "thread" ""] { startT t .ok with cur := 0 }).flow = .blocked) := by
  rw [teardown_source_split.2]
  refine ⟨fun h hsv => ?_, fun h hg => ?_, fun h hn hg => by simp [TD.step, h, hn, hg, startT]⟩
  · have hb : TD.step c t .hBegin = some { t with h := .signalling 0 } := by
      rcases hsv with hsv | ⟨w, r, hsv⟩ <;> simp [TD.step, h, hsv]
    have hr := run_chain c .hSignal c.n (fun k => { t with evt := signalAll c t.evt k, h := .signalling k })
      fun k hk => by simp [TD.step, hk, signalAll, upd_or]
    show _ = some { (evsT c [sendExitEvent "self"] (startT t .ok)).t with h := .joining 0 }
    rw [TD.run, hb]
    simp only [evsT, evT_sendExitEvent c "self" (startT t .ok) rfl]
    exact hr.trans (by simp [TD.step, startT])
  · have hr := run_chain c .hJoin c.n (fun k => { t with h := .joining k }) fun k hk => by simp [TD.step, hk, hg k hk]
    rw [show { t with h := .joining 0 } = t by rw [← h]] at hr
    have h1 : evT c joinWorkers (startT t .ok) = startT t .ok :=
      evT_forEach c _ _ _ rfl (fun _ => t) rfl fun k hk => by simp [startT, hg k hk]
    show _ = some { (evsT c [joinWorkers, .done] (startT t .ok)).t with h := .dropped }
    simp only [evsT, h1]
    exact hr.trans (by simp [TD.step, startT])

end Teardown

/-! ## 3. non-vacuity -/

section Examples
open Model.Worker Lemmas.LtsWorker Spec.KickDelivery

/-- a kick on the registered descriptor, then the four worker steps through the generated segments: consumed, dispatched,
back at `worker.wait` -/
example :
    ((run (init Cfg.repaired) [.kick 0, .w, .w, .w, .w]).map fun s => (s.trace, decide (s.wpc = .wait))) =
      some ([.kick 0, .consumed true, .dispatch], true) := by decide

/-- repaired code, ring disabled between `worker.woken` and `worker.pre_read`: the segment from `worker.pre_read` takes the
early return and leaves the counter alone; with commit b54e7e9 reverted the same segment consumes the kick -/
example :
    let s := { init Cfg.repaired with enabled := false, wpc := .checked, cnt := fun _ => 1 }
    let p := { init Cfg.pinned with enabled := false, wpc := .checked, cnt := fun _ => 1 }
    ((wStep s).map fun s => (s.cnt 0, s.trace), (wStep p).map fun s => (s.cnt 0, s.trace)) =
      (some (1, []), some (0, [.consumed false])) := by decide

/-- a stale event (counter zero): the repaired segment returns to `worker.wait`, with commit e4698fd reverted the error
leaves `run` and the thread ends -/
example :
    let s := { init Cfg.repaired with wpc := .checked }
    let p := { init Cfg.pinned with wpc := .checked }
    ((wStep s).map fun s => (decide (s.wpc = .wait), s.trace), (wStep p).map fun s => (decide (s.wpc = .dead), s.trace)) =
      (some (true, []), some (true, [.workerExit])) := by decide

end Examples

end Props.LtsSteps
