import VhostModel.Base
import VhostModel.Gen.Codes
import VhostModel.Gen.Flags
import VhostModel.Gen.Consts
import VhostModel.Gen.Layout
import VhostModel.Spec.Valid
import VhostModel.Spec.Layout
import VhostModel.Spec.Flags
import VhostModel.Model.Frontend
import VhostModel.Model.Endpoint
/-!
# C01 — the wire encoding of every message matches the vhost-user specification

`Gen.*` is regenerated from `message.rs` / `gpu_message.rs` on every run; the theorems compare it with the
hand-transcribed specification tables (`Spec.*`):
* request-code tables of the three channels, transfer direction/phase codes;
* flag and feature-bit constants;
* the layout (size, alignment, every field's offset and width) that rustc's `repr(C)` / `repr(C, packed)` /
  `repr(transparent)` rules give each message struct (`Base.layoutOf` applied to the generated struct table);
* header construction: `VhostUserMsgHeader::new` keeps only REPLY/NEED_REPLY and sets version 1; every
  reply header written by the request server has flags = 5; requests: version 1 + NEED_REPLY iff requested;
* little-endian field encoding round-trips (`leVal_leBytes`, `leBytes_leVal`);
* descriptors accompany only the first chunk of a message (`Props.C08.send_all_fds_first_only`).
Byte-exact comparison of every request the frontend writes (family `fe`, peer mode) and of every reply the
server writes (family `srv`) with the Spec encoders, and the decode direction (Spec-encoded requests built by
the independent generator codec → values seen by the recording handler), run in the correspondence.
Little-endian hosts only.  Padding bytes inside `repr(C)` structs (`VhostUserInflight` tail) are masked.

Two tables that are the same term are compared by `rfl`; a table fact that needs computing is closed by evaluation
in the kernel alone (`decide +kernel`), the elaborator's own evaluator being slow on `String` comparisons.
-/
namespace Props.C01
open Base

/-! ### request codes -/
theorem frontend_codes_match_spec : Gen.Codes.FrontendReq.table.map (·.2) = Spec.frontendCodes := by decide +kernel
theorem backend_codes_match_spec : Gen.Codes.BackendReq.table.map (·.2) = Spec.backendCodes := by decide +kernel
theorem gpu_codes_match_spec : Gen.Codes.GpuBackendReq.table.map (·.2) = Spec.gpuCodes := by decide +kernel

/-- the request names and numbers of the front-end channel, one by one -/
theorem frontend_code_names : Gen.Codes.FrontendReq.table =
    [("GET_FEATURES", 1), ("SET_FEATURES", 2), ("SET_OWNER", 3), ("RESET_OWNER", 4), ("SET_MEM_TABLE", 5),
     ("SET_LOG_BASE", 6), ("SET_LOG_FD", 7), ("SET_VRING_NUM", 8), ("SET_VRING_ADDR", 9), ("SET_VRING_BASE", 10),
     ("GET_VRING_BASE", 11), ("SET_VRING_KICK", 12), ("SET_VRING_CALL", 13), ("SET_VRING_ERR", 14),
     ("GET_PROTOCOL_FEATURES", 15), ("SET_PROTOCOL_FEATURES", 16), ("GET_QUEUE_NUM", 17), ("SET_VRING_ENABLE", 18),
     ("SEND_RARP", 19), ("NET_SET_MTU", 20), ("SET_BACKEND_REQ_FD", 21), ("IOTLB_MSG", 22), ("SET_VRING_ENDIAN", 23),
     ("GET_CONFIG", 24), ("SET_CONFIG", 25), ("CREATE_CRYPTO_SESSION", 26), ("CLOSE_CRYPTO_SESSION", 27),
     ("POSTCOPY_ADVISE", 28), ("POSTCOPY_LISTEN", 29), ("POSTCOPY_END", 30), ("GET_INFLIGHT_FD", 31),
     ("SET_INFLIGHT_FD", 32), ("GPU_SET_SOCKET", 33), ("RESET_DEVICE", 34), ("VRING_KICK", 35), ("GET_MAX_MEM_SLOTS", 36),
     ("ADD_MEM_REG", 37), ("REM_MEM_REG", 38), ("SET_STATUS", 39), ("GET_STATUS", 40), ("GET_SHARED_OBJECT", 41),
     ("SET_DEVICE_STATE_FD", 42), ("CHECK_DEVICE_STATE", 43), ("GET_SHMEM_CONFIG", 44)] := by rfl

theorem backend_code_names : Gen.Codes.BackendReq.table =
    [("IOTLB_MSG", 1), ("CONFIG_CHANGE_MSG", 2), ("VRING_HOST_NOTIFIER_MSG", 3), ("VRING_CALL", 4), ("VRING_ERR", 5),
     ("SHARED_OBJECT_ADD", 6), ("SHARED_OBJECT_REMOVE", 7), ("SHARED_OBJECT_LOOKUP", 8), ("SHMEM_MAP", 9),
     ("SHMEM_UNMAP", 10)] := by rfl

theorem gpu_code_names : Gen.Codes.GpuBackendReq.table =
    [("GET_PROTOCOL_FEATURES", 1), ("SET_PROTOCOL_FEATURES", 2), ("GET_DISPLAY_INFO", 3), ("CURSOR_POS", 4),
     ("CURSOR_POS_HIDE", 5), ("CURSOR_UPDATE", 6), ("SCANOUT", 7), ("UPDATE", 8), ("DMABUF_SCANOUT", 9),
     ("DMABUF_UPDATE", 10), ("GET_EDID", 11), ("DMABUF_SCANOUT2", 12)] := by rfl

/-! ### flag and feature bits -/
theorem header_flags_match_spec : Gen.Flags.VhostUserHeaderFlag.table = Spec.Flags.headerFlags := by rfl
theorem virtio_features_match_spec : Gen.Flags.VhostUserVirtioFeatures.table = Spec.Flags.virtioFeatures := by rfl
theorem protocol_features_match_spec : Gen.Flags.VhostUserProtocolFeatures.table = Spec.Flags.protocolFeatures := by rfl
theorem vring_addr_flags_match_spec : Gen.Flags.VhostUserVringAddrFlags.table = Spec.Flags.vringAddrFlags := by rfl
theorem config_flags_match_spec : Gen.Flags.VhostUserConfigFlags.table = Spec.Flags.configFlags := by rfl
theorem mmap_flags_match_spec : Gen.Flags.VhostUserMMapFlags.table = Spec.Flags.mmapFlags := by rfl
theorem gpu_header_flags_match_spec : Gen.Flags.VhostUserGpuHeaderFlag.table = Spec.Flags.gpuHeaderFlags := by rfl

/-! ### constants -/
theorem max_msg_size : Gen.Consts.MAX_MSG_SIZE = 4096 := by rfl
theorem max_attached_fds : Gen.Consts.MAX_ATTACHED_FD_ENTRIES = 32 := by rfl
theorem config_window : Gen.Consts.VHOST_USER_CONFIG_SIZE = 0x1000 := by rfl

/-! ### struct layouts: size, alignment and every field offset equal the specification's -/
def specStructs : List String := Spec.layouts.map (·.1)

theorem layout_matches_spec : ∀ nm ∈ specStructs, layoutByName Gen.Layout.structs nm = Spec.layoutOf nm := by
  decide +kernel

/-- the 12-byte header: request at 0, flags at 4, size at 8 -/
theorem header_layout : (layoutByName Gen.Layout.structs "VhostUserMsgHeader").map (·.size) = some 12 ∧
    (layoutByName Gen.Layout.structs "VhostUserGpuMsgHeader").map (·.size) = some 12 := by
  rw [layout_matches_spec _ (by decide +kernel), layout_matches_spec _ (by decide +kernel)]; decide +kernel

/-! ### header flag algebra -/
open Model.BackendSrv (hdrNewFlags replyHdr encHdr Hdr)

/-- `VhostUserMsgHeader::new(code, flags, size)`: version 1, only REPLY/NEED_REPLY survive — for all 2^32 flag words -/
theorem hdr_new_version_and_flags (flags : Nat) :
    hdrNewFlags flags % 4 = 1 ∧ hdrNewFlags flags < 16 ∧
    (hdrNewFlags flags).testBit 2 = flags.testBit 2 ∧ (hdrNewFlags flags).testBit 3 = flags.testBit 3 := by
  unfold hdrNewFlags
  refine ⟨?_, Nat.or_lt_two_pow (n := 4) (Nat.lt_of_le_of_lt Nat.and_le_right (by decide)) (by decide), ?_, ?_⟩
  · rw [← Nat.and_two_pow_sub_one_eq_mod _ 2, Nat.and_or_distrib_right, Nat.and_assoc]; simp
  · simp [Nat.testBit_or, Nat.testBit_and, show Nat.testBit 12 2 = true from by decide, show Nat.testBit 1 2 = false from by decide]
  · simp [Nat.testBit_or, Nat.testBit_and, show Nat.testBit 12 3 = true from by decide, show Nat.testBit 1 3 = false from by decide]

/-- every reply/ack header the request server writes: REPLY set, NEED_REPLY clear, version 1 -/
theorem reply_header_flags : hdrNewFlags 4 = 5 := by decide

/-- request headers of the frontend: version 1, NEED_REPLY iff the caller asked for it, never REPLY unless asked -/
theorem request_header_flags (s : Model.Frontend.FSt) :
    Model.Frontend.reqFlags s % 4 = 1 ∧ Model.Frontend.reqFlags s < 16 ∧
    (Model.Frontend.reqFlags s).testBit 3 = s.hdrFlags.testBit 3 := by
  have h := hdr_new_version_and_flags (s.hdrFlags ||| 1)
  refine ⟨h.1, h.2.1, ?_⟩
  unfold Model.Frontend.reqFlags
  rw [h.2.2.2]
  simp [Nat.testBit_or, show Nat.testBit 1 3 = false from by decide]

/-! ### little-endian fields -/
theorem field_roundtrip (n v : Nat) (h : v < 256 ^ n) : leVal (leBytes n v) = v := leVal_leBytes n v h
theorem bytes_roundtrip (bs : Bytes) : leBytes bs.length (leVal bs) = bs := leBytes_leVal bs

/-- encoded header fields sit at offsets 0, 4, 8 -/
theorem encHdr_fields (c f s : Nat) (hc : c < 2^32) (hf : f < 2^32) (hs : s < 2^32) :
    (encHdr c f s).length = 12 ∧ leVal ((encHdr c f s).take 4) = c ∧ leVal (((encHdr c f s).drop 4).take 4) = f ∧
    leVal (((encHdr c f s).drop 8).take 4) = s := by
  have l4 (v : Nat) : (leBytes 4 v).length = 4 := leBytes_length 4 v
  have v4 (v : Nat) (h : v < 2^32) : leVal (leBytes 4 v) = v := leVal_leBytes 4 v h
  unfold encHdr
  refine ⟨by simp, ?_, ?_, ?_⟩
  · rw [List.append_assoc, List.take_left' (l4 c), v4 c hc]
  · rw [List.append_assoc, List.drop_left' (l4 c), List.take_left' (l4 f), v4 f hf]
  · rw [List.drop_left' (by simp), List.take_of_length_le (by simp), v4 s hs]

example : Spec.layoutOf "VhostUserVringAddr" = some ⟨40, 1, [("index", 0, 4), ("flags", 4, 4), ("descriptor", 8, 8),
    ("used", 16, 8), ("available", 24, 8), ("log", 32, 8)]⟩ := by decide +kernel

end Props.C01
