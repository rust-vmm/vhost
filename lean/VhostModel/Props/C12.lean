import VhostModel.Spec.KickDelivery
import VhostModel.Model.Worker
import VhostModel.Lemmas.WorkerLive

/-!
# C12 — no lost or post-stop kick dispatch under any interleaving

`Model.Worker` is the small-step system of the worker thread (`wait → woken → [ready-check] → readKick →
dispatch`), the control thread (`send m`, then the segments `stateChange → [ready] → epollUpdate → [drop] → reply`
of SET_VRING_ENABLE 0/1, RESET_DEVICE, GET_VRING_BASE, SET_VRING_KICK with a fresh descriptor (`restart`) and
SET_VRING_KICK with the no-descriptor flag (`nofd`)) and the guest (`kick d`), with atomic
steps = code segments between hold points; `Cfg.pinned` is the code as pinned, `Cfg.repaired` has
`fix-c12-lost-kick`, `fix-c12-stale-eagain`, `fix-c12-stopped-dispatch`; `Cfg.nofdMutant` is the repaired code with
the guard of `set_vring_kick` weakened from `vring_needs_init` (`!ready && kick.is_some()`) to `!ready` — a mutation,
not a state of the tree, kept to show what the guard is for.  A *schedule* is any list of labels
accepted by `step` from `init cfg` (a started, enabled ring with descriptor 0 registered).  `Spec.KickDelivery`
states P1 (`NoDispatchAfterReply`) and P2 (`NoLostWakeup`) on the history the run produces.

## The intended theorems are false of the faithful model

`no_dispatch_after_reply : ∀ schedule, NoDispatchAfterReply history` and `no_lost_kick : ∀ schedule,
NoLostWakeup history` do **not** hold.  Proved instead:

* `dispatch_after_reply_counterexample` — the enabled-check and the dispatch are not atomic
  (`kick · wait · check · readKick(enabled) · send disable · state · epoll · reply · dispatch`); holds for the
  pinned **and** the repaired configuration (the window itself needs a redesign: known finding F-C12-window);
* `lost_kick_counterexample` (pinned) — `read_kick` consumes the counter before it looks at `enabled`
  (`kick · wait · send disable · state · epoll · reply · check · readKick`: consumed, no handler call);
* `dispatch_after_stop_counterexample` (pinned) — after GET_VRING_BASE `read_kick` finds no descriptor and
  reports `enabled`: the handler is entered after the reply;
* `stale_event_reads_new_fd_counterexample` (pinned) — an event returned for the previous kick descriptor is served
  after stop/restart by reading the *new* descriptor, whose counter is 0: `EAGAIN`, the worker thread ends;
* each of the last three is shown to be removed by its repair (`…_repaired`);
* `nofd_kick_marks_ready_counterexample` (mutated guard, otherwise repaired) — a descriptor-less SET_VRING_KICK after
  GET_VRING_BASE sets `ready` again while the ring has no kick descriptor; an event reported before the stop then
  passes the ready-check *after* both replies and the handler is entered in the forbidden period although no call
  had been granted before the stop (`rdStale = chkStale = false`: not the known window).  With the real guard the
  same messages leave `ready` alone (`nofd_kick_marks_ready_counterexample_repaired`).

## What does hold, for ALL schedules (invariants by induction over the label list)

Each is read off one of three statements about a state in which the invariants hold (`Lemmas.WorkerLive.Good`), one per
kind of history entry: `at_dispatch`, `at_drop`, `alive`.

* `no_dispatch_after_reply_partial` — any configuration: if every handler entry of the run had its `readKick`
  after the last disabling state change that preceded the entry (ghost flag `rdStale = false`), no handler entry
  lies in the forbidden period of a SET_VRING_ENABLE(0)/RESET_DEVICE.  Equivalently
  (`dispatch_after_disable_reply_only_through_window`): every handler entry in such a period is one whose grant
  was overtaken by the state change — the check→dispatch window is the *only* way to violate P1 for disable/reset;
* `no_dispatch_after_stop_partial` — with `fix-c12-stopped-dispatch` and the real guard of `set_vring_kick`
  (`nofdStarts = false`): likewise for GET_VRING_BASE with the ready-check in place of `readKick` (`chkStale`);
  `dispatch_after_stop_reply_only_through_window` is the "only way" form;
* `stopnf_no_dispatch_after_stop_partial` — the same, spelt out for descriptor-less SET_VRING_KICKs: after the reply of
  a GET_VRING_BASE, however many `nofd` messages (or anything else that is not the begin of a restart) follow, a
  handler entry is one whose ready-check preceded the stop (`forbS_open_until_restart`: such messages do not close the
  forbidden period);
* `no_lost_kick_partial` — any configuration: a wake-up is consumed without a handler call only if a disabling
  state change landed between `woken` and `readKick`, or the worker was woken while the unregistration that follows
  such a state change was still pending (ghost flag `clean = false`); so a run in which that never happens loses
  no wake-up;
* `no_lost_wakeup_repaired` — with `fix-c12-lost-kick` and `fix-c12-stale-eagain`, P2's safety part holds for every
  schedule outright.

The liveness half of P2 ("eventually") needs scheduler fairness and is `Props/C12Live.lean`; the sequential version is
C11's `delivered_on_activation`.  Modelled, not verified: atomicity of the segments (ring
lock), level-triggered epoll, eventfd counters, non-blocking kick descriptors, one ring / one worker.
-/

namespace Props.C12
open Model.Worker Spec.KickDelivery Lemmas.Worker Lemmas.WorkerLive

/-- the states reachable under configuration `cfg`: after some schedule -/
def Reach (cfg : Cfg) (s : St) : Prop := ∃ ls : List Lbl, run (init cfg) ls = some s

theorem Reach.good {cfg : Cfg} {s : St} (h : Reach cfg s) : Good cfg s :=
  let ⟨_, hls⟩ := h
  isRun.inv (fun _ _ _ h hs => good_step h hs) (good_init cfg) hls

/-! ## the history against the Spec, up to the windows

`period pre` is the state of the Spec's monitor after the history `pre`.  The statements are per entry of the history; the
theorems "for all schedules" below ask the side condition of the whole ghost log. -/

section
variable {cfg : Cfg} {s : St}

/-- At every handler entry of the history the ghost log holds a record with the periods the entry fell into; inside a
disable/reset period its grant had been overtaken by the state change, and inside a stop period (repaired dispatch path,
real guard of `set_vring_kick`) its ready-check had been. -/
theorem at_dispatch (h : Good cfg s) {pre post : List Ev} (hsplit : s.trace = pre ++ Ev.dispatch :: post) :
    ∃ rs cs, GRec.disp (period pre).forbD (period pre).forbS rs cs ∈ s.glog ∧
      ((period pre).forbD = true → rs = true) ∧
      (cfg.fixStopped = true → cfg.nofdStarts = false → (period pre).forbS = true → cs = true) := by
  obtain ⟨rs, cs, hm⟩ := h.link.disp pre post hsplit
  refine ⟨rs, cs, hm, h.inv.a.g _ _ _ _ hm, fun hf hn => ?_⟩
  rw [← h.link.cfg_eq] at hf hn
  exact (h.inv.b hn).g _ _ _ _ hm hf

/-- a wake-up consumed without a handler call: only without `fix-c12-lost-kick`, and never a clean one -/
theorem at_drop (h : Good cfg s) (hm : Ev.consumed false ∈ s.trace) :
    cfg.fixLost = false ∧ GRec.dropped false ∈ s.glog := by
  obtain ⟨⟨c, hc⟩, hf⟩ := h.link.drop hm
  exact ⟨hf, h.inv.c.g c hc ▸ hc⟩

/-- with `fix-c12-stale-eagain` the worker has not ended -/
theorem alive (h : Good cfg s) (hE : cfg.fixEagain = true) : s.wpc ≠ .dead ∧ Ev.workerExit ∉ s.trace :=
  have hx : Ev.workerExit ∉ s.trace := fun hm => Bool.false_ne_true ((h.link.exit hm).symm.trans hE)
  ⟨fun hd => hx (h.dead hd), hx⟩

end

/-! ## counterexamples (schedules exhibited; checked by evaluation) -/

def schedWindow : List Lbl := [.kick 0, .w, .w, .w, .send .disable, .c, .c, .c, .w]
def schedLost : List Lbl := [.kick 0, .w, .send .disable, .c, .c, .c, .w, .w]
def schedStop : List Lbl := [.kick 0, .w, .send .stop, .c, .c, .c, .c, .w, .w, .w]
def schedStale : List Lbl :=
  [.kick 0, .w, .send .stop, .c, .c, .c, .c, .send .restart, .c, .c, .c, .c, .w, .w]

/-- P1 is false of the pinned code: the handler is entered after the reply to SET_VRING_ENABLE(0). -/
theorem dispatch_after_reply_counterexample :
    (run (init Cfg.pinned) schedWindow).map (fun s => dispatchAfterReply s.trace) = some true ∧
    (run (init Cfg.pinned) schedWindow).map (fun s => s.trace) =
      some [.kick 0, .consumed true, .start .disable, .reply .disable, .dispatch] := by decide

/-- … and of the repaired code as well: the window between the enabled-check and the dispatch remains. -/
theorem dispatch_after_reply_counterexample_repaired :
    (run (init Cfg.repaired) schedWindow).map (fun s => dispatchAfterReply s.trace) = some true := by decide

/-- P2 is false of the pinned code: the wake-up is consumed, the handler is never called, the counter is 0. -/
theorem lost_kick_counterexample :
    (run (init Cfg.pinned) schedLost).map (fun s => (lostWakeup s.trace, s.cnt 0, s.wpc)) = some (true, 0, .wait) ∧
    (run (init Cfg.pinned) schedLost).map (fun s => s.trace) =
      some [.kick 0, .start .disable, .reply .disable, .consumed false] := by decide

/-- with `fix-c12-lost-kick` the same schedule keeps the kick in the eventfd -/
theorem lost_kick_counterexample_repaired :
    (run (init Cfg.repaired) schedLost).map (fun s => (lostWakeup s.trace, s.cnt 0)) = some (false, 1) := by decide

/-- P1 is false of the pinned code for GET_VRING_BASE: no descriptor ⇒ `enabled` is reported ⇒ handler entered
after the reply. -/
theorem dispatch_after_stop_counterexample :
    (run (init Cfg.pinned) schedStop).map (fun s => dispatchAfterReply s.trace) = some true ∧
    (run (init Cfg.pinned) schedStop).map (fun s => s.trace) =
      some [.kick 0, .start .stop, .reply .stop, .dispatch] := by decide

/-- with `fix-c12-stopped-dispatch` the stale event of a stopped ring is dropped before `read_kick` -/
theorem dispatch_after_stop_counterexample_repaired :
    (run (init Cfg.repaired) schedStop).map (fun s => dispatchAfterReply s.trace) = some false := by decide

/-- A stale event makes the worker read the replaced descriptor: `EAGAIN`, the worker thread ends (pinned). -/
theorem stale_event_reads_new_fd_counterexample :
    (run (init Cfg.pinned) schedStale).map (fun s => (s.wpc, s.kick, s.cnt 1, lostWakeup s.trace)) =
      some (.dead, some 1, 0, true) := by decide

/-- with `fix-c12-stale-eagain` the worker survives the stale read -/
theorem stale_event_reads_new_fd_counterexample_repaired :
    (run (init Cfg.repaired) schedStale).map (fun s => (s.wpc, lostWakeup s.trace)) = some (.wait, false) := by decide

/-! ## what holds for all schedules -/

/-- Every handler entry that lies in the forbidden period of a disable/reset is one whose grant (`readKick` returning
`enabled`) was overtaken by the disabling state change: the check→dispatch window is the only way. -/
theorem dispatch_after_disable_reply_only_through_window (cfg : Cfg) (s : St) (h : Reach cfg s)
    (fs rs cs : Bool) (hm : GRec.disp true fs rs cs ∈ s.glog) : rs = true :=
  h.good.inv.a.g true fs rs cs hm rfl

/-- **P1, disable/reset half, partial.**  For every schedule in which each handler entry's `readKick` came after the
last disabling state change before that entry, no handler entry follows the reply of a SET_VRING_ENABLE(0) or
RESET_DEVICE before the next SET_VRING_ENABLE(1) begins. -/
theorem no_dispatch_after_reply_partial (cfg : Cfg) (s : St) (h : Reach cfg s)
    (hside : ∀ fd fs rs cs, GRec.disp fd fs rs cs ∈ s.glog → rs = false) :
    ∀ pre post, s.trace = pre ++ Ev.dispatch :: post → (period pre).forbD = false := by
  intro pre post hsplit
  obtain ⟨rs, cs, hm, hd, -⟩ := at_dispatch h.good hsplit
  exact Bool.eq_false_iff.2 fun hf => Bool.false_ne_true ((hside _ _ _ _ hm).symm.trans (hd hf))

/-- the side condition is satisfiable by a schedule that really exercises the worker and a disable -/
example : (run (init Cfg.pinned) [.kick 0, .w, .w, .w, .w, .send .disable, .c, .c, .c, .kick 0, .w]).map
    (fun s => (s.glog, dispatchAfterReply s.trace)) = some ([.disp false false false false], false) := by decide

/-- Every handler entry in the forbidden period of a GET_VRING_BASE is one whose ready-check was overtaken by the
stopping state change (repaired dispatch path, real guard of `set_vring_kick`): the known window is the only way,
whatever messages — descriptor-less SET_VRING_KICKs included — the schedule contains. -/
theorem dispatch_after_stop_reply_only_through_window (cfg : Cfg) (hcfg : cfg.fixStopped = true)
    (hn : cfg.nofdStarts = false) (s : St) (h : Reach cfg s)
    (fd rs cs : Bool) (hm : GRec.disp fd true rs cs ∈ s.glog) : cs = true :=
  have g := h.good
  (g.inv.b (g.link.cfg_eq ▸ hn)).g fd true rs cs hm (g.link.cfg_eq ▸ hcfg) rfl

/-- **P1, stop half, partial** (needs `fix-c12-stopped-dispatch`): for every schedule in which each handler entry's
ready-check came after the last stopping state change before it, no handler entry follows the reply of GET_VRING_BASE
before the restarting SET_VRING_KICK begins. -/
theorem no_dispatch_after_stop_partial (cfg : Cfg) (hcfg : cfg.fixStopped = true) (hn : cfg.nofdStarts = false)
    (s : St) (h : Reach cfg s)
    (hside : ∀ fd fs rs cs, GRec.disp fd fs rs cs ∈ s.glog → cs = false) :
    ∀ pre post, s.trace = pre ++ Ev.dispatch :: post → (period pre).forbS = false := by
  intro pre post hsplit
  obtain ⟨rs, cs, hm, -, hc⟩ := at_dispatch h.good hsplit
  exact Bool.eq_false_iff.2 fun hf => Bool.false_ne_true ((hside _ _ _ _ hm).symm.trans (hc hcfg hn hf))

example : (run (init Cfg.repaired) [.kick 0, .w, .send .stop, .c, .c, .c, .c, .w, .w]).map
    (fun s => (s.glog, dispatchAfterReply s.trace, s.wpc)) = some ([], false, .wait) := by decide

/-- both halves together: P1 for the schedules that avoid both windows -/
theorem no_dispatch_after_reply_partial_full (cfg : Cfg) (hcfg : cfg.fixStopped = true) (hn : cfg.nofdStarts = false)
    (s : St) (h : Reach cfg s)
    (hside : ∀ fd fs rs cs, GRec.disp fd fs rs cs ∈ s.glog → rs = false ∧ cs = false) :
    NoDispatchAfterReply s.trace := by
  intro pre post hsplit
  exact ⟨no_dispatch_after_reply_partial cfg s h (fun fd fs rs cs hm => (hside fd fs rs cs hm).1) pre post hsplit,
    no_dispatch_after_stop_partial cfg hcfg hn s h (fun fd fs rs cs hm => (hside fd fs rs cs hm).2) pre post hsplit⟩

/-! ### descriptor-less SET_VRING_KICK (scenario `stopnf`) -/

theorem forbS_next_of_ne_restart (p : Period) (e : Ev) (hp : p.forbS = true) (he : e ≠ .start .restart) :
    (p.next e).forbS = true := by
  cases e with
  | start m => rw [forbS_start, hp, Bool.true_and, decide_eq_true_iff]; exact fun h => he (h ▸ rfl)
  | reply m => rw [forbS_reply, hp]; rfl
  | _ => exact hp

theorem forbS_foldl_of_no_restart (mid : List Ev) (p : Period) (hp : p.forbS = true)
    (h : ∀ e, e ∈ mid → e ≠ .start .restart) : (mid.foldl Period.next p).forbS = true := by
  induction mid generalizing p with
  | nil => simpa using hp
  | cons e mid ih =>
    simp only [List.foldl_cons]
    exact ih _ (forbS_next_of_ne_restart p e hp (h e (by simp))) (fun e' he' => h e' (by simp [he']))

/-- The forbidden period opened by the reply of a GET_VRING_BASE stays open until a restart *begins*: no other event —
in particular neither the begin nor the reply of a descriptor-less SET_VRING_KICK — closes it. -/
theorem forbS_open_until_restart (pre1 mid : List Ev) (h : ∀ e, e ∈ mid → e ≠ .start .restart) :
    (period (pre1 ++ Ev.reply .stop :: mid)).forbS = true := by
  unfold period
  rw [List.foldl_append, List.foldl_cons]
  exact forbS_foldl_of_no_restart mid _ (by simp [Period.next, CMsg.disables]) h

/-- **P1 for scenario `stopnf`, partial.**  Repaired dispatch path and the real guard of `set_vring_kick`: for every
schedule in which each handler entry's ready-check came after the last stopping state change before it, no handler entry
follows the reply of a GET_VRING_BASE unless a SET_VRING_KICK *with a descriptor* began in between — descriptor-less
SET_VRING_KICKs (begun, answered, any number of them) do not re-admit the handler. -/
theorem stopnf_no_dispatch_after_stop_partial (cfg : Cfg) (hcfg : cfg.fixStopped = true) (hn : cfg.nofdStarts = false)
    (s : St) (h : Reach cfg s)
    (hside : ∀ fd fs rs cs, GRec.disp fd fs rs cs ∈ s.glog → cs = false)
    (pre1 mid post : List Ev) (hsplit : s.trace = (pre1 ++ Ev.reply .stop :: mid) ++ Ev.dispatch :: post) :
    ∃ e, e ∈ mid ∧ e = Ev.start .restart := by
  have hno := no_dispatch_after_stop_partial cfg hcfg hn s h hside _ post hsplit
  by_cases hex : ∃ e, e ∈ mid ∧ e = Ev.start .restart
  · exact hex
  · have : ∀ e, e ∈ mid → e ≠ Ev.start .restart := fun e he heq => hex ⟨e, he, heq⟩
    rw [forbS_open_until_restart pre1 mid this] at hno
    cases hno

def schedNofd : List Lbl := [.kick 0, .w, .send .stop, .c, .c, .c, .c, .send .nofd, .c, .c, .c, .w, .w, .w]
def schedNofdMutant : List Lbl := [.kick 0, .w, .send .stop, .c, .c, .c, .c, .send .nofd, .c, .c, .c, .c, .w, .w, .w]

/-- the hypotheses are satisfiable: the stop/no-descriptor chain on the repaired code, the event reported before the stop
is dropped at the ready-check; a later restart and kick are served (one handler entry, outside every period) -/
example : (run (init Cfg.repaired) (schedNofd ++ [.send .restart, .c, .c, .c, .c, .kick 1, .w, .w, .w, .w])).map
    (fun s => (s.glog, dispatchAfterReply s.trace, s.trace)) =
    some ([.disp false false false false], false,
      [.kick 0, .start .stop, .reply .stop, .start .nofd, .reply .nofd, .start .restart, .reply .restart, .kick 1,
       .consumed true, .dispatch]) := by decide

/-- With the guard of `set_vring_kick` mutated to `!ready`, P1 is false in a new way: worker woken by the ring's event,
GET_VRING_BASE answered, descriptor-less SET_VRING_KICK answered (it set `ready`), then ready-check, `read_kick` (no
descriptor: reports `enabled`) and the handler entry — inside the forbidden period of the stop, with a ready-check and a
grant that both came *after* the stop (`rdStale = chkStale = false`): not the check→dispatch window. -/
theorem nofd_kick_marks_ready_counterexample :
    (run (init Cfg.nofdMutant) schedNofdMutant).map (fun s => (dispatchAfterReply s.trace, s.glog, s.ready, s.kick)) =
      some (true, [.disp false true false false], true, none) ∧
    (run (init Cfg.nofdMutant) schedNofdMutant).map (fun s => s.trace) =
      some [.kick 0, .start .stop, .reply .stop, .start .nofd, .reply .nofd, .dispatch] := by decide

/-- with the real guard (`vring_needs_init`) the descriptor-less message leaves the ring stopped and the stale event is
dropped at the ready-check -/
theorem nofd_kick_marks_ready_counterexample_repaired :
    (run (init Cfg.repaired) schedNofd).map (fun s => (dispatchAfterReply s.trace, s.glog, s.ready, s.kick, s.wpc)) =
      some (false, [], false, none, .wait) := by decide

/-- A wake-up consumed without a handler call is always one that was not `clean`: a disabling state change landed
between `woken` and `readKick`, or the worker was woken while the unregistration after such a change was pending. -/
theorem lost_wakeup_only_through_disable_window (cfg : Cfg) (s : St) (h : Reach cfg s) (c : Bool)
    (hm : GRec.dropped c ∈ s.glog) : c = false :=
  h.good.inv.c.g c hm

/-- **P2 (safety part), partial.**  For every schedule in which no disable lands between `woken` and `readKick` (and the
worker is not woken during a pending unregistration) — i.e. every consuming read is `clean` — no wake-up is consumed
without being processed. -/
theorem no_lost_kick_partial (cfg : Cfg) (s : St) (h : Reach cfg s)
    (hside : ∀ c, GRec.dropped c ∈ s.glog → c = true) : Ev.consumed false ∉ s.trace :=
  fun hm => Bool.false_ne_true (hside _ (at_drop h.good hm).2)

example : (run (init Cfg.pinned) [.kick 0, .send .disable, .c, .c, .c, .w, .send .enable, .c, .c, .c, .w, .w, .w, .w]).map
    (fun s => (s.glog, lostWakeup s.trace, s.trace.contains .dispatch)) = some ([.disp false false false false], false, true) := by
  decide

/-- **P2 (safety part) for the repaired code**: with `fix-c12-lost-kick` and `fix-c12-stale-eagain` no schedule
consumes a wake-up without processing it, and the worker never ends. -/
theorem no_lost_wakeup_repaired (cfg : Cfg) (h1 : cfg.fixLost = true) (h2 : cfg.fixEagain = true) (s : St)
    (h : Reach cfg s) : NoLostWakeup s.trace :=
  ⟨fun hm => Bool.false_ne_true ((at_drop h.good hm).1.symm.trans h1), (alive h.good h2).2⟩

theorem forall_split_cons {α : Type} {e x : α} {tr : List α} {Q : List α → Prop} :
    (∀ pre post, e :: tr = pre ++ x :: post → Q pre) ↔
      (e = x → Q []) ∧ ∀ pre post, tr = pre ++ x :: post → Q (e :: pre) := by
  constructor
  · exact fun h => ⟨fun he => h [] tr (he ▸ rfl), fun pre post ht => h (e :: pre) post (ht ▸ rfl)⟩
  · rintro ⟨h1, h2⟩ pre post hs
    cases pre with
    | nil => cases hs; exact h1 rfl
    | cons a pre => cases hs; exact h2 pre post rfl

/-- the executable judge of P1 used on the implementation's histories agrees with the declarative clause -/
theorem dispatchAfterReplyFrom_false_iff (tr : List Ev) (p : Period) :
    dispatchAfterReplyFrom p tr = false ↔
      ∀ pre post, tr = pre ++ Ev.dispatch :: post →
        (pre.foldl Period.next p).forbD = false ∧ (pre.foldl Period.next p).forbS = false := by
  induction tr generalizing p with
  | nil => exact ⟨fun _ pre post h => (by cases pre <;> cases h), fun _ => rfl⟩
  | cons e tr ih =>
    rw [forall_split_cons]
    by_cases he : e = Ev.dispatch
    · subst he
      simp only [dispatchAfterReplyFrom, Bool.or_eq_false_iff, ih, List.foldl_cons, Period.next, true_implies,
        List.foldl_nil]
    · have hstep : dispatchAfterReplyFrom p (e :: tr) = dispatchAfterReplyFrom (p.next e) tr := by
        cases e <;> first | rfl | exact absurd rfl he
      simp only [hstep, ih, he, false_implies, true_and, List.foldl_cons]

theorem dispatchAfterReply_false_iff (tr : List Ev) : dispatchAfterReply tr = false ↔ NoDispatchAfterReply tr :=
  dispatchAfterReplyFrom_false_iff tr ⟨false, false⟩

end Props.C12
