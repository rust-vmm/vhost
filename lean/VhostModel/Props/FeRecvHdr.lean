import VhostModel.Lemmas.FeRecvBase

/-!
# Translator tie: the header accessors of `message.rs` (`get_size`, `is_reply`, `is_need_reply`, `is_reply_for`)

What the translated accessors of `VhostUserMsgHeader` (`Gen.FeRecv.Hdr`) evaluate to on a 12-byte header, in
`Lemmas.FeRecv.stdEnv`; `is_reply_for` is `Model.Frontend.isReplyFor`.  The readers (`Lemmas/FeRecvReaders`) are run on these.
-/
namespace Props.FeRecv
open ImpFe Lemmas.FeRecv
open Imp (Var)
open Model.Stream (Chooser)
open Model.Frontend (parseHdr isReplyFor)
open Model.BackendSrv (bitSet)

variable {σ : Type} (ch : Chooser σ) (cl : Bool) (fr : FFrame) (sf : Self)

theorem get_size_matches (v : Var) (h : (fr.b v.id).length = 12) :
    evalX (stdEnv ch cl) fr sf (Gen.FeRecv.Hdr.getSize v) = some (parseHdr (fr.b v.id)).size := by
  simp [Gen.FeRecv.Hdr.getSize, evalX, stdEnv, (g_hdr _ h).2.2]

theorem is_reply_matches (v : Var) (h : (fr.b v.id).length = 12) :
    evalC (stdEnv ch cl) fr sf (Gen.FeRecv.Hdr.isReply v) = some (parseHdr (fr.b v.id)).isReply := by
  have := Lemmas.Helpers.and_two_pow_bne_zero (parseHdr (fr.b v.id)).flags 2
  simp only [Gen.FeRecv.Hdr.isReply, evalC, evalX, stdEnv, (g_hdr _ h).2.1, Model.BackendSrv.Hdr.isReply, bitSet]
  rw [← this]
  exact congrArg some (ne_zero_dec _)

theorem is_need_reply_matches (v : Var) (h : (fr.b v.id).length = 12) :
    evalC (stdEnv ch cl) fr sf (Gen.FeRecv.Hdr.isNeedReply v) = some (parseHdr (fr.b v.id)).needReply := by
  have := Lemmas.Helpers.and_two_pow_bne_zero (parseHdr (fr.b v.id)).flags 3
  simp only [Gen.FeRecv.Hdr.isNeedReply, evalC, evalX, stdEnv, (g_hdr _ h).2.1, Model.BackendSrv.Hdr.needReply, bitSet]
  rw [← this]
  exact congrArg some (ne_zero_dec _)

/-- **`is_reply_for`** (message.rs), translated: both codes are values of `FrontendReq`, the reply has REPLY, the request
has not, the codes are equal — `Model.Frontend.isReplyFor` on the parsed headers -/
theorem is_reply_for_matches (a b : Var) (ha : (fr.b a.id).length = 12) (hb : (fr.b b.id).length = 12) :
    evalC (stdEnv ch cl) fr sf (Gen.FeRecv.Hdr.isReplyFor a b) = some (isReplyFor (parseHdr (fr.b a.id)) (parseHdr (fr.b b.id))) := by
  unfold Gen.FeRecv.Hdr.isReplyFor
  simp only [evalC, evalX, is_reply_matches ch cl fr sf a ha, is_reply_matches ch cl fr sf b hb, Option.map_some]
  simp only [stdEnv, (g_hdr _ ha).1, (g_hdr _ hb).1, isReplyFor, eq_dec]
  -- both sides are Boolean terms over these four atoms
  cases (Gen.Codes.FrontendReq.table.map (·.2)).contains (parseHdr (fr.b a.id)).code <;>
    cases (Gen.Codes.FrontendReq.table.map (·.2)).contains (parseHdr (fr.b b.id)).code <;>
    cases (parseHdr (fr.b a.id)).isReply <;> cases (parseHdr (fr.b b.id)).isReply <;> rfl

end Props.FeRecv
