import VhostModel.Lemmas.RoundtripOps
import VhostModel.Props.C02Reach
import VhostModel.Props.C03
/-!
# C03 — end-to-end composition: the API call returns exactly what the handler produced, or an error in bounded time

Composition of the two endpoint models over the wire, in both directions: `Model.Frontend.request` → `wire` →
`Model.BackendSrv.step` (any chooser) → the bytes and descriptors the server writes (`replyCells`) →
`Model.Frontend.call`'s reader (`recv`, any other chooser) → `finish`.  For **all** frontend states `s`, server states
`bst` with `InStep s bst`, operations, argument values, handler outcomes `h`, files and choosers of both directions:

* `roundtrip_ok` — the call awaits a reply or acknowledgement and `Usable op h`: the call returns `expectedValue op h file`
  (the handler's value as the operation defines it, the *same* file), the frontend state becomes `feAfter s' op h`, the
  reply is consumed entirely — whether or not the connection is closed afterwards;
* `roundtrip_fail` — the call awaits and `h` is not usable (handler failed, wrong-length configuration data, missing file,
  non-zero status, queue number beyond the library's limit): the frontend state is not advanced and the call returns an
  error, or — only while the stream is still open and the server wrote nothing, in which case its `handle_request`
  returned the handler's error and the serve loop closes the connection — it is still waiting.  Corollaries:
  `roundtrip_fail_bounded` (connection closed whenever `handle_request` failed ⟹ an error, never `blocked`, never
  success), `roundtrip_fail_inband` (something was written — negative acknowledgement, payload-less GET_CONFIG reply,
  status word, reply without file ⟹ an error even with the connection open), `roundtrip_fail_not_ok`;
* `unawaited_ok` — nothing is awaited (no REPLY_ACK, or no NEED_REPLY): `Ok(())` without touching the stream, any
  stream, no hypothesis on the server; `unawaited_server_silent`: the server then writes nothing;
* `instep_preserved`, `session_roundtrip` — `InStep` is an invariant of sessions of usable turns, every call of such a
  session returns `expectedValue`.

Hypotheses (all decidable): `ArgsInRange op`, `ServerAccepts bst s req` (from `Props.C02Reach`; `ServerAccepts` excludes
`set_log_fd` and `set_log_base` without region, which never reach a handler: `Props.C02Reach.set_log_fd_counterexample`,
`set_log_base_plain_counterexample`; `not_accepted_*` below), `BufLen op` (`get_config`: the model's fourth argument is
the length of the caller's buffer) and `InStep s bst`.

`expectedValue` vs the spec driver's sampled decision (`SpecDrv.Fe.expectedRet` on `Spec.Proto.owed`): the same mapping
per operation; stated here on the handler's outcome instead of the reply bytes, hence with the truncations of the wire
explicit (`h.v % 2^64`, `% 2^32` for the ring base and the region count; GET_PROTOCOL_FEATURES: the server adds REPLY_ACK
— `h.v ||| 8` — and the frontend masks with the protocol features it knows, `&&& (2^22 - 1)`).  Decided here and left open
by the spec driver: `set_device_state_fd` / `check_device_state` status words, and `get_queue_num` beyond 0x8000
(unusable: the frontend answers `InvalidMessage`).

**Finding** (`features_flip_counterexample`): `InStep` is *not* preserved by a GET_FEATURES whose handler drops
VHOST_USER_F_PROTOCOL_FEATURES (bit 30) after REPLY_ACK was acknowledged: the server stops acknowledging
(`update_reply_ack_flag`), the frontend keeps waiting for acknowledgements — the next acknowledged set-operation succeeds
on the server, which stays connected, and the caller waits indefinitely.  `instep_preserved` therefore assumes
`FeaturesStable` (the spec driver excludes the same sessions as "outside what the properties quantify over").
-/
namespace Props.C03Roundtrip
open Base Model.Stream Model.Msgs Model.Frontend Lemmas.Encode Lemmas.Roundtrip Lemmas.RequestInv Props.C02Reach
open Model.BackendSrv (BSt HOut Out Res Err Hdr dispatch step bitSet bodyValid replyHdr ackOf)
export Lemmas.Roundtrip (expectedValue sendState feAfter replyCells TurnSpec awaits)

/-- `h` is a success the call can return (see `Lemmas.Roundtrip.usable`) -/
abbrev Usable (op : Op) (h : HOut) : Bool := Lemmas.Roundtrip.usable op h

/-- the negotiation states of the two endpoints are in step (see `Lemmas.Roundtrip.inStep`) -/
def InStep (s : FSt) (bst : BSt) : Prop := inStep s bst = true
instance (s : FSt) (bst : BSt) : Decidable (InStep s bst) := inferInstanceAs (Decidable (_ = true))

/-- `get_config`: the fourth argument is the length of the caller's buffer -/
def bufLen (op : Op) : Bool :=
  match op.name, op.a with
  | "get_config", [_, _, _, x] => x == op.payload.length
  | _, _ => true
def BufLen (op : Op) : Prop := bufLen op = true
instance (op : Op) : Decidable (BufLen op) := inferInstanceAs (Decidable (_ = true))

/-! ## one turn, on the framed request: the case split over the operations -/

theorem turn_dispatch {σ : Type} (ch : Chooser σ) (cl : Bool) (cst : σ) (file : Fd)
    (s : FSt) (bst : BSt) (op : Op) (req : Req) (s' : FSt) (h : HOut)
    (hreq : request s op = .ok (req, s')) (hb : ArgsInRange op) (hbuf : BufLen op) (hsrv : ServerAccepts bst s req)
    (hin : InStep s bst) :
    TurnSpec ch cl s' op req h (dispatch bst (reqHdr s req) req.body (filesOf req) h) cst file := by
  obtain ⟨hs', hspf⟩ := request_state s op req s' hreq
  have hB := request_built s op req s' hreq
  obtain ⟨c, _, hcalls⟩ := call_reaches_handler s bst op req s' h hreq hb hsrv
  have hne : (dispatch bst (reqHdr s req) req.body (filesOf req) h).calls ≠ [] := by
    show (dispatch bst (reqHdr s req) req.body (if req.fds.isEmpty then none else some req.fds) h).calls ≠ []
    rw [hcalls]; simp
  obtain ⟨himpl, hgate, h18, hfl, hfds, hbody⟩ := serverAccepts_parts hsrv
  obtain ⟨arm, ha⟩ := Option.isSome_iff_exists.1 (impl_arm req.code (List.contains_iff_mem.1 himpl))
  obtain ⟨o1, o2, o4⟩ := dispatch_of_calls arm ha hne
  have hres : actInfallible arm.act = false → h.ok = false →
      (dispatch bst (reqHdr s req) req.body (filesOf req) h).res = .err .handlerErr :=
    fun hi hw => by rw [o4, actRes, hi, hw]; rfl
  obtain ⟨w1, w2⟩ := impl_code req.code (List.contains_iff_mem.1 himpl)
  obtain ⟨i1, i2, i3, i4⟩ := inStep_parts hin
  have hrh : reqHdr s' req = reqHdr s req := by rw [hs']; exact reqHdr_sendState s op req
  have hq : ReqOk (reqHdr s' req) := by rw [hrh]; exact ⟨w1, w2, hfl⟩
  have hp := fun hk => plain_op (plain_of_kind hreq hk) s' h file
  subst hs'
  clear hreq hcalls hsrv
  cases hB with
  | get_features a pl fds bad regs =>
    cases ha
    exact turn_body_simple "VhostUserU64" 8 (leBytes 8 h.v) rfl Lemmas.FeRecv.so_U64 (by omega) o1 o2
      (hres rfl) (by simp) (bvU64 _ (by simp)) rfl fin_get_features hq
  | set_features v pl fds bad regs =>
    cases ha
    have j3 : bst.replyAck = (bitSet bst.virtio 30 && bitSet bst.ackedProto 3) := by
      have := hin; simp only [InStep, inStep, Bool.and_eq_true, beq_iff_eq] at this; exact this.1.2
    exact turn_ack _ h.ok rfl (fun _ => rfl) o1 o2 (j3.symm.trans i3) rfl rfl rfl hq
  | set_log_base_plain | set_log_base_noshm => exact absurd (show (0 : Nat) = 1 from hfds) (by decide)
  | set_log_base_region base size off pl fds bad regs hp =>
    cases ha
    exact turn_body_simple "VhostUserLog" 16 (u64 size ++ u64 off) rfl Lemmas.FeRecv.so_Log (by omega) o1 o2
      (hres rfl) (by simp [u64])
      (by rw [bodyValidTy_of _ _ (by decide) (by decide)]; exact eq_of_beq hbody) rfl rfl hq
  | set_log_fd => exact absurd (show false = true from himpl) (by decide)
  | get_vring_base i pl fds bad regs hq' =>
    change decide (i < 2^32) = true at hb
    have hi := of_decide_eq_true hb
    cases ha
    exact turn_body_simple "VhostUserVringState" 8 (leBytes 4 i ++ leBytes 4 h.v) rfl Lemmas.FeRecv.so_VringState (by omega)
      (o1.trans (actOut_getVringBase bst _ h i hi)) o2 (hres rfl) (by simp)
      (bvVringState _ (by simp)) rfl (fin_get_vring_base i hi) hq
  | get_protocol_features a pl fds bad regs =>
    cases ha
    exact turn_body_simple "VhostUserU64" 8 (leBytes 8 (h.v ||| 8)) rfl Lemmas.FeRecv.so_U64 (by omega) o1 o2
      (hres rfl) (by simp) (bvU64 _ (by simp)) rfl
      fin_get_protocol_features hq
  | set_protocol_features v pl fds bad regs =>
    change decide (v < 2^64) = true at hb
    have hv := of_decide_eq_true hb
    cases ha
    have hra : (({ bst with ackedProto := v } : BSt).updateFlag).replyAck = bitSet v 3 := by
      show (bitSet bst.virtio 30 && bitSet v 3) = bitSet v 3
      rw [← i1, hspf rfl]; simp
    exact turn_ack _ h.ok rfl (fun _ => rfl)
      (o1.trans (actOut_setProtocolFeatures bst _ h v hv)) o2 hra rfl rfl rfl hq
  | get_queue_num a pl fds bad regs =>
    cases ha
    exact turn_body "VhostUserU64" 8 (leBytes 8 h.v) h.ok rfl Lemmas.FeRecv.so_U64 (by omega) o1 o2
      (hres rfl) (by simp) (fun _ => bvU64 _ (by simp))
      (fun hu => by
        have : (h.ok && decide (h.v % 2^64 ≤ 0x8000)) = true := hu
        simp only [Bool.and_eq_true] at this; exact this.1)
      (fun _ hu => fin_get_queue_num_ok hu)
      (fun hw hu => ⟨_, fin_get_queue_num_err hw hu⟩) hq
  | get_config off size cf x pl fds bad regs hv hmax =>
    change (decide (off < 2^32) && decide (size < 2^32) && decide (cf < 2^32) && pl.length == size) = true at hb
    simp only [Bool.and_eq_true, decide_eq_true_eq, beq_iff_eq] at hb
    obtain ⟨⟨⟨b1, b2⟩, b3⟩, b4⟩ := hb
    have hx : x = size := by
      have : (x == pl.length) = true := hbuf
      rw [← b4]; exact eq_of_beq this
    cases ha
    exact turn_config b1 b2 b3 hx rfl
      (by simp [reqHdr, sendState, u32, b4]; omega) (by omega) (config_valid_of hv)
      (o1.trans (actOut_getConfig bst _ h off size cf pl b1 b2 b3)) o2 hq
  | set_backend_req_fd a pl fds bad regs =>
    cases ha
    exact turn_ack bst true rfl (fun _ => rfl) o1 o2 i3 rfl rfl rfl hq
  | get_shared_object | postcopy_advise =>
    cases ha
    exact turn_bodyFiles "VhostUserEmpty" 0 [] true rfl Lemmas.FeRecv.so_Empty (by omega)
      (o1.trans (List.append_nil _).symm) o2 (fun hw => by cases hw) rfl (fun _ => rfl) (fun _ => rfl) rfl (fun _ => rfl) hq
  | get_inflight_fd ms mo nq qs pl fds bad regs =>
    change (decide (ms < 2^64) && decide (mo < 2^64) && decide (nq < 2^16) && decide (qs < 2^16)) = true at hb
    simp only [Bool.and_eq_true, decide_eq_true_eq] at hb
    obtain ⟨⟨⟨b1, b2⟩, b3⟩, b4⟩ := hb
    cases ha
    exact turn_bodyFiles "VhostUserInflight" 24
      (u64 (h.v % 2^64) ++ u64 mo ++ u16 nq ++ u16 qs ++ [0, 0, 0, 0]) h.ok rfl Lemmas.FeRecv.so_Inflight (by omega)
      (o1.trans (actOut_getInflight bst _ h ms mo nq qs b1 b2 b3 b4)) o2 (hres rfl)
      (by simp [u64, u16])
      (fun _ => inflight_reply_valid ms mo nq qs _ b1 b2 b3 b4 (Nat.mod_lt _ (by decide)) (eq_of_beq hbody))
      (fun hw => hw) rfl (fun _ => fin_get_inflight ms mo nq qs b2 b3 b4) hq
  | get_max_mem_slots a pl fds bad regs =>
    cases ha
    exact turn_body_simple "VhostUserU64" 8 (leBytes 8 h.v) rfl Lemmas.FeRecv.so_U64 (by omega) o1 o2
      (hres rfl) (by simp) (bvU64 _ (by simp)) rfl fin_get_max_mem_slots hq
  | get_shmem_config a pl fds bad regs =>
    cases ha
    exact turn_body_simple "VhostUserShMemConfig" 2056
      (leBytes 4 h.v ++ leBytes 4 0 ++ (h.b ++ List.replicate 2048 0).take 2048) rfl Lemmas.FeRecv.so_ShMem (by omega)
      (o1.trans (actOut_getShmem bst _ h)) o2 (hres rfl) (shmem_body_length _ _) rfl rfl
      fin_shmem hq
  | set_device_state_fd d p pl fds bad regs =>
    cases ha
    exact turn_device_state rfl o1 o2 hq
  | check_device_state a pl fds bad regs =>
    cases ha
    refine turn_body "VhostUserU64" 8 (leBytes 8 (if h.ok then 0 else 1)) true rfl Lemmas.FeRecv.so_U64 (by omega)
      o1 o2 (fun hw => by cases hw) (by simp) (fun _ => bvU64 _ (by simp)) (fun _ => rfl) ?_ ?_ hq
    · intro _ hu
      have hok : h.ok = true := hu
      have e : (if h.ok then (0 : Nat) else 1) = 0 := by simp [hok]
      rw [e, fin_check_device_state 0 (by omega)]; rfl
    · intro _ hu
      have hok : h.ok = false := hu
      have e : (if h.ok then (0 : Nat) else 1) = 1 := by simp [hok]
      rw [e, fin_check_device_state 1 (by omega)]; exact ⟨_, rfl⟩
  -- every other operation is a set-operation that ends in `wait_for_ack`, on an arm that ends in `send_ack_message`
  | _ =>
    cases ha
    obtain ⟨hfin, hus, hev, hfe⟩ := hp (.inl rfl)
    exact turn_ack bst h.ok rfl hfin o1 o2 i3 (hus rfl) hev hfe hq

/-! ## one turn, on the wire: for every chooser of either direction -/

/-- **the turn**: the API call against what the server turn it caused has written, for every chooser of the request
direction (`chS`, open or closed `clS`) and every chooser of the reply direction (`chF`, `clF`) -/
theorem turn {σ τ : Type} (chS : Chooser σ) (clS : Bool) (cstS : σ) (chF : Chooser τ) (clF : Bool) (cstF : τ) (file : Fd)
    (s : FSt) (bst : BSt) (op : Op) (req : Req) (s' : FSt) (h : HOut)
    (hreq : request s op = .ok (req, s')) (hb : ArgsInRange op) (hbuf : BufLen op) (hsrv : ServerAccepts bst s req)
    (hin : InStep s bst) :
    TurnSpec chF clF s' op req h (step chS clS bst cstS (segCells (wire s req) req.fds) h).o cstF file := by
  rw [(step_is_dispatch chS clS cstS s bst op req s' h hreq hsrv).1]
  exact turn_dispatch chF clF cstF file s bst op req s' h hreq hb hbuf hsrv hin

theorem call_eq {τ : Type} (ch : Chooser τ) (cl : Bool) (cst : τ) (str : List Cell) {s : FSt} {op : Op} {req : Req} {s' : FSt}
    (hreq : request s op = .ok (req, s')) : call ch cl s op cst str = callRecv ch cl s' op req cst str := by
  simp only [call, hreq]

/-- the bytes and descriptors the call puts on the wire are the ones the server turn was fed with -/
theorem call_writes_request {τ : Type} (ch : Chooser τ) (cl : Bool) (cst : τ) (str : List Cell)
    (s : FSt) (op : Op) (req : Req) (s' : FSt) (hreq : request s op = .ok (req, s')) :
    (call ch cl s op cst str).wire = wire s req ∧ (call ch cl s op cst str).wireFds = req.fds := by
  obtain ⟨hs', _⟩ := request_state s op req s' hreq
  have hw : wire s' req = wire s req := by
    subst hs'; simp only [wire, reqFlags, sendState_hdrFlags]
  rw [call_eq ch cl cst str hreq, ← hw]
  simp only [callRecv]
  generalize recv ch cl s' req cst str = rv
  rcases rv with ⟨res, rest, c, closed⟩
  cases res <;> exact ⟨rfl, rfl⟩

section
variable {σ τ : Type} (chS : Chooser σ) (clS : Bool) (cstS : σ) (chF : Chooser τ) (cstF : τ) (file : Fd)
  (s : FSt) (bst : BSt) (op : Op) (req : Req) (s' : FSt) (h : HOut)
  (hreq : request s op = .ok (req, s')) (hb : ArgsInRange op) (hbuf : BufLen op) (hsrv : ServerAccepts bst s req)
  (hin : InStep s bst)
include hreq hb hbuf hsrv hin

/-- **1. roundtrip_ok**: the call awaits a reply or acknowledgement and the handler's outcome is usable ⟹ fed with what the
server wrote (bytes and the handler's file), the call returns exactly the handler's value — `expectedValue op h file` —
updates the frontend state accordingly and leaves nothing of the reply in the stream.  (`clF`: the connection may even
be closed after the reply.) -/
theorem roundtrip_ok (clF : Bool) (haw : awaits s' req = true) (hu : Usable op h = true) :
    let o := (step chS clS bst cstS (segCells (wire s req) req.fds) h).o
    (call chF clF s op cstF (replyCells o file)).ret = expectedValue op h file ∧
    (call chF clF s op cstF (replyCells o file)).st = feAfter s' op h ∧
    (call chF clF s op cstF (replyCells o file)).rest = [] := by
  intro o
  rw [call_eq chF clF cstF _ hreq]
  exact (turn chS clS cstS chF clF cstF file s bst op req s' h hreq hb hbuf hsrv hin).ok haw hu

/-- **2. roundtrip_fail**: the call awaits and the outcome is not usable ⟹ the frontend state is the one after sending, and
the call returns an error — or it is still waiting, which happens only while the reply direction is open, the server has
written nothing and its `handle_request` has returned the handler's error (so that the serve loop closes the connection) -/
theorem roundtrip_fail (clF : Bool) (haw : awaits s' req = true) (hu : Usable op h = false) :
    let o := (step chS clS bst cstS (segCells (wire s req) req.fds) h).o
    (call chF clF s op cstF (replyCells o file)).st = s' ∧
    ((∃ e, (call chF clF s op cstF (replyCells o file)).ret = .err e) ∨
     ((call chF clF s op cstF (replyCells o file)).ret = .blocked ∧ clF = false ∧ o.out = [] ∧ o.res = .err .handlerErr)) := by
  intro o
  rw [call_eq chF clF cstF _ hreq]
  exact (turn chS clS cstS chF clF cstF file s bst op req s' h hreq hb hbuf hsrv hin).fail haw hu

/-- bounded time: the serve loop closes the connection when `handle_request` fails (`clF = true` whenever the server
turn did not return `Ok`) ⟹ the call returns an error — never success, never `blocked` -/
theorem roundtrip_fail_bounded (clF : Bool) (haw : awaits s' req = true) (hu : Usable op h = false)
    (hclose : (step chS clS bst cstS (segCells (wire s req) req.fds) h).o.res ≠ .ok → clF = true) :
    ∃ e, (call chF clF s op cstF (replyCells (step chS clS bst cstS (segCells (wire s req) req.fds) h).o file)).ret = .err e := by
  obtain ⟨_, r⟩ := roundtrip_fail chS clS cstS chF cstF file s bst op req s' h hreq hb hbuf hsrv hin clF haw hu
  rcases r with r | ⟨_, h2, _, h4⟩
  · exact r
  · have := hclose (by rw [h4]; intro hh; cases hh)
    rw [h2] at this; cases this

/-- once the connection is closed: an error, whatever the server did -/
theorem roundtrip_fail_closed (haw : awaits s' req = true) (hu : Usable op h = false) :
    ∃ e, (call chF true s op cstF (replyCells (step chS clS bst cstS (segCells (wire s req) req.fds) h).o file)).ret = .err e :=
  roundtrip_fail_bounded chS clS cstS chF cstF file s bst op req s' h hreq hb hbuf hsrv hin true haw hu (fun _ => rfl)

/-- in-band failure (negative acknowledgement, payload-less GET_CONFIG reply, status word, reply without the file): the
error is returned even with the connection still open -/
theorem roundtrip_fail_inband (clF : Bool) (haw : awaits s' req = true) (hu : Usable op h = false)
    (hwr : (step chS clS bst cstS (segCells (wire s req) req.fds) h).o.out ≠ []) :
    ∃ e, (call chF clF s op cstF (replyCells (step chS clS bst cstS (segCells (wire s req) req.fds) h).o file)).ret = .err e := by
  obtain ⟨_, r⟩ := roundtrip_fail chS clS cstS chF cstF file s bst op req s' h hreq hb hbuf hsrv hin clF haw hu
  rcases r with r | ⟨_, _, h3, _⟩
  · exact r
  · exact absurd h3 hwr

/-- a failure is never reported as success: the result is an error or (not yet) a result at all -/
theorem roundtrip_fail_not_ok (clF : Bool) (haw : awaits s' req = true) (hu : Usable op h = false) :
    (∃ e, (call chF clF s op cstF (replyCells (step chS clS bst cstS (segCells (wire s req) req.fds) h).o file)).ret = .err e) ∨
    (call chF clF s op cstF (replyCells (step chS clS bst cstS (segCells (wire s req) req.fds) h).o file)).ret = .blocked := by
  obtain ⟨_, r⟩ := roundtrip_fail chS clS cstS chF cstF file s bst op req s' h hreq hb hbuf hsrv hin clF haw hu
  rcases r with r | ⟨h1, _⟩
  · exact Or.inl r
  · exact Or.inr h1

/-- when nothing is awaited the server writes nothing: no stray bytes are left for the next call -/
theorem unawaited_server_silent (haw : awaits s' req = false) :
    (step chS clS bst cstS (segCells (wire s req) req.fds) h).o.out = [] :=
  ((turn chS clS cstS chS false cstS 0 s bst op req s' h hreq hb hbuf hsrv hin).unawaited haw).2.2.2.1

end

/-! ## 3. nothing awaited: the call succeeds without reading (frontend alone, any stream) -/

/-- **3. unawaited_ok** (`Props.C03.no_wait_without_ack` lifted to `call`): when the call awaits nothing — a set-operation
without REPLY_ACK acknowledged or without NEED_REPLY, or an operation without reply — it returns `Ok(())` and leaves the
incoming stream, whatever it holds, untouched -/
theorem unawaited_ok {τ : Type} (ch : Chooser τ) (cl : Bool) (cst : τ) (str : List Cell)
    (s : FSt) (op : Op) (req : Req) (s' : FSt) (hreq : request s op = .ok (req, s')) (haw : awaits s' req = false) :
    (call ch cl s op cst str).ret = .unit ∧ (call ch cl s op cst str).st = s' ∧ (call ch cl s op cst str).rest = str := by
  rw [call_eq ch cl cst str hreq]
  have hk : req.kind = .ack ∨ req.kind = .noWait := by
    unfold awaits at haw
    cases hk : req.kind <;> simp [hk] at haw ⊢
  exact callRecv_unawaited ch cl s' op req cst str haw (plain_op (plain_of_kind hreq hk) s' {} 0).1

/-- the device's feature set is stable: a GET_FEATURES answered while REPLY_ACK is acknowledged still offers
VHOST_USER_F_PROTOCOL_FEATURES -/
def featuresStable (bst : BSt) (op : Op) (h : HOut) : Bool :=
  op.name != "get_features" || !h.ok || !bitSet bst.ackedProto 3 || bitSet (h.v % 2^64) 30
def FeaturesStable (bst : BSt) (op : Op) (h : HOut) : Prop := featuresStable bst op h = true
instance (bst : BSt) (op : Op) (h : HOut) : Decidable (FeaturesStable bst op h) := inferInstanceAs (Decidable (_ = true))

theorem inStep_intro {s : FSt} {bst : BSt} (h1 : s.virtio = bst.virtio) (h2 : s.ackedProto = bst.ackedProto)
    (h3 : bst.replyAck = (bitSet bst.virtio 30 && bitSet bst.ackedProto 3))
    (h4 : bitSet bst.ackedProto 3 = true → bitSet bst.virtio 30 = true) : InStep s bst := by
  simp only [InStep, inStep, h1, h2, h3, beq_self_eq_true, Bool.true_and]
  cases hb : bitSet bst.ackedProto 3 with
  | false => rfl
  | true => simp [h4 hb]

/-- `InStep` looks at the offered virtio features and the acknowledged protocol features only: apart from `get_features`
and `set_protocol_features` no call touches them on the frontend -/
theorem inStep_plain {s : FSt} {bst : BSt} (op : Op) (h : HOut) (hin : InStep s bst)
    (hn : (op.name != "get_features" && op.name != "set_protocol_features") = true) :
    InStep (if Usable op h then feAfter (sendState s op) op h else sendState s op) bst := by
  obtain ⟨name, a, pl, fds, bad, regs⟩ := op
  simp only [Bool.and_eq_true, bne_iff_ne, ne_eq] at hn
  have e1 : (sendState s ⟨name, a, pl, fds, bad, regs⟩).virtio = s.virtio ∧
      (sendState s ⟨name, a, pl, fds, bad, regs⟩).ackedProto = s.ackedProto := by
    unfold sendState; split
    · exact ⟨rfl, rfl⟩
    · next hname _ => exact absurd hname hn.2
    · exact ⟨rfl, rfl⟩
  have e2 : ∀ s', (feAfter s' ⟨name, a, pl, fds, bad, regs⟩ h).virtio = s'.virtio ∧
      (feAfter s' ⟨name, a, pl, fds, bad, regs⟩ h).ackedProto = s'.ackedProto := by
    intro s'; unfold feAfter; split
    · next hname => exact absurd hname hn.1
    all_goals exact ⟨rfl, rfl⟩
  have hin' := hin
  simp only [InStep, inStep] at hin' ⊢
  split <;> simp only [e1.1, e1.2, (e2 _).1, (e2 _).2] <;> exact hin'

/-- **InStep is preserved by a turn**: whatever the handler did — the frontend ends in `feAfter s' op h` after a usable
outcome and in `s'` otherwise (`roundtrip_ok`, `roundtrip_fail`, `unawaited_ok`), the server in the state `dispatch`
leaves — provided the device's feature set is stable -/
theorem instep_preserved (s : FSt) (bst : BSt) (op : Op) (req : Req) (s' : FSt) (h : HOut)
    (hreq : request s op = .ok (req, s')) (hb : ArgsInRange op) (hsrv : ServerAccepts bst s req)
    (hin : InStep s bst) (hst : FeaturesStable bst op h) :
    InStep (if Usable op h then feAfter s' op h else s') (dispatch bst (reqHdr s req) req.body (filesOf req) h).st := by
  obtain ⟨hs', hspf⟩ := request_state s op req s' hreq
  have hB := request_built s op req s' hreq
  obtain ⟨himpl, _, _, _, hfds, _⟩ := serverAccepts_parts hsrv
  obtain ⟨a, ha⟩ := Option.isSome_iff_exists.1 (impl_arm req.code (List.contains_iff_mem.1 himpl))
  obtain ⟨i1, i2, _, i4⟩ := inStep_parts hin
  rw [dispatch_reached hB hb hsrv ha h, Lemmas.BackendSrv.runAct_st]
  subst hs'
  clear hreq hsrv himpl
  cases hB with
  | get_features a pl fds bad regs =>
    cases ha
    show InStep (if h.ok = true then ({ s with virtio := h.v % 2^64 } : FSt) else s)
      (if h.ok then ({ bst with virtio := h.v % 2^64 } : BSt).updateFlag else bst)
    cases hok : h.ok with
    | false => exact hin
    | true =>
      have hs : bitSet bst.ackedProto 3 = true → bitSet (h.v % 2^64) 30 = true := by
        intro hb3
        have := hst
        simp only [FeaturesStable, featuresStable, hok, hb3, Bool.not_true, Bool.or_false, Bool.or_eq_true] at this
        rcases this with this | this
        · exact absurd this (by decide)
        · exact this
      exact inStep_intro rfl i2 (Props.C04.updateFlag_inv _) hs
  | set_features v pl fds bad regs =>
    cases ha
    show InStep _ (({ bst with acked := Model.BackendSrv.g (u64 v) "VhostUserU64" ["value"] } : BSt).updateFlag)
    generalize Model.BackendSrv.g (u64 v) "VhostUserU64" ["value"] = x
    split
    all_goals
      show InStep ({ s with acked := v &&& s.virtio } : FSt) (({ bst with acked := x } : BSt).updateFlag)
      exact inStep_intro i1 i2 (Props.C04.updateFlag_inv _) i4
  | get_protocol_features a pl fds bad regs =>
    cases ha
    show InStep (if h.ok = true then ({ s with proto := (h.v ||| 8) % 2^64 } : FSt) else s) (if h.ok then bst.updateFlag else bst)
    cases hok : h.ok with
    | false => exact hin
    | true => exact inStep_intro i1 i2 (Props.C04.updateFlag_inv _) i4
  | set_protocol_features v pl fds bad regs =>
    cases ha
    change decide (v < 2^64) = true at hb
    have f := dec_U64 [] v (of_decide_eq_true hb)
    simp only [List.append_nil] at f
    show InStep _ (({ bst with ackedProto := Model.BackendSrv.g (u64 v) "VhostUserU64" ["value"] } : BSt).updateFlag)
    rw [srv_g _ _ _ _ f]
    have h30 : bitSet bst.virtio 30 = true := by rw [← i1]; exact hspf rfl
    split
    all_goals
      show InStep ({ s with ackedProto := v } : FSt) (({ bst with ackedProto := v } : BSt).updateFlag)
      exact inStep_intro i1 rfl (Props.C04.updateFlag_inv _) (fun _ => h30)
  | set_log_base_plain | set_log_base_noshm => exact absurd (show (0 : Nat) = 1 from hfds) (by decide)
  -- every other operation leaves the negotiation state of both endpoints alone
  | _ => cases ha <;> exact inStep_plain _ h hin rfl

/-! ## 4. sessions: both endpoint models run against each other -/

/-- one API call of a session: the operation, the scripted outcome of the application's handler for it, and the file the
handler returns (for the operations that return one) -/
structure Turn where
  op : Op
  h : HOut
  file : Fd := 0

/-- the two endpoint models run against each other over two streams: each call's request (one `sendmsg`) is read by one
`handle_request`, the call reads what that turn wrote; both negotiation states and both chooser states are threaded.
Returns the results of the calls (a locally refused call ends the run). -/
def run {σ τ : Type} (chS : Chooser σ) (chF : Chooser τ) : FSt → BSt → σ → τ → List Turn → List Ret
  | _, _, _, _, [] => []
  | s, bst, cs, cf, t :: ts =>
    match request s t.op with
    | .error e => [.err e]
    | .ok (req, _) =>
      let r := step chS false bst cs (segCells (wire s req) req.fds) t.h
      let c := call chF false s t.op cf (replyCells r.o t.file)
      c.ret :: run chS chF c.st r.o.st r.cst c.cst ts

/-- every call of the session is accepted by the API and not refused by the server in the states reached by then, the
handler's outcome is usable and the device's feature set stable -/
def SessionOk : FSt → BSt → List Turn → Prop
  | _, _, [] => True
  | s, bst, t :: ts =>
    ∃ req s', request s t.op = .ok (req, s') ∧ ArgsInRange t.op ∧ BufLen t.op ∧ ServerAccepts bst s req ∧
      Usable t.op t.h = true ∧ FeaturesStable bst t.op t.h ∧
      SessionOk (feAfter s' t.op t.h) (dispatch bst (reqHdr s req) req.body (filesOf req) t.h).st ts

/-- **4. session_roundtrip**: from states in step, over a session of usable turns — for every chooser of either direction —
`InStep` holds before every call and every call returns exactly its handler's value (awaited or not) -/
theorem session_roundtrip {σ τ : Type} (chS : Chooser σ) (chF : Chooser τ) :
    ∀ (ts : List Turn) (s : FSt) (bst : BSt) (cs : σ) (cf : τ), InStep s bst → SessionOk s bst ts →
      run chS chF s bst cs cf ts = ts.map (fun t => expectedValue t.op t.h t.file) := by
  intro ts
  induction ts with
  | nil => intro _ _ _ _ _ _; rfl
  | cons t ts ih =>
    intro s bst cs cf hin hok
    obtain ⟨req, s', hreq, hb, hbuf, hsrv, hu, hst, hrest⟩ := hok
    have T := turn chS false cs chF false cf t.file s bst t.op req s' t.h hreq hb hbuf hsrv hin
    have e4 := congrArg Out.st (step_is_dispatch chS false cs s bst t.op req s' t.h hreq hsrv).1
    have hin' := instep_preserved s bst t.op req s' t.h hreq hb hsrv hin hst
    rw [show (Usable t.op t.h) = true from hu, if_pos rfl] at hin'
    have hc : (call chF false s t.op cf (replyCells (step chS false bst cs (segCells (wire s req) req.fds) t.h).o t.file)).ret =
          expectedValue t.op t.h t.file ∧
        (call chF false s t.op cf (replyCells (step chS false bst cs (segCells (wire s req) req.fds) t.h).o t.file)).st =
          feAfter s' t.op t.h := by
      rw [call_eq chF false cf _ hreq]
      cases haw : awaits s' req with
      | true => obtain ⟨a, b, _⟩ := T.ok haw hu; exact ⟨a, b⟩
      | false => obtain ⟨a, b, _, _, e, f⟩ := T.unawaited haw; exact ⟨a.trans e.symm, b.trans f.symm⟩
    simp only [run, hreq, List.map_cons]
    rw [hc.1, hc.2, e4, ih _ _ _ _ hin' hrest]

/-! ## operations excluded through `ServerAccepts`, and the finding -/

/-- `set_log_fd` is never accepted by this server (`Props.C02Reach.set_log_fd_counterexample`: no handler is reached) -/
theorem not_accepted_set_log_fd (bst : BSt) (s : FSt) (fds : List Fd) : ¬ ServerAccepts bst s ⟨7, [], fds, .ack⟩ := by
  intro h
  exact absurd (show false = true from (serverAccepts_parts h).1) (by decide)

/-- `set_log_base` without a region (or without LOG_SHMFD on the frontend) is never accepted by this server
(`Props.C02Reach.set_log_base_plain_counterexample`) -/
theorem not_accepted_set_log_base_plain (bst : BSt) (s : FSt) (base : Nat) : ¬ ServerAccepts bst s ⟨6, u64 base, [], .noWait⟩ := by
  intro h
  exact absurd (show (0 : Nat) = 1 from (serverAccepts_parts h).2.2.2.2.1) (by decide)

/-- **F-C03-flip** (`InStep` is not preserved without `FeaturesStable`, and then C03 fails).  States in step with REPLY_ACK in
force and NEED_REPLY requested.  Turn 1: GET_FEATURES, the handler succeeds with a feature set *without*
VHOST_USER_F_PROTOCOL_FEATURES — a usable outcome, the call returns it (`roundtrip_ok` applies) — but the server
recomputes `reply_ack_enabled = false` while the frontend still has REPLY_ACK acknowledged: the states are out of step.
Turn 2: SET_OWNER: the request is accepted, the handler is invoked and succeeds, `handle_request` returns `Ok` (the
connection stays open) and writes **no** acknowledgement; the frontend awaits one: for every chooser the call waits —
indefinitely, the connection being alive. -/
theorem features_flip_counterexample :
    let s0 : FSt := { virtio := 0x40000000, ackedProto := 8, hdrFlags := 8 }
    let b0 : BSt := { virtio := 0x40000000, ackedProto := 8, replyAck := true }
    let getf : Op := ⟨"get_features", [], [], [], false, []⟩
    let r1 : Req := ⟨1, [], [], .body "VhostUserU64"⟩
    let h1 : HOut := { v := 0 }
    let s1 : FSt := { virtio := 0, ackedProto := 8, hdrFlags := 8 }
    let b1 : BSt := { virtio := 0, ackedProto := 8, replyAck := false }
    let seto : Op := ⟨"set_owner", [], [], [], false, []⟩
    let r2 : Req := ⟨3, [], [], .ack⟩
    InStep s0 b0 ∧ request s0 getf = .ok (r1, s0) ∧ ArgsInRange getf ∧ BufLen getf ∧ ServerAccepts b0 s0 r1 ∧
    Usable getf h1 = true ∧ ¬ FeaturesStable b0 getf h1 ∧
    feAfter s0 getf h1 = s1 ∧ (dispatch b0 (reqHdr s0 r1) r1.body (filesOf r1) h1).st = b1 ∧ ¬ InStep s1 b1 ∧
    request s1 seto = .ok (r2, s1) ∧ ArgsInRange seto ∧ BufLen seto ∧ ServerAccepts b1 s1 r2 ∧ awaits s1 r2 = true ∧
    Usable seto {} = true ∧
    (dispatch b1 (reqHdr s1 r2) r2.body (filesOf r2) {}).calls = [⟨"set_owner", [], [], []⟩] ∧
    (dispatch b1 (reqHdr s1 r2) r2.body (filesOf r2) {}).res = .ok ∧
    (dispatch b1 (reqHdr s1 r2) r2.body (filesOf r2) {}).out = [] ∧
    (∀ {τ : Type} (ch : Chooser τ) (cst : τ) (file : Fd),
      (call ch false s1 seto cst (replyCells (dispatch b1 (reqHdr s1 r2) r2.body (filesOf r2) {}) file)).ret = .blocked) := by
  intro s0 b0 getf r1 h1 s1 b1 seto r2
  refine ⟨by decide, rfl, by decide, by decide, by decide, by decide, by decide, rfl, by decide, by decide, rfl, by decide,
    by decide, by decide, by decide, by decide, by decide, by decide, by decide, ?_⟩
  intro τ ch cst file
  have e : replyCells (dispatch b1 (reqHdr s1 r2) r2.body (filesOf r2) {}) file = [] := by
    have : (dispatch b1 (reqHdr s1 r2) r2.body (filesOf r2) {}).out = [] := by decide
    simp only [replyCells, this, segCells_nil]
  rw [e, call_eq ch false cst [] (show request s1 seto = .ok (r2, s1) from rfl)]
  have hr : (recv ch false s1 r2 cst []).res = .blocked := by
    have hb : (recvBody ch false "VhostUserU64" cst []).res = .blocked := by
      obtain ⟨_, _, b3⟩ := Lemmas.Stream.recvAll_short ch 32 false (12 + 8) cst [] true (by decide) (by simp)
      unfold recvBody
      simp only [Lemmas.FeRecv.so_U64, b3, Bool.false_eq_true, if_false]
    have hA : bitSet s1.ackedProto 3 = true := by decide
    have hN : (reqHdr s1 r2).needReply = true := by decide
    unfold recv
    simp only [show r2.kind = .ack from rfl, hA, hN, Bool.not_true, Bool.or_self, Bool.false_eq_true, if_false, hb]
  exact (callRecv_of_blocked ch false _ _ _ cst [] hr).1

/-! ## non-vacuity: the hypotheses are satisfiable, and what the theorems give on concrete turns -/

/-- a state pair with REPLY_ACK in force and NEED_REPLY requested by the frontend -/
def sAck : FSt := { virtio := 0x40000000, ackedProto := 0x3208, maxQ := 2, hdrFlags := 8 }
def bAck : BSt := { virtio := 0x40000000, ackedProto := 0x3208, replyAck := true }

example : InStep {} {} := by decide
example : InStep sAck bAck := by decide

/-- a u64 getter -/
example : ∃ req s', request {} ⟨"get_features", [], [], [], false, []⟩ = .ok (req, s') ∧
    ArgsInRange ⟨"get_features", [], [], [], false, []⟩ ∧ BufLen ⟨"get_features", [], [], [], false, []⟩ ∧
    ServerAccepts {} {} req ∧ InStep {} {} ∧ awaits s' req = true ∧
    Usable ⟨"get_features", [], [], [], false, []⟩ { v := 0x140000000 } = true ∧
    expectedValue ⟨"get_features", [], [], [], false, []⟩ { v := 0x140000000 } 0 = .val 0x140000000 :=
  ⟨_, _, rfl, by decide, by decide, by decide, by decide, by decide, by decide, rfl⟩

/-- `get_config` with payload -/
example : ∃ req s', request sAck ⟨"get_config", [8, 4, 0, 4], [0, 0, 0, 0], [], false, []⟩ = .ok (req, s') ∧
    ArgsInRange ⟨"get_config", [8, 4, 0, 4], [0, 0, 0, 0], [], false, []⟩ ∧
    BufLen ⟨"get_config", [8, 4, 0, 4], [0, 0, 0, 0], [], false, []⟩ ∧
    ServerAccepts bAck sAck req ∧ awaits s' req = true ∧
    Usable ⟨"get_config", [8, 4, 0, 4], [0, 0, 0, 0], [], false, []⟩ { b := [1, 2, 3, 4] } = true ∧
    Usable ⟨"get_config", [8, 4, 0, 4], [0, 0, 0, 0], [], false, []⟩ { b := [1, 2, 3] } = false ∧
    Usable ⟨"get_config", [8, 4, 0, 4], [0, 0, 0, 0], [], false, []⟩ { ok := false } = false ∧
    expectedValue ⟨"get_config", [8, 4, 0, 4], [0, 0, 0, 0], [], false, []⟩ { b := [1, 2, 3, 4] } 0 = .config 8 4 0 [1, 2, 3, 4] :=
  ⟨_, _, rfl, by decide, by decide, by decide, by decide, by decide, by decide, by decide, rfl⟩

/-- `get_inflight_fd`: values and the handler's file -/
example : ∃ req s', request sAck ⟨"get_inflight_fd", [0x1000, 0, 2, 0x100], [], [], false, []⟩ = .ok (req, s') ∧
    ArgsInRange ⟨"get_inflight_fd", [0x1000, 0, 2, 0x100], [], [], false, []⟩ ∧
    BufLen ⟨"get_inflight_fd", [0x1000, 0, 2, 0x100], [], [], false, []⟩ ∧
    ServerAccepts bAck sAck req ∧ awaits s' req = true ∧
    Usable ⟨"get_inflight_fd", [0x1000, 0, 2, 0x100], [], [], false, []⟩ { v := 0x2000 } = true ∧
    expectedValue ⟨"get_inflight_fd", [0x1000, 0, 2, 0x100], [], [], false, []⟩ { v := 0x2000 } 77 = .inflight 0x2000 0 2 0x100 77 :=
  ⟨_, _, rfl, by decide, by decide, by decide, by decide, by decide, rfl⟩

/-- a set-operation with acknowledgement, and a failing handler answered by a negative acknowledgement (in band) -/
example : ∃ req s', request sAck ⟨"set_vring_num", [1, 0x100], [], [], false, []⟩ = .ok (req, s') ∧
    ArgsInRange ⟨"set_vring_num", [1, 0x100], [], [], false, []⟩ ∧ BufLen ⟨"set_vring_num", [1, 0x100], [], [], false, []⟩ ∧
    ServerAccepts bAck sAck req ∧ awaits s' req = true ∧
    Usable ⟨"set_vring_num", [1, 0x100], [], [], false, []⟩ {} = true ∧
    Usable ⟨"set_vring_num", [1, 0x100], [], [], false, []⟩ { ok := false } = false ∧
    (dispatch bAck (reqHdr sAck req) req.body (filesOf req) { ok := false }).out ≠ [] ∧
    (dispatch bAck (reqHdr sAck req) req.body (filesOf req) { ok := false }).res = .err .handlerErr :=
  ⟨_, _, rfl, by decide, by decide, by decide, by decide, by decide, by decide, by decide, by decide⟩

/-- the same call without NEED_REPLY awaits nothing -/
example : ∃ req s', request { sAck with hdrFlags := 0 } ⟨"set_vring_num", [1, 0x100], [], [], false, []⟩ = .ok (req, s') ∧
    awaits s' req = false := ⟨_, _, rfl, by decide⟩

/-- the theorems applied: a getter under the Linux chooser in both directions -/
example : (call (kernelChooser false) false {} ⟨"get_features", [], [], [], false, []⟩ ()
    (replyCells (step (kernelChooser true) false {} () (segCells (wire {} ⟨1, [], [], .body "VhostUserU64"⟩) []) { v := 0x140000000 }).o 0)).ret =
    .val 0x140000000 :=
  (roundtrip_ok (kernelChooser true) false () (kernelChooser false) () 0 {} {} ⟨"get_features", [], [], [], false, []⟩
    ⟨1, [], [], .body "VhostUserU64"⟩ {} { v := 0x140000000 } rfl (by decide) (by decide) (by decide) (by decide) false
    (by decide) (by decide)).1

/-- a failing handler with negative acknowledgement: the error is returned with the connection still open -/
example : ∃ e, (call (kernelChooser false) false sAck ⟨"set_vring_num", [1, 0x100], [], [], false, []⟩ ()
    (replyCells (step (kernelChooser false) false bAck () (segCells (wire sAck ⟨8, u32 1 ++ u32 0x100, [], .ack⟩) []) { ok := false }).o 0)).ret =
    .err e :=
  roundtrip_fail_inband (kernelChooser false) false () (kernelChooser false) () 0 sAck bAck ⟨"set_vring_num", [1, 0x100], [], [], false, []⟩
    ⟨8, u32 1 ++ u32 0x100, [], .ack⟩ sAck { ok := false } rfl (by decide) (by decide) (by decide) (by decide) false
    (by decide) (by decide)
    (by rw [(step_is_dispatch (kernelChooser false) false () sAck bAck ⟨"set_vring_num", [1, 0x100], [], [], false, []⟩
          ⟨8, u32 1 ++ u32 0x100, [], .ack⟩ sAck { ok := false } rfl (by decide)).1]; decide)

/-- a session: negotiate, then use gated operations -/
example : SessionOk { virtio := 0x40000000, hdrFlags := 8 } ({ virtio := 0x40000000 } : BSt)
    [⟨⟨"set_protocol_features", [0x1208], [], [], false, []⟩, {}, 0⟩,
     ⟨⟨"get_config", [0, 4, 0, 4], [0, 0, 0, 0], [], false, []⟩, { b := [9, 9, 9, 9] }, 0⟩,
     ⟨⟨"get_inflight_fd", [0x1000, 0, 2, 0x100], [], [], false, []⟩, { v := 0x2000 }, 5⟩] :=
  ⟨_, _, rfl, by decide, by decide, by decide, by decide, by decide,
   _, _, rfl, by decide, by decide, by decide, by decide, by decide,
   _, _, rfl, by decide, by decide, by decide, by decide, by decide, trivial⟩

end Props.C03Roundtrip
