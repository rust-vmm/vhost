import VhostModel.Gen.BitmapOps
import VhostModel.Lemmas.ArithOps
import VhostModel.Props.C15
/-!
# The bitmap arithmetic of the model is the bitmap arithmetic of the source

`Gen/BitmapOps.lean` is regenerated on every run from `vhost-user-backend/src/bitmap.rs`: the constants, `page_number`,
`page_word`, `page_bit`, the early exits and the fields computed by `AtomicBitmapMmap::new`, the early exit / range / break
test / word index / mask of the `fetch_or` loop of `AtomicBitmapMmap::mark_dirty`, `AtomicBitmapMmap::dirty_at`, and the
offset arithmetic of `BitmapMmapRegion::{mark_dirty, dirty_at, slice_at}` — as functions on naturals with explicit 64-bit
`usize` semantics and a definedness condition for every `+`, `-`, `<<` and every bounds-asserted index.

The theorems say, **for all inputs**, that the hand-written `Model.Bitmap` computes exactly what the generated functions
and descriptors say, and that no generated definedness condition can fail for a bitmap that `AtomicBitmapMmap::new`
accepted (`*_defined`, `*_never_faults`).  Nothing here is assumed about offsets or lengths.
-/
namespace Props.BitmapOps
open Model.Bitmap Lemmas.ArithOps

/-! ## constants and the three page functions -/

theorem logPageSize_eq : logPageSize = Gen.BitmapOps.LOG_PAGE_SIZE := rfl
theorem logWordSize_eq : logWordSize = Gen.BitmapOps.LOG_WORD_SIZE := rfl

theorem pageNumber_eq (a : Nat) : pageNumber a = Gen.BitmapOps.page_number a := rfl
theorem pageWord_eq (p : Nat) : pageWord p = Gen.BitmapOps.page_word p := rfl
theorem pageBit_eq (p : Nat) : pageBit p = Gen.BitmapOps.page_bit p := rfl

/-- the arithmetic of the three functions is always defined (division / remainder by non-zero constants) -/
theorem page_fns_defined (a : Nat) :
    Gen.BitmapOps.page_number.defd a = true ∧ Gen.BitmapOps.page_word.defd a = true ∧
      Gen.BitmapOps.page_bit.defd a = true := ⟨rfl, rfl, rfl⟩

/-! ## `AtomicBitmapMmap::new` -/

/-- the inputs of the generated `new` -/
def newIn (start len logLen : Nat) : Gen.BitmapOps.AtomicBitmapMmap.new.In :=
  { region_start := start, region_len := len, logmem_len := logLen }

/-- **`AtomicBitmapMmap.new` is the generated guard program**: it refuses exactly when a generated guard fires, the
generated arithmetic never faults, and when every guard passes the value built has the generated fields -/
theorem new_eq (start len logLen : Nat) :
    match ArithSig.runGuards Gen.BitmapOps.AtomicBitmapMmap.new.guards (newIn start len logLen) with
    | .pass => AtomicBitmapMmap.new start len logLen =
        some { logLen := logLen,
               pagesBeforeRegion := Gen.BitmapOps.AtomicBitmapMmap.new.ret_pages_before_region (newIn start len logLen),
               numberOfPages := Gen.BitmapOps.AtomicBitmapMmap.new.ret_number_of_pages (newIn start len logLen) }
    | .exit _ => AtomicBitmapMmap.new start len logLen = none
    | .fault => False := by
  unfold AtomicBitmapMmap.new
  rw [checkedAdd_model]
  simp only [ArithSig.runGuards, ArithSig.runGuardsFrom, Gen.BitmapOps.AtomicBitmapMmap.new.guards,
    Gen.BitmapOps.AtomicBitmapMmap.new.region_len, Gen.BitmapOps.AtomicBitmapMmap.new.region_start_addr,
    Gen.BitmapOps.AtomicBitmapMmap.new.region_end_log_word, Gen.BitmapOps.AtomicBitmapMmap.new.region_end_addr,
    Gen.BitmapOps.AtomicBitmapMmap.new.ret_pages_before_region, Gen.BitmapOps.AtomicBitmapMmap.new.ret_number_of_pages,
    Gen.BitmapOps.AtomicBitmapMmap.new.offset_pages, Gen.BitmapOps.AtomicBitmapMmap.new.size_page, newIn,
    ← pageNumber_eq, ← pageWord_eq]
  by_cases h0 : len = 0
  · simp [h0]
  · have h1 : 1 ≤ len := by omega
    simp only [h0, beq_iff_eq, if_false, h1, decide_true, if_true]
    unfold ArithSig.checkedAdd
    by_cases h2 : start + (len - 1) < 2 ^ 64
    · simp only [h2, if_true, Option.isSome_some, Bool.not_true, Bool.false_eq_true, if_false]
      by_cases h3 : pageWord (pageNumber (start + (len - 1))) ≥ logLen
      · simp [h3]
      · simp [h3]
    · simp [h2]

theorem new_never_faults (start len logLen : Nat) :
    ArithSig.runGuards Gen.BitmapOps.AtomicBitmapMmap.new.guards (newIn start len logLen) ≠ .fault := by
  intro h
  have := new_eq start len logLen
  rw [h] at this
  exact this

/-- accepted ⇔ every generated guard passes -/
theorem new_isSome_iff (start len logLen : Nat) :
    (AtomicBitmapMmap.new start len logLen).isSome = true ↔
      ArithSig.runGuards Gen.BitmapOps.AtomicBitmapMmap.new.guards (newIn start len logLen) = .pass := by
  have := new_eq start len logLen
  cases h : ArithSig.runGuards Gen.BitmapOps.AtomicBitmapMmap.new.guards (newIn start len logLen) with
  | pass => rw [h] at this; simp [this]
  | exit k => rw [h] at this; simp [this]
  | fault => rw [h] at this; exact this.elim

example : ArithSig.runGuards Gen.BitmapOps.AtomicBitmapMmap.new.guards (newIn 0x1000 0x2000 1) = .pass ∧
    ArithSig.runGuards Gen.BitmapOps.AtomicBitmapMmap.new.guards (newIn 0x1000 0 1) = .exit 0 ∧
    ArithSig.runGuards Gen.BitmapOps.AtomicBitmapMmap.new.guards (newIn (2 ^ 64 - 1) 2 1) = .exit 1 ∧
    ArithSig.runGuards Gen.BitmapOps.AtomicBitmapMmap.new.guards (newIn 0x8000 0x1000 1) = .exit 2 := by decide

/-! ## `AtomicBitmapMmap::mark_dirty` -/

/-- the inputs of the generated `mark_dirty` -/
def markIn (bm : AtomicBitmapMmap) (offset len : Nat) : Gen.BitmapOps.AtomicBitmapMmap.mark_dirty.In :=
  { offset := offset, len := len, number_of_pages := bm.numberOfPages, pages_before_region := bm.pagesBeforeRegion,
    logmem_len := bm.logLen }

/-- one generated `fetch_or` as a model step -/
def stepOfGen (p : Nat × Nat) : Step := { idx := p.1, mask := UInt8.ofNat p.2 }

/-- **the model's loop is the generated loop**: the generated range, cut by the generated break test, with the generated
`(index, mask)` pairs, is `markLoop` over the pages `first..=last` of the write -/
theorem loop_steps_eq (bm : AtomicBitmapMmap) (offset len : Nat) :
    (Gen.BitmapOps.AtomicBitmapMmap.mark_dirty.loop.steps (markIn bm offset len)).map stepOfGen =
      markLoop bm (pageNumber (satAdd offset (len - 1)) + 1 - pageNumber offset) (pageNumber offset) := by
  rw [Lemmas.Bitmap.markLoop_eq_takeWhile, satAdd_model]
  simp only [ArithSig.AtomicLoop.steps, ArithSig.AtomicLoop.iters, ArithSig.AtomicLoop.count, List.map_map,
    Gen.BitmapOps.AtomicBitmapMmap.mark_dirty.loop, Gen.BitmapOps.AtomicBitmapMmap.mark_dirty.first_page,
    Gen.BitmapOps.AtomicBitmapMmap.mark_dirty.last_page, Gen.BitmapOps.AtomicBitmapMmap.mark_dirty.page_1, markIn,
    ← pageNumber_eq, ← pageWord_eq, ← pageBit_eq, if_true, ge_iff_le, ← Nat.not_lt, decide_not, Bool.not_not]
  congr 1
  funext p
  simp only [Function.comp, stepOfGen, Lemmas.Bitmap.stepOf, bitMask_eq]

/-- **`markSteps` is the generated program**: nothing when the generated early exit fires, otherwise the steps of the
generated loop -/
theorem markSteps_eq (bm : AtomicBitmapMmap) (offset len : Nat) :
    bm.markSteps offset len =
      match ArithSig.runGuards Gen.BitmapOps.AtomicBitmapMmap.mark_dirty.guards (markIn bm offset len) with
      | .pass => (Gen.BitmapOps.AtomicBitmapMmap.mark_dirty.loop.steps (markIn bm offset len)).map stepOfGen
      | _ => [] := by
  rw [loop_steps_eq]
  unfold AtomicBitmapMmap.markSteps
  simp only [ArithSig.runGuards, ArithSig.runGuardsFrom, Gen.BitmapOps.AtomicBitmapMmap.mark_dirty.guards, markIn]
  by_cases h0 : len = 0
  · simp [h0]
  · have h1 : 1 ≤ len := by omega
    simp [h0, h1]

/-- the same in the explicit form: range start `first`, `n` values, cut at the first page `≥ number_of_pages`, word and
mask of the absolute page by the generated expressions -/
theorem markSteps_explicit (bm : AtomicBitmapMmap) (offset len : Nat) (h : len ≠ 0) :
    bm.markSteps offset len =
      ((List.range' (Gen.BitmapOps.AtomicBitmapMmap.mark_dirty.first_page (markIn bm offset len))
          (Gen.BitmapOps.AtomicBitmapMmap.mark_dirty.last_page (markIn bm offset len) + 1 -
            Gen.BitmapOps.AtomicBitmapMmap.mark_dirty.first_page (markIn bm offset len))).takeWhile
        (fun p => decide (p < bm.numberOfPages))).map
      (fun p => { idx := Gen.BitmapOps.page_word (bm.pagesBeforeRegion + p),
                  mask := UInt8.ofNat (ArithSig.shl 8 1 (Gen.BitmapOps.page_bit (bm.pagesBeforeRegion + p))) }) := by
  unfold AtomicBitmapMmap.markSteps
  simp only [h, if_false]
  rw [Lemmas.Bitmap.markLoop_eq_takeWhile]
  simp only [Gen.BitmapOps.AtomicBitmapMmap.mark_dirty.first_page, Gen.BitmapOps.AtomicBitmapMmap.mark_dirty.last_page,
    markIn, ← pageNumber_eq, ← satAdd_model]
  congr 1
  funext p
  simp only [Lemmas.Bitmap.stepOf, bitMask_eq, ← pageWord_eq, ← pageBit_eq]

/-- `markDirty` runs the generated steps -/
theorem markDirty_eq (bm : AtomicBitmapMmap) (log : List UInt8) (offset len : Nat) :
    bm.markDirty log offset len =
      runSteps log (match ArithSig.runGuards Gen.BitmapOps.AtomicBitmapMmap.mark_dirty.guards (markIn bm offset len) with
        | .pass => (Gen.BitmapOps.AtomicBitmapMmap.mark_dirty.loop.steps (markIn bm offset len)).map stepOfGen
        | _ => []) := by
  unfold AtomicBitmapMmap.markDirty; rw [markSteps_eq]

/-- the guards of `mark_dirty` never fault (the `len - 1` is evaluated after `len == 0` returned) -/
theorem mark_guards_never_fault (bm : AtomicBitmapMmap) (offset len : Nat) :
    ArithSig.runGuards Gen.BitmapOps.AtomicBitmapMmap.mark_dirty.guards (markIn bm offset len) ≠ .fault := by
  simp only [ArithSig.runGuards, ArithSig.runGuardsFrom, Gen.BitmapOps.AtomicBitmapMmap.mark_dirty.guards, markIn]
  by_cases h0 : len = 0
  · simp [h0]
  · have h1 : 1 ≤ len := by omega
    simp [h0, h1]

/-- **no definedness condition of the loop can fail** for a bitmap that `AtomicBitmapMmap::new` accepted: the absolute
page number does not overflow, the shift amount is below 8, and the word index passes `assert!(index < self.len)` -/
theorem mark_loop_defined (start size logLen : Nat) (bm : AtomicBitmapMmap)
    (hnew : AtomicBitmapMmap.new start size logLen = some bm) (offset len : Nat) :
    Gen.BitmapOps.AtomicBitmapMmap.mark_dirty.loop.defined (markIn bm offset len) = true := by
  obtain ⟨h0, h1, h2, rfl⟩ := (Lemmas.BitmapC15.new_eq_some_iff _ _ _ _).1 hnew
  unfold ArithSig.AtomicLoop.defined ArithSig.AtomicLoop.iters
  apply takeWhile_all
  intro p _ hp
  simp only [Gen.BitmapOps.AtomicBitmapMmap.mark_dirty.loop, markIn, Bool.not_eq_true', decide_eq_false_iff_not] at hp
  simp only [Gen.BitmapOps.AtomicBitmapMmap.mark_dirty.loop, Gen.BitmapOps.AtomicBitmapMmap.mark_dirty.page_1, markIn,
    Gen.BitmapOps.page_word, Gen.BitmapOps.page_bit, Gen.BitmapOps.LOG_WORD_SIZE, Bool.and_eq_true, decide_eq_true_eq]
  unfold usizeMax at h1
  refine ⟨⟨by omega, decide_eq_true ?_⟩, decide_eq_true (by omega)⟩
  exact Lemmas.BitmapC15.arith_bounds start size logLen p h2 (by omega)

/-- **the whole generated program, definedness included, is the model** under the invariant of `new` -/
theorem mark_prog_eq (start size logLen : Nat) (bm : AtomicBitmapMmap)
    (hnew : AtomicBitmapMmap.new start size logLen = some bm) (offset len : Nat) :
    ArithSig.AtomicOut.steps ((bm.markSteps offset len).map (fun s => (s.idx, s.mask.toNat))) =
      (Gen.BitmapOps.AtomicBitmapMmap.mark_dirty.prog.run (markIn bm offset len)) := by
  have hd := mark_loop_defined start size logLen bm hnew offset len
  have hg := mark_guards_never_fault bm offset len
  rw [markSteps_eq]
  unfold ArithSig.AtomicProg.run
  simp only [Gen.BitmapOps.AtomicBitmapMmap.mark_dirty.prog]
  cases h : ArithSig.runGuards Gen.BitmapOps.AtomicBitmapMmap.mark_dirty.guards (markIn bm offset len) with
  | fault => exact absurd h hg
  | exit k => simp
  | pass =>
    simp only [hd, if_true, List.map_map]
    congr 1
    unfold ArithSig.AtomicLoop.steps
    rw [List.map_map]
    apply List.map_congr_left
    intro p _
    simp only [Function.comp, stepOfGen, Gen.BitmapOps.AtomicBitmapMmap.mark_dirty.loop, UInt8.toNat_ofNat', shl_one,
      Nat.mod_mod]

/-! ## `AtomicBitmapMmap::dirty_at` (the read side; the model has no counterpart, the statement is against the property's
own `Spec.DirtyLog.bitAt`) -/

/-- the inputs of the generated `dirty_at`; `loaded` = what the atomic load returns -/
def dirtyIn (bm : AtomicBitmapMmap) (offset loaded : Nat) : Gen.BitmapOps.AtomicBitmapMmap.dirty_at.In :=
  { offset := offset, number_of_pages := bm.numberOfPages, pages_before_region := bm.pagesBeforeRegion,
    logmem_len := bm.logLen, loaded := loaded }

/-- for a bitmap that `new` accepted and a log of the mapped length: `dirty_at(offset)` returns `false` (exit 0) exactly
when the page lies outside the region, never faults, loads the byte of the absolute page and returns that page's bit —
the bit `mark_dirty` sets (`Props.C15.mark_exact`) -/
theorem dirty_at_reads_page_bit (start size logLen : Nat) (bm : AtomicBitmapMmap)
    (hnew : AtomicBitmapMmap.new start size logLen = some bm) (log : List UInt8) (hlog : log.length = logLen)
    (offset : Nat) :
    let idx := Gen.BitmapOps.AtomicBitmapMmap.dirty_at.load_idx (dirtyIn bm offset 0)
    let x := dirtyIn bm offset (log[idx]?.getD 0).toNat
    match ArithSig.runGuards Gen.BitmapOps.AtomicBitmapMmap.dirty_at.guards x with
    | .exit k => k = 0 ∧ pageNumber offset ≥ bm.numberOfPages
    | .pass => pageNumber offset < bm.numberOfPages ∧ idx = pageWord (bm.pagesBeforeRegion + pageNumber offset) ∧
        Gen.BitmapOps.AtomicBitmapMmap.dirty_at.result x =
          Spec.DirtyLog.bitAt log (bm.pagesBeforeRegion + pageNumber offset)
    | .fault => False := by
  obtain ⟨h0, h1, h2, rfl⟩ := (Lemmas.BitmapC15.new_eq_some_iff _ _ _ _).1 hnew
  unfold usizeMax at h1
  simp only [ArithSig.runGuards, ArithSig.runGuardsFrom, Gen.BitmapOps.AtomicBitmapMmap.dirty_at.guards,
    Gen.BitmapOps.AtomicBitmapMmap.dirty_at.page, Gen.BitmapOps.AtomicBitmapMmap.dirty_at.page_1,
    Gen.BitmapOps.AtomicBitmapMmap.dirty_at.load_idx, Gen.BitmapOps.AtomicBitmapMmap.dirty_at.result,
    Gen.BitmapOps.AtomicBitmapMmap.dirty_at.page_bit_1, dirtyIn, ← pageNumber_eq, ← pageWord_eq, ← pageBit_eq]
  by_cases hp : pageNumber offset ≥ size / 4096
  · simp [hp]
  · have hp' : pageNumber offset < size / 4096 := by omega
    have hb := Lemmas.BitmapC15.arith_bounds start size logLen (pageNumber offset) h2 hp'
    have ha : start / 4096 + pageNumber offset < 18446744073709551616 := by omega
    have hk : pageBit (start / 4096 + pageNumber offset) < 8 := by unfold pageBit logWordSize; omega
    have hw : pageWord (start / 4096 + pageNumber offset) < logLen := hb
    simp only [hp, decide_false, Bool.false_eq_true, if_false, ha, decide_true, if_true, hw, hk, Bool.and_self]
    refine ⟨hp', trivial, ?_⟩
    rw [and_shl_one_ne_zero _ _ hk, Lemmas.Bitmap.bitAt_eq]
    unfold Lemmas.Bitmap.byteBit
    have hw' : (start / 4096 + pageNumber offset) / 8 < log.length := by rw [hlog]; exact hb
    simp only [pageWord, logWordSize, pageBit, List.getElem?_eq_getElem hw', Option.getD_some]

/-! ## `BitmapMmapRegion::{mark_dirty, slice_at, dirty_at}` -/

def regionMarkIn (b : BitmapMmapRegion) (offset len : Nat) : Gen.BitmapOps.BitmapMmapRegion.mark_dirty.In :=
  { offset := offset, len := len, inner_is_some := b.inner.isSome, base_address := b.base }

/-- the source uses `checked_add` here: the inner `mark_dirty` is called iff there is an inner bitmap and
`base_address + offset` fits a `usize`, with exactly that sum -/
theorem region_mark_uses_checked_add (b : BitmapMmapRegion) (offset len : Nat) :
    Gen.BitmapOps.BitmapMmapRegion.mark_dirty.call_mark_dirty (regionMarkIn b offset len) =
      if b.inner.isSome = true ∧ b.base + offset < 2 ^ 64 then some (b.base + offset, len) else none := by
  unfold Gen.BitmapOps.BitmapMmapRegion.mark_dirty.call_mark_dirty Gen.BitmapOps.BitmapMmapRegion.mark_dirty.absolute_offset
    ArithSig.checkedAdd regionMarkIn
  by_cases h : b.base + offset < 2 ^ 64 <;> cases b.inner.isSome <;> simp [h]

/-- **the model's wrapper is the generated one**: the steps are those of the inner bitmap on the generated arguments, or none -/
theorem region_markSteps_eq (b : BitmapMmapRegion) (offset len : Nat) :
    b.markSteps offset len =
      match b.inner, Gen.BitmapOps.BitmapMmapRegion.mark_dirty.call_mark_dirty (regionMarkIn b offset len) with
      | some bm, some (a, l) => bm.markSteps a l
      | _, _ => [] := by
  rw [region_mark_uses_checked_add]
  unfold BitmapMmapRegion.markSteps
  rw [checkedAdd_model]
  unfold ArithSig.checkedAdd
  cases hi : b.inner with
  | none => simp
  | some bm => by_cases h : b.base + offset < 2 ^ 64 <;> simp [h]

theorem region_markDirty_eq (b : BitmapMmapRegion) (log : List UInt8) (offset len : Nat) :
    b.markDirty log offset len =
      runSteps log (match b.inner, Gen.BitmapOps.BitmapMmapRegion.mark_dirty.call_mark_dirty (regionMarkIn b offset len) with
        | some bm, some (a, l) => bm.markSteps a l
        | _, _ => []) := by
  unfold BitmapMmapRegion.markDirty; rw [region_markSteps_eq]

/-- **`slice_at`**: same inner bitmap, base by the generated expression — a `saturating_add` -/
theorem sliceAt_eq (b : BitmapMmapRegion) (offset : Nat) :
    b.sliceAt offset =
      { inner := b.inner,
        base := Gen.BitmapOps.BitmapMmapRegion.slice_at.ret_base_address { offset := offset, base_address := b.base } } := by
  unfold BitmapMmapRegion.sliceAt Gen.BitmapOps.BitmapMmapRegion.slice_at.ret_base_address
  rw [satAdd_model]

theorem slice_uses_saturating_add (base offset : Nat) :
    Gen.BitmapOps.BitmapMmapRegion.slice_at.ret_base_address { offset := offset, base_address := base } =
      min (base + offset) (2 ^ 64 - 1) :=
  satAdd_eq_min base offset

/-- `dirty_at` of the wrapper asks the inner bitmap (if any) about the saturated sum -/
theorem region_dirty_at_arg (base offset : Nat) (inner : Bool) :
    Gen.BitmapOps.BitmapMmapRegion.dirty_at.call_dirty_at { offset := offset, base_address := base, inner_is_some := inner } =
      if inner then some (min (base + offset) (2 ^ 64 - 1)) else none := by
  simp only [Gen.BitmapOps.BitmapMmapRegion.dirty_at.call_dirty_at, satAdd_eq_min]

/-- through any slice of a region whose bitmap `new` accepted, the whole generated pipeline (wrapper arguments, guards,
loop, definedness) is the model's `markSteps` -/
theorem region_prog_eq (start size logLen : Nat) (bm : AtomicBitmapMmap)
    (hnew : AtomicBitmapMmap.new start size logLen = some bm) (base offset len : Nat) :
    let b : BitmapMmapRegion := { inner := some bm, base := base }
    ArithSig.AtomicOut.steps ((b.markSteps offset len).map (fun s => (s.idx, s.mask.toNat))) =
      match Gen.BitmapOps.BitmapMmapRegion.mark_dirty.call_mark_dirty (regionMarkIn b offset len) with
      | some (a, l) => Gen.BitmapOps.AtomicBitmapMmap.mark_dirty.prog.run (markIn bm a l)
      | none => .steps [] := by
  intro b
  rw [region_markSteps_eq]
  cases h : Gen.BitmapOps.BitmapMmapRegion.mark_dirty.call_mark_dirty (regionMarkIn b offset len) with
  | none => rfl
  | some al => exact mark_prog_eq start size logLen bm hnew al.1 al.2

example : Gen.BitmapOps.BitmapMmapRegion.mark_dirty.call_mark_dirty
      { offset := 2, len := 5, inner_is_some := true, base_address := 2 ^ 64 - 2 } = none ∧
    Gen.BitmapOps.BitmapMmapRegion.slice_at.ret_base_address { offset := 2, base_address := 2 ^ 64 - 2 } = 2 ^ 64 - 1 := by
  decide

end Props.BitmapOps
