import VhostModel.Model.BackendSrv
import VhostModel.Gen.Dispatch
/-!
# The dispatch table of the model is the dispatch code of the source

`Gen.Dispatch.sigs` is regenerated on every run from `BackendReqHandler::handle_request`
(`backend_req_handler.rs`): for every `Ok(FrontendReq::X) => { … }` arm, the guard calls in front of the handler
invocation, in source order (feature checks, size checks, body extraction, file extraction, vring-fd parsing, enable
check), closed by the handler method (or the helper the arm delegates to).  The theorem says the hand-written table that
`Model.BackendSrv.dispatch` interprets is exactly that list — same arms, same order, same guards in the same order, same
handler method.  A dropped, added or reordered guard in the source therefore breaks this theorem (and with it the
checks of C04, C05 and C07, whose theorems are about the table).

Two kinds of generated entries are conversions that cannot fail once the body validator has passed and have no
counterpart in the table: `frombits:<Flags>` (`VhostUserVringAddrFlags::from_bits` after `VhostUserVringAddr::is_valid`
checked the same bits) and `convert` (direction/phase `try_into` after `VhostUserTransferDeviceState::is_valid`).
-/
namespace Props.Dispatch
open Model.BackendSrv

open Base

theorem arms_match_source :
    arms.map Arm.sig = Gen.Dispatch.sigs.map (fun p => (p.1, p.2.filter (fun s => !s.redundant))) := by
  rfl

/-- header read, attached-file policy and body read come before the dispatch, in this order -/
theorem prelude_order : Gen.Dispatch.prelude = ["check_state", "recv_header", "check_attached_files", "recv_data"] := by
  rfl

end Props.Dispatch
