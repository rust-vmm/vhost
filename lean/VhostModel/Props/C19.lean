import VhostModel.Props.C19Shapes
/-!
# C19 — kernel vhost / vhost-net / vhost-vsock / vhost-vDPA operations issue exactly the UAPI ioctls with UAPI layouts

`Model.Kern` (what the code does; request numbers, argument layouts, request-per-method, the IOTLB writer/parsers come
from `Gen.Ioctl`, i.e. from today's `vhost_kern/*.rs`) against `Spec.Uapi` (hand transcription of `<linux/vhost.h>` /
`<linux/vhost_types.h>`, itself compared with the system headers by `tools/uapi_probe.c` on every run).

Parts and main theorems, all in namespace `Props.C19`:

1. tables (`Props/C19Tables.lean`, `Props/C19Tables2.lean`) — `ioctl_numbers_match_uapi` (every `ioctl_io*_nr!` item has the
   direction, type, number, argument size and hence request value of the UAPI ioctl of that name), `op_issues_uapi_ioctl`
   (every method passes the request the UAPI defines for that operation; this is the obligation that F-C19-asid violated:
   `VhostVdpa.set_group_asid` issued `VHOST_VDPA_GET_VRING_GROUP`, repaired in /repo by commit 328a64e),
   `every_uapi_operation_is_issued`, `op_wrapper_fits_direction`, `binding_layouts_match_uapi`,
   `binding_consts_match_uapi`, `ops_as_modelled` (the argument initialisers the hand-written model assumes are the ones
   in the source), `layout_scenarios_meet_uapi`, `request_scenarios_meet_uapi`;
2. `arg_bytes_carry_values` (`Props/C19Shapes.lean`) — an argument image built from non-overlapping members reads back, at
   each member's offset, the caller's value modulo the member's width (all layouts, all values);
3. one theorem per operation, `<op>_meets_uapi` (this module; `get_config`, `set_config` and `set_mem_table` in
   `Props/C19Mem.lean`; `set_vring_addr` under 5; `get_iova_range` and `is_valid` have none): for **all** argument values,
   write-back patterns, kernel return codes, memory layouts and backends offering the operation, the model's run is the
   stated closed form (request number and byte image) and `Spec.Uapi.problem` finds nothing wrong with it: right request,
   argument bytes carrying the caller's values at the UAPI offsets (including `set_mem_table` for every table of 1..=255
   regions and `get_config`/`set_config` for every buffer), returned value = what the kernel wrote back, kernel failure
   reported as error;
4. IOTLB (`Props/C19Iotlb.lean`) — `iotlb_version_by_acked_feature` (v2 layout iff bit 1 of the acknowledged backend
   features), `iotlb_v1_roundtrip`, `iotlb_v2_roundtrip` (`parse (write m) = m` for all field values),
   `send_iotlb_msg_meets_uapi`, `dma_map_meets_uapi`, `dma_unmap_meets_uapi`, `parse_meets_uapi`;
5. ring configuration (`Props/C19Ring.lean`) — `sizeBad_iff`, `isLogAddrValid_false_iff`,
   `invalid_ring_config_refused_before_ioctl`, `ring_addr_translation`, `ring_addr_unchanged_vdpa`,
   `set_vring_addr_meets_uapi`, `set_vring_addr_vdpa_meets_uapi`.

Each theorem of this module states the closed form of the model's run (request number, argument image, result) for all
argument values and environments, and that the Spec's verdict on it is "no problem".  That the request is the UAPI's
follows from the tables (`issued_is_uapi`).

Modelled, not proved: that the compiled crate behaves like `Model.Kern` — tied by the translator (`Gen.Ioctl`) and by the
`kern` correspondence family (every scenario: harness observation = `Drv.Kern` prediction).  Values wider than their
UAPI field are compared modulo the field width (see the header of `Spec/Uapi.lean` for the other readings).
-/

namespace Props.C19
open Base Base.K Gen.Ioctl Model.Kern Lemmas.Kern

theorem get_features_meets_uapi (be : String) (hbe : be ∈ BES) (e : Env) :
    run (inp be "get_features" [] e) = some ⟨[.io 0x8008af00 (leBytes 8 0)], if e.rc ≠ 0 then .err "ioctl" else .okv (leVal (after e 0x8008af00 (leBytes 8 0))), none⟩ ∧
    ∀ o, run (inp be "get_features" [] e) = some o → Spec.Uapi.problem (inp be "get_features" [] e) o = none := by
  obtain ⟨hr, hx, hk⟩ := blanket hbe (op := "get_features") (by decide +kernel) [] e
  exact get_scalar_meets_uapi (scope := "VhostBackend") (method := "get_features") (hr.trans rfl) (Option.some.inj (issued_at 0)) (hx.trans rfl) (by decide) hk

theorem set_features_meets_uapi (be : String) (hbe : be ∈ BES) (f : Nat) (e : Env) :
    run (inp be "set_features" [f] e) = some ⟨[.io 0x4008af00 (leBytes 8 f)], unitR e, none⟩ ∧
    ∀ o, run (inp be "set_features" [f] e) = some o → Spec.Uapi.problem (inp be "set_features" [f] e) o = none := by
  obtain ⟨hr, hx, hk⟩ := blanket hbe (op := "set_features") (by decide +kernel) [f] e
  exact set_scalar_meets_uapi (scope := "VhostBackend") (method := "set_features") (hr.trans rfl) (Option.some.inj (issued_at 1)) (hx.trans rfl) (by decide) hk

theorem set_owner_meets_uapi (be : String) (hbe : be ∈ BES) (e : Env) :
    run (inp be "set_owner" [] e) = some ⟨[.io 0xaf01 (zeros 8)], unitR e, none⟩ ∧
    ∀ o, run (inp be "set_owner" [] e) = some o → Spec.Uapi.problem (inp be "set_owner" [] e) o = none := by
  obtain ⟨hr, hx, hk⟩ := blanket hbe (op := "set_owner") (by decide +kernel) [] e
  exact noarg_meets_uapi (scope := "VhostBackend") (method := "set_owner") (hr.trans rfl) (Option.some.inj (issued_at 2)) (hx.trans rfl) (by decide) hk

theorem reset_owner_meets_uapi (be : String) (hbe : be ∈ BES) (e : Env) :
    run (inp be "reset_owner" [] e) = some ⟨[.io 0xaf02 (zeros 8)], unitR e, none⟩ ∧
    ∀ o, run (inp be "reset_owner" [] e) = some o → Spec.Uapi.problem (inp be "reset_owner" [] e) o = none := by
  obtain ⟨hr, hx, hk⟩ := blanket hbe (op := "reset_owner") (by decide +kernel) [] e
  exact noarg_meets_uapi (scope := "VhostBackend") (method := "reset_owner") (hr.trans rfl) (Option.some.inj (issued_at 3)) (hx.trans rfl) (by decide) hk

theorem set_log_base_meets_uapi (be : String) (hbe : be ∈ BES) (base : Nat) (e : Env) :
    run (inp be "set_log_base" [base, 0] e) = some ⟨[.io 0x4008af04 (leBytes 8 base)], unitR e, none⟩ ∧
    ∀ o, run (inp be "set_log_base" [base, 0] e) = some o → Spec.Uapi.problem (inp be "set_log_base" [base, 0] e) o = none := by
  obtain ⟨hr, hx, hk⟩ := blanket hbe (op := "set_log_base") (by decide +kernel) [base, 0] e
  exact set_scalar_meets_uapi (scope := "VhostBackend") (method := "set_log_base") (hr.trans rfl) (Option.some.inj (issued_at 5)) (hx.trans rfl) (by decide) hk

theorem set_log_fd_meets_uapi (be : String) (hbe : be ∈ BES) (fd : Nat) (e : Env) :
    run (inp be "set_log_fd" [fd] e) = some ⟨[.io 0x4004af07 (leBytes 4 fd)], unitR e, none⟩ ∧
    ∀ o, run (inp be "set_log_fd" [fd] e) = some o → Spec.Uapi.problem (inp be "set_log_fd" [fd] e) o = none := by
  obtain ⟨hr, hx, hk⟩ := blanket hbe (op := "set_log_fd") (by decide +kernel) [fd] e
  exact set_scalar_meets_uapi (scope := "VhostBackend") (method := "set_log_fd") (hr.trans rfl) (Option.some.inj (issued_at 6)) (hx.trans rfl) (by decide) hk

theorem set_vring_num_meets_uapi (be : String) (hbe : be ∈ BES) (q n : Nat) (e : Env) :
    run (inp be "set_vring_num" [q, n] e) = some ⟨[.io 0x4008af10 (imageOf 8 [(0, 4, q), (4, 4, n % 2 ^ 16)])], unitR e, none⟩ ∧
    ∀ o, run (inp be "set_vring_num" [q, n] e) = some o → Spec.Uapi.problem (inp be "set_vring_num" [q, n] e) o = none := by
  obtain ⟨hr, hx, hk⟩ := blanket hbe (op := "set_vring_num") (by decide +kernel) [q, n] e
  exact set_pair_meets_uapi (scope := "VhostBackend") (method := "set_vring_num") vring_state_layout (hr.trans rfl) (Option.some.inj (issued_at 7)) (hx.trans rfl) (by decide) hk

theorem set_vring_base_meets_uapi (be : String) (hbe : be ∈ BES) (q n : Nat) (e : Env) :
    run (inp be "set_vring_base" [q, n] e) = some ⟨[.io 0x4008af12 (imageOf 8 [(0, 4, q), (4, 4, n % 2 ^ 16)])], unitR e, none⟩ ∧
    ∀ o, run (inp be "set_vring_base" [q, n] e) = some o → Spec.Uapi.problem (inp be "set_vring_base" [q, n] e) o = none := by
  obtain ⟨hr, hx, hk⟩ := blanket hbe (op := "set_vring_base") (by decide +kernel) [q, n] e
  exact set_pair_meets_uapi (scope := "VhostBackend") (method := "set_vring_base") vring_state_layout (hr.trans rfl) (Option.some.inj (issued_at 9)) (hx.trans rfl) (by decide) hk

theorem get_vring_base_meets_uapi (be : String) (hbe : be ∈ BES) (q : Nat) (e : Env) :
    run (inp be "get_vring_base" [q] e) = some ⟨[.io 0xc008af12 (imageOf 8 [(0, 4, q), (4, 4, 0)])], if e.rc ≠ 0 then .err "ioctl" else .okv (peek (after e 0xc008af12 (imageOf 8 [(0, 4, q), (4, 4, 0)])) 4 4), none⟩ ∧
    ∀ o, run (inp be "get_vring_base" [q] e) = some o → Spec.Uapi.problem (inp be "get_vring_base" [q] e) o = none := by
  obtain ⟨hr, hx, hk⟩ := blanket hbe (op := "get_vring_base") (by decide +kernel) [q] e
  exact get_pair_meets_uapi (scope := "VhostBackend") (method := "get_vring_base") vring_state_layout (hr.trans rfl) (Option.some.inj (issued_at 10)) (hx.trans rfl) (by decide) hk

theorem set_vring_call_meets_uapi (be : String) (hbe : be ∈ BES) (q fd : Nat) (e : Env) :
    run (inp be "set_vring_call" [q, fd] e) = some ⟨[.io 0x4008af21 (imageOf 8 [(0, 4, q), (4, 4, fd)])], unitR e, none⟩ ∧
    ∀ o, run (inp be "set_vring_call" [q, fd] e) = some o → Spec.Uapi.problem (inp be "set_vring_call" [q, fd] e) o = none := by
  obtain ⟨hr, hx, hk⟩ := blanket hbe (op := "set_vring_call") (by decide +kernel) [q, fd] e
  exact set_pair_meets_uapi (scope := "VhostBackend") (method := "set_vring_call") vring_file_layout (hr.trans rfl) (Option.some.inj (issued_at 11)) (hx.trans rfl) (by decide) hk

theorem set_vring_kick_meets_uapi (be : String) (hbe : be ∈ BES) (q fd : Nat) (e : Env) :
    run (inp be "set_vring_kick" [q, fd] e) = some ⟨[.io 0x4008af20 (imageOf 8 [(0, 4, q), (4, 4, fd)])], unitR e, none⟩ ∧
    ∀ o, run (inp be "set_vring_kick" [q, fd] e) = some o → Spec.Uapi.problem (inp be "set_vring_kick" [q, fd] e) o = none := by
  obtain ⟨hr, hx, hk⟩ := blanket hbe (op := "set_vring_kick") (by decide +kernel) [q, fd] e
  exact set_pair_meets_uapi (scope := "VhostBackend") (method := "set_vring_kick") vring_file_layout (hr.trans rfl) (Option.some.inj (issued_at 12)) (hx.trans rfl) (by decide) hk

theorem set_vring_err_meets_uapi (be : String) (hbe : be ∈ BES) (q fd : Nat) (e : Env) :
    run (inp be "set_vring_err" [q, fd] e) = some ⟨[.io 0x4008af22 (imageOf 8 [(0, 4, q), (4, 4, fd)])], unitR e, none⟩ ∧
    ∀ o, run (inp be "set_vring_err" [q, fd] e) = some o → Spec.Uapi.problem (inp be "set_vring_err" [q, fd] e) o = none := by
  obtain ⟨hr, hx, hk⟩ := blanket hbe (op := "set_vring_err") (by decide +kernel) [q, fd] e
  exact set_pair_meets_uapi (scope := "VhostBackend") (method := "set_vring_err") vring_file_layout (hr.trans rfl) (Option.some.inj (issued_at 13)) (hx.trans rfl) (by decide) hk

theorem get_backend_features_meets_uapi (be : String) (hbe : be ∈ FBES) (e : Env) :
    run (inp be "get_backend_features" [] e) = some ⟨[.io 0x8008af26 (leBytes 8 0)], if e.rc ≠ 0 then .err "ioctl" else .okv (leVal (after e 0x8008af26 (leBytes 8 0))), none⟩ ∧
    ∀ o, run (inp be "get_backend_features" [] e) = some o → Spec.Uapi.problem (inp be "get_backend_features" [] e) o = none := by
  obtain ⟨hr, hx⟩ := features hbe (op := "get_backend_features") (by decide +kernel) [] e
  exact get_scalar_meets_uapi (scope := "VhostKernFeatures") (method := "get_backend_features") (hr.trans rfl) (Option.some.inj (issued_at 14)) (hx.trans rfl) (by decide) rfl

theorem set_backend_meets_uapi (q hasFd fd : Nat) (e : Env) :
    run (inp "net" "set_backend" [q, hasFd, fd] e) = some ⟨[.io 0x4008af30 (imageOf 8 [(0, 4, q), (4, 4, (if hasFd != 0 then fd else 2 ^ 32 - 1))])], unitR e, none⟩ ∧
    ∀ o, run (inp "net" "set_backend" [q, hasFd, fd] e) = some o → Spec.Uapi.problem (inp "net" "set_backend" [q, hasFd, fd] e) o = none :=
  set_pair_meets_uapi (scope := "VhostNet") (method := "set_backend") vring_file_layout rfl (Option.some.inj (issued_at 33)) rfl (by decide) rfl

theorem set_guest_cid_meets_uapi (cid : Nat) (e : Env) :
    run (inp "vsock" "set_guest_cid" [cid] e) = some ⟨[.io 0x4008af60 (leBytes 8 cid)], unitR e, none⟩ ∧
    ∀ o, run (inp "vsock" "set_guest_cid" [cid] e) = some o → Spec.Uapi.problem (inp "vsock" "set_guest_cid" [cid] e) o = none :=
  set_scalar_meets_uapi (scope := "VhostVsock") (method := "set_guest_cid") rfl (Option.some.inj (issued_at 35)) rfl (by decide) rfl

theorem start_meets_uapi (e : Env) :
    run (inp "vsock" "start" [] e) = some ⟨[.io 0x4004af61 (leBytes 4 1)], unitR e, none⟩ ∧
    ∀ o, run (inp "vsock" "start" [] e) = some o → Spec.Uapi.problem (inp "vsock" "start" [] e) o = none :=
  set_scalar_meets_uapi (scope := "Vsock") (method := "set_running") rfl (Option.some.inj (issued_at 34)) rfl (by decide) rfl

theorem stop_meets_uapi (e : Env) :
    run (inp "vsock" "stop" [] e) = some ⟨[.io 0x4004af61 (leBytes 4 0)], unitR e, none⟩ ∧
    ∀ o, run (inp "vsock" "stop" [] e) = some o → Spec.Uapi.problem (inp "vsock" "stop" [] e) o = none :=
  set_scalar_meets_uapi (scope := "Vsock") (method := "set_running") rfl (Option.some.inj (issued_at 34)) rfl (by decide) rfl

theorem get_device_id_meets_uapi (e : Env) :
    run (inp "vdpa" "get_device_id" [] e) = some ⟨[.io 0x8004af70 (leBytes 4 0)], if e.rc ≠ 0 then .err "ioctl" else .okv (leVal (after e 0x8004af70 (leBytes 4 0))), none⟩ ∧
    ∀ o, run (inp "vdpa" "get_device_id" [] e) = some o → Spec.Uapi.problem (inp "vdpa" "get_device_id" [] e) o = none :=
  get_scalar_meets_uapi (scope := "VhostVdpa") (method := "get_device_id") rfl (Option.some.inj (issued_at 17)) rfl (by decide) rfl

theorem get_status_meets_uapi (e : Env) :
    run (inp "vdpa" "get_status" [] e) = some ⟨[.io 0x8001af71 (leBytes 1 0)], if e.rc ≠ 0 then .err "ioctl" else .okv (leVal (after e 0x8001af71 (leBytes 1 0))), none⟩ ∧
    ∀ o, run (inp "vdpa" "get_status" [] e) = some o → Spec.Uapi.problem (inp "vdpa" "get_status" [] e) o = none :=
  get_scalar_meets_uapi (scope := "VhostVdpa") (method := "get_status") rfl (Option.some.inj (issued_at 18)) rfl (by decide) rfl

theorem set_status_meets_uapi (s : Nat) (e : Env) :
    run (inp "vdpa" "set_status" [s] e) = some ⟨[.io 0x4001af72 (leBytes 1 s)], unitR e, none⟩ ∧
    ∀ o, run (inp "vdpa" "set_status" [s] e) = some o → Spec.Uapi.problem (inp "vdpa" "set_status" [s] e) o = none :=
  set_scalar_meets_uapi (scope := "VhostVdpa") (method := "set_status") rfl (Option.some.inj (issued_at 19)) rfl (by decide) rfl

theorem set_vring_enable_meets_uapi (q en : Nat) (e : Env) :
    run (inp "vdpa" "set_vring_enable" [q, en] e) = some ⟨[.io 0x4008af75 (imageOf 8 [(0, 4, q), (4, 4, (if en != 0 then 1 else 0))])], unitR e, none⟩ ∧
    ∀ o, run (inp "vdpa" "set_vring_enable" [q, en] e) = some o → Spec.Uapi.problem (inp "vdpa" "set_vring_enable" [q, en] e) o = none :=
  set_pair_meets_uapi (scope := "VhostVdpa") (method := "set_vring_enable") vring_state_layout rfl (Option.some.inj (issued_at 22)) rfl (by decide) rfl

theorem get_vring_num_meets_uapi (e : Env) :
    run (inp "vdpa" "get_vring_num" [] e) = some ⟨[.io 0x8002af76 (leBytes 2 0)], if e.rc ≠ 0 then .err "ioctl" else .okv (leVal (after e 0x8002af76 (leBytes 2 0))), none⟩ ∧
    ∀ o, run (inp "vdpa" "get_vring_num" [] e) = some o → Spec.Uapi.problem (inp "vdpa" "get_vring_num" [] e) o = none :=
  get_scalar_meets_uapi (scope := "VhostVdpa") (method := "get_vring_num") rfl (Option.some.inj (issued_at 23)) rfl (by decide) rfl

theorem set_config_call_meets_uapi (fd : Nat) (e : Env) :
    run (inp "vdpa" "set_config_call" [fd] e) = some ⟨[.io 0x4004af77 (leBytes 4 fd)], unitR e, none⟩ ∧
    ∀ o, run (inp "vdpa" "set_config_call" [fd] e) = some o → Spec.Uapi.problem (inp "vdpa" "set_config_call" [fd] e) o = none :=
  set_scalar_meets_uapi (scope := "VhostVdpa") (method := "set_config_call") rfl (Option.some.inj (issued_at 24)) rfl (by decide) rfl

theorem get_config_size_meets_uapi (e : Env) :
    run (inp "vdpa" "get_config_size" [] e) = some ⟨[.io 0x8004af79 (leBytes 4 0)], if e.rc ≠ 0 then .err "ioctl" else .okv (leVal (after e 0x8004af79 (leBytes 4 0))), none⟩ ∧
    ∀ o, run (inp "vdpa" "get_config_size" [] e) = some o → Spec.Uapi.problem (inp "vdpa" "get_config_size" [] e) o = none :=
  get_scalar_meets_uapi (scope := "VhostVdpa") (method := "get_config_size") rfl (Option.some.inj (issued_at 26)) rfl (by decide) rfl

theorem get_vqs_count_meets_uapi (e : Env) :
    run (inp "vdpa" "get_vqs_count" [] e) = some ⟨[.io 0x8004af80 (leBytes 4 0)], if e.rc ≠ 0 then .err "ioctl" else .okv (leVal (after e 0x8004af80 (leBytes 4 0))), none⟩ ∧
    ∀ o, run (inp "vdpa" "get_vqs_count" [] e) = some o → Spec.Uapi.problem (inp "vdpa" "get_vqs_count" [] e) o = none :=
  get_scalar_meets_uapi (scope := "VhostVdpa") (method := "get_vqs_count") rfl (Option.some.inj (issued_at 27)) rfl (by decide) rfl

theorem get_group_num_meets_uapi (e : Env) :
    run (inp "vdpa" "get_group_num" [] e) = some ⟨[.io 0x8004af81 (leBytes 4 0)], if e.rc ≠ 0 then .err "ioctl" else .okv (leVal (after e 0x8004af81 (leBytes 4 0))), none⟩ ∧
    ∀ o, run (inp "vdpa" "get_group_num" [] e) = some o → Spec.Uapi.problem (inp "vdpa" "get_group_num" [] e) o = none :=
  get_scalar_meets_uapi (scope := "VhostVdpa") (method := "get_group_num") rfl (Option.some.inj (issued_at 28)) rfl (by decide) rfl

theorem get_as_num_meets_uapi (e : Env) :
    run (inp "vdpa" "get_as_num" [] e) = some ⟨[.io 0x8004af7a (leBytes 4 0)], if e.rc ≠ 0 then .err "ioctl" else .okv (leVal (after e 0x8004af7a (leBytes 4 0))), none⟩ ∧
    ∀ o, run (inp "vdpa" "get_as_num" [] e) = some o → Spec.Uapi.problem (inp "vdpa" "get_as_num" [] e) o = none :=
  get_scalar_meets_uapi (scope := "VhostVdpa") (method := "get_as_num") rfl (Option.some.inj (issued_at 29)) rfl (by decide) rfl

theorem get_vring_group_meets_uapi (q : Nat) (e : Env) :
    run (inp "vdpa" "get_vring_group" [q] e) = some ⟨[.io 0xc008af7b (imageOf 8 [(0, 4, q), (4, 4, 0)])], if e.rc ≠ 0 then .err "ioctl" else .okv (peek (after e 0xc008af7b (imageOf 8 [(0, 4, q), (4, 4, 0)])) 4 4), none⟩ ∧
    ∀ o, run (inp "vdpa" "get_vring_group" [q] e) = some o → Spec.Uapi.problem (inp "vdpa" "get_vring_group" [q] e) o = none :=
  get_pair_meets_uapi (scope := "VhostVdpa") (method := "get_vring_group") vring_state_layout rfl (Option.some.inj (issued_at 30)) rfl (by decide) rfl

theorem set_group_asid_meets_uapi (g asid : Nat) (e : Env) :
    run (inp "vdpa" "set_group_asid" [g, asid] e) = some ⟨[.io 0x4008af7c (imageOf 8 [(0, 4, g), (4, 4, asid)])], unitR e, none⟩ ∧
    ∀ o, run (inp "vdpa" "set_group_asid" [g, asid] e) = some o → Spec.Uapi.problem (inp "vdpa" "set_group_asid" [g, asid] e) o = none :=
  set_pair_meets_uapi (scope := "VhostVdpa") (method := "set_group_asid") vring_state_layout rfl (Option.some.inj (issued_at 31)) rfl (by decide) rfl

theorem suspend_meets_uapi (e : Env) :
    run (inp "vdpa" "suspend" [] e) = some ⟨[.io 0xaf7d (zeros 8)], unitR e, none⟩ ∧
    ∀ o, run (inp "vdpa" "suspend" [] e) = some o → Spec.Uapi.problem (inp "vdpa" "suspend" [] e) o = none :=
  noarg_meets_uapi (scope := "VhostVdpa") (method := "suspend") rfl (Option.some.inj (issued_at 32)) rfl (by decide) rfl

/-- `set_backend_features(f)`: `VHOST_SET_BACKEND_FEATURES` with `f`; the acknowledged set becomes `f` exactly when the
    kernel accepted the call -/
theorem set_backend_features_meets_uapi (be : String) (hbe : be ∈ FBES) (f : Nat) (e : Env) :
    run (inp be "set_backend_features" [f] e) =
      some ⟨[.io 0x4008af25 (leBytes 8 f)], unitR e, some (if e.rc = 0 then f % 2 ^ 64 else e.feat)⟩ ∧
    ∀ o, run (inp be "set_backend_features" [f] e) = some o →
      Spec.Uapi.problem (inp be "set_backend_features" [f] e) o = none := by
  obtain ⟨hr, hx⟩ := features hbe (op := "set_backend_features") (by decide +kernel) [f] e
  obtain ⟨hq, u, hu, hur, hus⟩ :=
    issued_is_uapi (scope := "VhostKernFeatures") (method := "set_backend_features") (req := 0x4008af25) (size := 8)
      (Option.some.inj (issued_at 15))
  have hrun : run (inp be "set_backend_features" [f] e) =
      some ⟨[.io 0x4008af25 (leBytes 8 f)], unitR e, some (if e.rc = 0 then f % 2 ^ 64 else e.feat)⟩ := by
    rw [hr]
    show (do
      let o ← ioCall (inp be "set_backend_features" [f] e) "VhostKernFeatures" "set_backend_features" (some (leBytes 8 f)) unitRet
      pure { o with acked := some (if e.rc = 0 then f % 2 ^ 64 else e.feat) }) = _
    rw [ioCall_eq _ _ _ _ _ _ hq, captured_some _ _ (Nat.le_trans (Nat.le_of_eq (leBytes_length 8 f)) (by decide))]
    rfl
  refine ⟨hrun, fun o ho => ?_⟩
  cases hrun.symm.trans ho
  exact problem_ioctl _ _ _ (.scalar f) .unit false u _ 8 _ (hx.trans rfl) hu hur hus rfl (argProblem_scalar_le 8 f)
    (retProblem_unit _ _ _) (Or.inr rfl)

/-- `set_log_base` with a log region is refused by the kernel backends before any ioctl (the property makes no demand) -/
theorem set_log_base_with_region_refused (be : String) (hbe : be ∈ BES) (base hasRegion : Nat) (h : hasRegion ≠ 0) (e : Env) :
    run (inp be "set_log_base" [base, hasRegion] e) = some ⟨[], .err "logaddr", none⟩ ∧
    Spec.Uapi.problem (inp be "set_log_base" [base, hasRegion] e) ⟨[], .err "logaddr", none⟩ = none := by
  have hb : (hasRegion != 0) = true := by simpa using h
  obtain ⟨hr, hx, -⟩ := blanket hbe (op := "set_log_base") (by decide +kernel) [base, hasRegion] e
  have h1 : backendOp (inp be "set_log_base" [base, hasRegion] e) =
      if (hasRegion != 0) = true then some ⟨[], .err "logaddr", none⟩
      else ioCall (inp be "set_log_base" [base, hasRegion] e) "VhostBackend" "set_log_base" (some (leBytes 8 base)) unitRet := rfl
  have h2 : Spec.Uapi.expect (inp "kern" "set_log_base" [base, hasRegion] e) =
      if (hasRegion != 0) = true then .free else .ioctl "VhostBackend.set_log_base" (.scalar base) .unit false := rfl
  exact ⟨by rw [hr, h1, if_pos hb], problem_free _ _ (by rw [hx, h2, if_pos hb])⟩

end Props.C19
