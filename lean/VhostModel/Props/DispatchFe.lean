import VhostModel.Model.FrontendSrv
import VhostModel.Gen.DispatchFe
/-!
# The dispatch table of the frontend's request server model is the dispatch code of the source

`Gen.DispatchFe` is regenerated on every run from `FrontendReqHandler::handle_request` and `check_attached_files`
(`frontend_req_handler.rs`): per `Ok(BackendReq::X) => { … }` arm the size check or body extraction, the handler
method and whether it is handed `&files.unwrap()[0]`; the request codes for which exactly one descriptor is demanded
(every other code: none — the translator refuses any other shape of `check_attached_files`); the calls in front of and
behind the dispatch.  The theorems say the hand-written table interpreted by `Model.FrontendSrv.dispatch` is that list.
In particular `file_arms_are_file_codes` is what makes `files.unwrap()[0]` total: an arm uses the file iff
`check_attached_files` has demanded exactly one for its code.
-/
namespace Props.DispatchFe
open Base Model.FrontendSrv

def Arm.sig (a : Arm) : Nat × List Sig :=
  (a.code, (match a.body with | some t => [Sig.body t] | none => [Sig.sizeZero]) ++ [Sig.call a.method] ++
    (if a.file then [Sig.file "unwrap0"] else []))

theorem arms_match_source : arms.map Arm.sig = Gen.DispatchFe.sigs := by rfl

theorem file_codes_match_source : fileCodes = Gen.DispatchFe.fileCodes := by rfl

/-- an arm dereferences `files.unwrap()[0]` exactly when `check_attached_files` demanded one file for its code -/
theorem file_arms_are_file_codes :
    ∀ p ∈ Gen.DispatchFe.sigs, (p.2.contains (Sig.file "unwrap0")) = Gen.DispatchFe.fileCodes.contains p.1 := by decide

theorem prelude_order :
    Gen.DispatchFe.prelude = ["check_state", "recv_header", "check_attached_files", "recv_data"] ∧
    Gen.DispatchFe.epilogue = ["send_ack_message", "res"] := ⟨by rfl, by rfl⟩

end Props.DispatchFe
