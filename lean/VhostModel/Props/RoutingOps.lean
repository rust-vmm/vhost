import VhostModel.Gen.RoutingOps
import VhostModel.Lemmas.ArithOps
import VhostModel.Props.C17
/-!
# The routing arithmetic of the model is the routing arithmetic of the source

`Gen/RoutingOps.lean` is regenerated on every run from `vhost-user-backend/src/handler.rs` and `src/event_loop.rs`:

* `VhostUserHandler::new`: the bit test that puts ring `index` into a worker's slice, the length of `vrings`, the worker id
  and the position of the worker in `handlers`;
* `update_vring_registration`, `unregister_vring_kick`: one `RouteRow` per epoll call — the shifted mask, the bit test, the
  event id `queues_mask.count_ones() - shifted.count_ones()`, the definedness of the shift (`index < 64`) and of the `u32`
  subtraction, which handler is addressed, the `break`; `initialize_vring` (delegates); every call site of the three with
  its index argument (`index` / `index as u8`);
* `VringEpollHandler::new` (id of the exit event), `register_listener` / `unregister_listener` (the refusal condition),
  `register_event` / `unregister_event`, `run` (`event.data() as u16`), `handle_event` (exit test, ring test, ring index,
  id handed to the backend).

Masks are `BitVec 64` in the model and naturals `< 2^64` (`m.toNat`) in the generated functions.  The theorems hold for
**all** masks and indexes; where the Rust shift is only defined for `index < 64` the generated definedness condition says
so and `*_defined` proves it under that hypothesis only.
-/
namespace Props.RoutingOps
open Model.Routing Lemmas.ArithOps

/-! ## the bit test and the worker slices (`VhostUserHandler::new`) -/

/-- `hasQueue` is the generated bit test, for every mask and every index -/
theorem hasQueue_eq_keep (m : U64) (q : Nat) : hasQueue m q = Gen.RoutingOps.new.keep m.toNat q := by
  rw [Lemmas.Routing.hasQueue_iff]
  unfold Spec.Routing.inMask Gen.RoutingOps.new.keep
  rw [Lemmas.Routing.shift_and_one]

/-- the shift of the test is defined exactly for `index < 64` -/
theorem keep_defd (m q : Nat) : Gen.RoutingOps.new.keep.defd m q = decide (q < 64) := rfl

/-- **`threadVrings` is the generated filter loop** over the `vrings_len num_queues = num_queues` rings -/
theorem threadVrings_eq (masks : List U64) (n t : Nat) :
    threadVrings masks n t = masks[t]?.map (fun m => Gen.RoutingOps.new.slice.run n m.toNat) := by
  unfold threadVrings ArithSig.FilterLoop.run
  congr 1
  funext m
  have : (fun q => hasQueue m q) = Gen.RoutingOps.new.slice.keep m.toNat := by
    funext q; exact hasQueue_eq_keep m q
  simp only [Gen.RoutingOps.new.slice, Gen.RoutingOps.new.vrings_len, Nat.sub_zero] at this ⊢
  rw [← this]

theorem vrings_len_eq (n : Nat) : Gen.RoutingOps.new.vrings_len n = n := rfl

/-- no shift of the slice loop is undefined when there are at most 64 queues -/
theorem slice_defined (n m : Nat) (hn : n ≤ 64) : Gen.RoutingOps.new.slice.defined n m = true := by
  unfold ArithSig.FilterLoop.defined
  rw [List.all_eq_true]
  intro q hq
  have := List.mem_range.1 hq
  simp only [Gen.RoutingOps.new.slice, Gen.RoutingOps.new.vrings_len, Nat.sub_zero] at this ⊢
  rw [keep_defd]; exact decide_eq_true (by omega)

/-- the worker built for the mask at position `t` gets thread id `t` and is `handlers[t]` -/
theorem worker_position (t : Nat) : Gen.RoutingOps.new.worker_id t = t ∧ Gen.RoutingOps.new.handler_pos t = t := ⟨rfl, rfl⟩

/-! ## the event index (every occurrence) -/

/-- the generated rows: one per epoll call behind the mask arithmetic -/
theorem route_rows_count : Gen.RoutingOps.routeRows.length = 3 := rfl

theorem route_rows_ops : Gen.RoutingOps.routeRows.map (fun r => (r.fn, r.op)) =
    [("update_vring_registration", "register_event"), ("update_vring_registration", "unregister_event"),
     ("unregister_vring_kick", "unregister_event")] := by rfl

/-- the canonical expressions (`update_vring_registration`) against the model, for all masks and indexes -/
theorem evt_idx_eq (m : U64) (q : Nat) : Gen.RoutingOps.update_vring_registration.evt_idx m.toNat q = evtIdx m q := by
  unfold Gen.RoutingOps.update_vring_registration.evt_idx Gen.RoutingOps.update_vring_registration.shifted_queues_mask
  rw [evtIdx_toNat]

theorem test_eq (m : U64) (q : Nat) :
    (((Gen.RoutingOps.update_vring_registration.shifted_queues_mask m.toNat q) &&& 1) == 1) = hasQueue m q := by
  rw [hasQueue_eq_keep]; rfl

/-- **every occurrence generates the same expressions** (as functions): bit test, event id, their definedness conditions,
the handler addressed and the `break` -/
theorem rows_all_equal : ∀ r ∈ Gen.RoutingOps.routeRows,
    r.test = (fun m q => ((Gen.RoutingOps.update_vring_registration.shifted_queues_mask m q) &&& 1) == 1) ∧
    r.testDefd = (fun _ q => decide (q < 64)) ∧
    r.data = Gen.RoutingOps.update_vring_registration.evt_idx ∧
    r.dataDefd = (fun m q => decide (ArithSig.countOnes 64 (m >>> q) ≤ ArithSig.countOnes 64 m)) ∧
    r.handler = (fun t => t) ∧ r.breaks = true := by
  intro r hr
  simp only [Gen.RoutingOps.routeRows, Gen.RoutingOps.update_vring_registration.rows,
    Gen.RoutingOps.unregister_vring_kick.rows, List.cons_append, List.nil_append, List.mem_cons, List.not_mem_nil,
    or_false] at hr
  rcases hr with rfl | rfl | rfl <;> exact ⟨rfl, rfl, rfl, rfl, rfl, rfl⟩

/-- **every occurrence is the model**: for all masks (`BitVec 64`) and all indexes the bit test is `hasQueue`, the event id
is `evtIdx`; for `index < 64` the shift and the `u32` subtraction are defined -/
theorem rows_eq_model : ∀ r ∈ Gen.RoutingOps.routeRows, ∀ (m : U64) (q : Nat),
    r.test m.toNat q = hasQueue m q ∧ r.data m.toNat q = evtIdx m q ∧
    r.testDefd m.toNat q = decide (q < 64) ∧ (q < 64 → r.dataDefd m.toNat q = true) := by
  intro r hr m q
  obtain ⟨h1, h2, h3, h4, _, _⟩ := rows_all_equal r hr
  rw [h1, h2, h3, h4]
  refine ⟨test_eq m q, evt_idx_eq m q, rfl, ?_⟩
  intro hq
  exact decide_eq_true (countOnes_shift_le m.toNat q m.isLt (by omega))

/-- the loop of a row, started at enumeration index `t`, is `registrationFrom` -/
theorem row_runFrom_eq (r : ArithSig.RouteRow) (hr : r ∈ Gen.RoutingOps.routeRows) (q : Nat) (hq : q < 64)
    (masks : List U64) (t : Nat) :
    r.runFrom q t (masks.map (·.toNat)) =
      (match registrationFrom q t masks with | none => .none | some (t', e) => .some t' e) := by
  obtain ⟨_, _, _, _, h5, _⟩ := rows_all_equal r hr
  induction masks generalizing t with
  | nil => rfl
  | cons m ms ih =>
    obtain ⟨h1, h2, h3, h4⟩ := rows_eq_model r hr m q
    simp only [List.map_cons, ArithSig.RouteRow.runFrom, registrationFrom, h1, h2, h3, h4 hq, hq, decide_true, if_true, h5]
    cases hasQueue m q
    · simp only [Bool.false_eq_true, if_false]; exact ih (t + 1)
    · simp

/-- **`registration` is every generated row's loop**: same thread, same event id, no undefined arithmetic for `index < 64` -/
theorem registration_eq (masks : List U64) (q : Nat) (hq : q < 64) : ∀ r ∈ Gen.RoutingOps.routeRows,
    r.run (masks.map (·.toNat)) q = (match registration masks q with | none => .none | some (t, e) => .some t e) := by
  intro r hr
  exact row_runFrom_eq r hr q hq masks 0

/-- `initialize_vring` hands its index on unchanged -/
theorem initialize_vring_delegates :
    Gen.RoutingOps.initialize_vring.delegates = "update_vring_registration" ∧
    ∀ i, Gen.RoutingOps.initialize_vring.index_arg i = i := ⟨by rfl, fun _ => rfl⟩

/-- every call site passes the ring index itself or its `as u8` truncation: exact for indexes below 256 -/
theorem call_sites_exact : ∀ c ∈ Gen.RoutingOps.callSites, ∀ i, i < 256 → c.2.2.2.2.2 i = i := by
  intro c hc i hi
  simp only [Gen.RoutingOps.callSites, List.mem_cons, List.not_mem_nil, or_false] at hc
  rcases hc with rfl | rfl | rfl | rfl | rfl | rfl | rfl | rfl | rfl <;> simp only [ArithSig.trunc] <;> omega

/-- … and not beyond: the `index as u8` of `set_vring_enable` & co. wraps at 256 (with more than 256 queues ring 256 would be
routed as ring 0; `Model.Routing` is used with `n ≤ 64` only, see its header) -/
theorem call_site_truncation_counterexample : ∃ c ∈ Gen.RoutingOps.callSites, c.2.2.2.2.2 256 = 0 :=
  ⟨("set_vring_enable", "update_vring_registration", "index as u8", "u32", 32, fun index => ArithSig.trunc 8 index),
    by simp [Gen.RoutingOps.callSites], by decide⟩

/-! ## listeners -/

/-- **`listenerAccepted` is the negated generated refusal**, for all ids and queue counts; the id is handed on unchanged -/
theorem listenerAccepted_eq (n : Nat) (data : U64) :
    listenerAccepted n data = !Gen.RoutingOps.register_listener.refuse data.toNat n := by
  unfold listenerAccepted Gen.RoutingOps.register_listener.refuse
  simp only [gt_iff_lt]

theorem unregister_listener_same_rule (data n : Nat) :
    Gen.RoutingOps.unregister_listener.refuse data n = Gen.RoutingOps.register_listener.refuse data n := rfl

theorem listener_guard_defined (data n : Nat) :
    Gen.RoutingOps.register_listener.refuse.defd data n = true ∧ Gen.RoutingOps.unregister_listener.refuse.defd data n = true :=
  ⟨rfl, rfl⟩

/-- the id travels unchanged from `register_listener` through `register_event` into the epoll registration -/
theorem listener_data_unchanged (data n : Nat) :
    Gen.RoutingOps.register_event.epoll_data (Gen.RoutingOps.register_listener.pass_data data n) = data ∧
    Gen.RoutingOps.unregister_event.epoll_data (Gen.RoutingOps.unregister_listener.pass_data data n) = data ∧
    Gen.RoutingOps.register_listener.delegates = "register_event" ∧
    Gen.RoutingOps.unregister_listener.delegates = "unregister_event" ∧
    Gen.RoutingOps.register_event.epoll_op = "ControlOperation::Add" ∧
    Gen.RoutingOps.unregister_event.epoll_op = "ControlOperation::Delete" := ⟨rfl, rfl, by rfl, by rfl, by rfl, by rfl⟩

/-! ## dispatch (`run` + `handle_event`) -/

theorem exitId_eq (n : Nat) : exitId n = Gen.RoutingOps.worker_new.exit_data n := rfl

/-- `event.data() as u16` -/
theorem evType_eq (data : U64) : evType data = Gen.RoutingOps.run.ev_type data.toNat := by
  unfold evType Gen.RoutingOps.run.ev_type ArithSig.trunc
  rw [BitVec.toNat_setWidth]

theorem dispatch_arg_eq (data : Nat) : Gen.RoutingOps.run.dispatch_arg data = Gen.RoutingOps.run.ev_type data := rfl

/-- the inputs of the generated `handle_event` -/
def heIn (n sliceLen : Nat) (hasExit : Bool) (ev : Nat) : Gen.RoutingOps.handle_event.In :=
  { device_event := ev, has_exit := hasExit, num_queues := n, vrings_len := sliceLen }

/-- **`dispatch` is the generated decision sequence**: exit guard, ring test, otherwise the backend; the ring is indexed and
the backend is called with the 16-bit id that `run` computed; nothing faults and the `Vec` index is in bounds -/
theorem dispatch_eq (n sliceLen : Nat) (hasExit : Bool) (data : U64) :
    let x := heIn n sliceLen hasExit (Gen.RoutingOps.run.dispatch_arg data.toNat)
    (dispatch n sliceLen hasExit data =
      match ArithSig.runGuards Gen.RoutingOps.handle_event.guards x with
      | .exit _ => .exit
      | _ => if Gen.RoutingOps.handle_event.is_ring x then .ring (Gen.RoutingOps.handle_event.ring_index x)
             else .custom (Gen.RoutingOps.handle_event.backend_event x)) ∧
    ArithSig.runGuards Gen.RoutingOps.handle_event.guards x ≠ .fault ∧
    (Gen.RoutingOps.handle_event.is_ring x = true → Gen.RoutingOps.handle_event.ring_index.defd x = true) ∧
    Gen.RoutingOps.handle_event.backend_event x = evType data ∧ Gen.RoutingOps.handle_event.ring_index x = evType data := by
  intro x
  have hx : x = heIn n sliceLen hasExit (evType data) := by
    show heIn _ _ _ _ = _; rw [dispatch_arg_eq, ← evType_eq]
  rw [hx]
  simp only [dispatch, ArithSig.runGuards, ArithSig.runGuardsFrom, Gen.RoutingOps.handle_event.guards,
    Gen.RoutingOps.handle_event.is_ring, Gen.RoutingOps.handle_event.ring_index,
    Gen.RoutingOps.handle_event.ring_index.defd, Gen.RoutingOps.handle_event.backend_event, heIn]
  by_cases h : (hasExit && evType data == n) = true
  · simp [h]
  · by_cases h2 : evType data < sliceLen <;> simp [h, h2]

/-- a listener registered with `data` and fired: the model's decision is the generated refusal followed by the generated
dispatch of the same `data` -/
theorem listener_eq (n sliceLen : Nat) (hasExit : Bool) (data : U64) :
    listener n sliceLen hasExit data =
      if Gen.RoutingOps.register_listener.refuse data.toNat n then none
      else some (dispatch n sliceLen hasExit
        (BitVec.ofNat 64 (Gen.RoutingOps.register_event.epoll_data (Gen.RoutingOps.register_listener.pass_data data.toNat n)))) := by
  unfold listener
  rw [listenerAccepted_eq]
  simp only [Gen.RoutingOps.register_event.epoll_data, Gen.RoutingOps.register_listener.pass_data, BitVec.ofNat_toNat,
    BitVec.setWidth_eq]
  cases Gen.RoutingOps.register_listener.refuse data.toNat n <;> simp

example : Gen.RoutingOps.update_vring_registration.evt_idx 0b1010 3 = 1 ∧
    Gen.RoutingOps.new.slice.run 4 0b1010 = [1, 3] ∧
    Gen.RoutingOps.register_listener.refuse 0x10003 2 = true ∧ Gen.RoutingOps.run.ev_type 0x10003 = 3 := by decide

end Props.RoutingOps
