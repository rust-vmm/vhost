import VhostModel.Lemmas.BackendSrv
import VhostModel.Lemmas.FrontendTable
import VhostModel.Spec.Frontend
/-!
# C07 — feature-dependent operations are impossible before the feature is negotiated

The backend request server (`Model.BackendSrv`, tied to `backend_req_handler.rs` by the `srv`
correspondence family) never invokes the application's handler for a request the protocol ties to a
protocol feature (`Spec.Proto.gate`) unless that feature bit is in the acknowledged protocol features,
and the acknowledged protocol features are exactly what the handler was last told through
`set_protocol_features` on this connection; ring enable needs VHOST_USER_F_PROTOCOL_FEATURES in the
acknowledged virtio features; GET_PROTOCOL_FEATURES always offers REPLY_ACK.
The frontend endpoint (`Model.Frontend`) refuses the same operations locally: second half of this file.
-/
namespace Props.C07
open Base Model.Stream Model.BackendSrv Lemmas.BackendSrv

/-- a request whose arms all carry a guard that does not hold is refused before anything happens -/
theorem dispatch_refused_of_guard (st : BSt) (hdr : Hdr) (buf : Bytes) (files : Option (List Fd)) (h : HOut) (gd : Guard)
    (hg : ∀ a ∈ arms, a.code = hdr.code → gd ∈ a.guards) (hn : ¬ holds st hdr buf files gd) :
    let o := dispatch st hdr buf files h
    o.calls = [] ∧ o.out = [] ∧ o.st = st ∧ ∃ e, o.res = .err e :=
  dispatch_cases (P := fun o => o.calls = [] ∧ o.out = [] ∧ o.st = st ∧ ∃ e, o.res = .err e) st hdr buf files h
    (fun e => ⟨rfl, rfl, rfl, e, rfl⟩) fun a hm hc hh => absurd (hh gd (hg a hm hc)) hn

/-- a gated request whose feature bit is not acknowledged never reaches the handler: no call, nothing
written, state unchanged, an error is returned — for every header, body, descriptor list, handler script -/
theorem backend_gate (st : BSt) (hdr : Hdr) (buf : Bytes) (files : Option (List Fd)) (h : HOut) (b : Nat)
    (hg : Spec.Proto.gate hdr.code = some b) (hb : bitSet st.ackedProto b = false) :
    let o := dispatch st hdr buf files h
    o.calls = [] ∧ o.out = [] ∧ o.st = st ∧ ∃ e, o.res = .err e :=
  dispatch_refused_of_guard st hdr buf files h (.proto b) (fun a hm hc => arms_gate a hm b (hc ▸ hg))
    fun hh => Bool.false_ne_true (hb.symm.trans hh)

/-- SET_VRING_ENABLE is refused unless VHOST_USER_F_PROTOCOL_FEATURES (bit 30) is among the acknowledged virtio features -/
theorem backend_enable_gate (st : BSt) (hdr : Hdr) (buf : Bytes) (files : Option (List Fd)) (h : HOut)
    (hc : hdr.code = 18) (hb : bitSet st.acked 30 = false) :
    let o := dispatch st hdr buf files h
    o.calls = [] ∧ o.out = [] ∧ o.st = st ∧ ∃ e, o.res = .err e :=
  dispatch_refused_of_guard st hdr buf files h (.virtio 30) (fun a hm hc' => arms_enable a hm (hc'.trans hc))
    fun hh => Bool.false_ne_true (hb.symm.trans hh)

/-- whatever reaches the handler in one `handle_request` went through `dispatch` in the same negotiation state -/
theorem step_calls_via_dispatch {σ : Type} (ch : Chooser σ) (cl : Bool) (st : BSt) (cst : σ) (s : List Cell) (h : HOut) :
    (step ch cl st cst s h).o.calls = [] ∨
      ∃ hdr buf files, (step ch cl st cst s h).o.calls = (dispatch st hdr buf files h).calls ∧
        (step ch cl st cst s h).o.st = (dispatch st hdr buf files h).st :=
  step_cases (P := fun x => x.o.calls = [] ∨ ∃ hdr buf files, x.o.calls = (dispatch st hdr buf files h).calls ∧
      x.o.st = (dispatch st hdr buf files h).st) ch cl st cst s h
    (fun _ => .inl rfl) (fun _ _ => .inl rfl) (.inl rfl)
    (fun _ ho _ => .inr ⟨_, _, _, by subst ho; exact ⟨rfl, rfl⟩⟩) (fun _ ho _ _ => .inr ⟨_, _, _, by subst ho; exact ⟨rfl, rfl⟩⟩)

/-- stream-level gating: for every stream, segmentation and handler script, a handler call for a gated
request implies that the feature bit is acknowledged in the current state -/
theorem step_gate {σ : Type} (ch : Chooser σ) (cl : Bool) (st : BSt) (cst : σ) (s : List Cell) (h : HOut) :
    (step ch cl st cst s h).o.calls = [] ∨
      ∃ hdr buf files, (step ch cl st cst s h).o.calls = (dispatch st hdr buf files h).calls ∧
        (∀ b, Spec.Proto.gate hdr.code = some b → bitSet st.ackedProto b = true) ∧
        (hdr.code = 18 → bitSet st.acked 30 = true) := by
  rcases step_calls_via_dispatch ch cl st cst s h with h0 | ⟨hdr, buf, files, hc, _⟩
  · left; exact h0
  · by_cases hne : (dispatch st hdr buf files h).calls = []
    · left; rw [hc, hne]
    · right
      refine ⟨hdr, buf, files, hc, ?_, ?_⟩
      · intro b hg
        cases hb : bitSet st.ackedProto b with
        | true => rfl
        | false => exact absurd (backend_gate st hdr buf files h b hg hb).1 hne
      · intro h18
        cases hb : bitSet st.acked 30 with
        | true => rfl
        | false => exact absurd (backend_enable_gate st hdr buf files h h18 hb).1 hne

/-- the value a `GET_PROTOCOL_FEATURES` reply carries always contains REPLY_ACK (bit 3), whatever the device offers -/
theorem reply_ack_always_offered (v : Nat) : (v ||| 8).testBit 3 = true := by
  simp [Nat.testBit_or]
  right; decide

/-- … and that is the value the server writes: the reply body of the `getProtocolFeatures` action -/
theorem get_protocol_features_reply (st : BSt) (c : Ctx) (h : HOut) (hok : h.ok = true) :
    (runAct st c h .getProtocolFeatures).out = replyHdr c.hdr 8 ++ leBytes 8 (h.v ||| 8) := by
  simp [runAct, hok]

/-! ### over histories: "acknowledged earlier on the same connection" -/

/-- a framed request together with the scripted outcome of the handler -/
structure Framed where
  hdr : Hdr
  buf : Bytes
  files : Option (List Fd)
  h : HOut

/-- run a history of framed requests; returns the final state and the handler log -/
def runHist : BSt → List Call → List Framed → BSt × List Call
  | st, log, [] => (st, log)
  | st, log, f :: rest =>
    let o := dispatch st f.hdr f.buf f.files f.h
    runHist o.st (log ++ o.calls) rest

/-- the protocol features the application's handler was last told to acknowledge (0 if never) -/
def lastSpf : List Call → Nat
  | [] => 0
  | c :: rest =>
    let r := lastSpf rest
    if rest.any (·.name == "set_protocol_features") then r
    else if c.name == "set_protocol_features" then (match c.args with | [v] => v | _ => 0) else 0

theorem lastSpf_of_no_spf (cs : List Call) (h : cs.any (·.name == "set_protocol_features") = false) : lastSpf cs = 0 := by
  induction cs with
  | nil => rfl
  | cons c cs ih =>
    rw [List.any_cons, Bool.or_eq_false_iff] at h
    simp [lastSpf, h.1, h.2]

theorem lastSpf_append_other (log : List Call) (cs : List Call) (h : ∀ c ∈ cs, c.name ≠ "set_protocol_features") :
    lastSpf (log ++ cs) = lastSpf log := by
  have hcs : cs.any (·.name == "set_protocol_features") = false := by
    simp only [List.any_eq_false]; intro x hx; simpa using h x hx
  induction log with
  | nil => exact lastSpf_of_no_spf cs hcs
  | cons c log ih => simp only [List.cons_append, lastSpf, ih, List.any_append, hcs, Bool.or_false]

theorem lastSpf_append_spf (log : List Call) (v : Nat) :
    lastSpf (log ++ [⟨"set_protocol_features", [v], [], []⟩]) = v := by
  induction log with
  | nil => simp [lastSpf]
  | cons c log ih => simp [lastSpf, ih]

/-- one request keeps "acknowledged protocol features = what the handler was last told" -/
theorem dispatch_inv (st : BSt) (log : List Call) (f : Framed) (hinv : st.ackedProto = lastSpf log) :
    (dispatch st f.hdr f.buf f.files f.h).st.ackedProto = lastSpf (log ++ (dispatch st f.hdr f.buf f.files f.h).calls) := by
  unfold dispatch
  cases ha : arms.find? (·.code == f.hdr.code) with
  | none => simp [hinv]
  | some a =>
    obtain ⟨hm, _⟩ := find_arm ha
    simp only
    cases hg : runGuards st { hdr := f.hdr, buf := f.buf, files := f.files } a.guards with
    | error e => simp [hinv]
    | ok c' =>
      simp only
      rw [runAct_ackedProto]
      by_cases hs : a.act = .setProtocolFeatures
      · rw [hs, runAct_spf_call, lastSpf_append_spf]; simp
      · rw [if_neg hs, lastSpf_append_other, hinv]
        intro cl hcl hm'
        exact hs (arms_spf a hm (runAct_calls_name st c' f.h a.act cl hcl ▸ hm'))

/-- over every history from a fresh connection: the acknowledged protocol features always equal the
value the handler was last told through `set_protocol_features` (0 before that) -/
theorem hist_inv : ∀ (hist : List Framed) (st : BSt) (log : List Call), st.ackedProto = lastSpf log →
    (runHist st log hist).1.ackedProto = lastSpf (runHist st log hist).2 := by
  intro hist
  induction hist with
  | nil => intro st log h; exact h
  | cons f rest ih =>
    intro st log h
    simp only [runHist]
    exact ih _ _ (dispatch_inv st log f h)

/-- **backend gate over histories**: after any history on a fresh connection, a gated request reaches the
handler only if the gating bit is in the protocol features the handler was last told to acknowledge -/
theorem history_gate (hist : List Framed) (f : Framed) (b : Nat) (hg : Spec.Proto.gate f.hdr.code = some b) :
    let (st, log) := runHist {} [] hist
    (dispatch st f.hdr f.buf f.files f.h).calls ≠ [] → (lastSpf log).testBit b = true := by
  have hinv := hist_inv hist {} [] rfl
  revert hinv
  cases hr : runHist {} [] hist with
  | mk st log =>
    intro hinv hne
    simp only at hinv
    cases hb : bitSet st.ackedProto b with
    | true => rw [← hinv]; exact hb
    | false => exact absurd (backend_gate st f.hdr f.buf f.files f.h b hg hb).1 hne

/-! ### non-vacuity -/
example : Spec.Proto.gate 24 = some 9 := rfl
example : (dispatch {} ⟨24, 1, 12⟩ (leBytes 4 0 ++ leBytes 4 0 ++ leBytes 4 0) none {}).res = .err .inactiveOperation := by
  decide
example : (dispatch { ackedProto := 0x200 } ⟨17, 1, 0⟩ [] none {}).res = .err .inactiveOperation := by decide
example : (dispatch { ackedProto := 1 } ⟨17, 1, 0⟩ [] none { v := 7 }).calls = [⟨"get_queue_num", [], [], []⟩] := by decide


/-! ## frontend endpoint

Each gate is a check in the operation's row of `Model.FrontendTable.modelOps` (a finite fact about the table), and a
check of the selected row that fires refuses the call (`Lemmas.FrontendTable.refused_of_check`). -/
section Frontend
open Model.Frontend Model.FrontendTable Lemmas.FrontendTable

theorem gated_rows : modelOps.all (fun row => (Spec.Frontend.gateBit row.name).all fun b =>
    row.checks.contains (.protoMissing b, "InactiveOperation")) = true := by
  decide +kernel

/-- a gated API call is refused locally (and by `Props.C02.reject_sends_nothing` touches neither wire nor state)
unless its protocol feature is acknowledged — for every operation the protocol ties to a feature, all arguments -/
theorem frontend_gate (s : FSt) (op : Op) (b : Nat) (hg : Spec.Frontend.gateBit op.name = some b)
    (hb : bitSet s.ackedProto b = false) : ∃ e, request s op = .error e := by
  refine refused_of_check s op (.protoMissing b, "InactiveOperation") (fun row hrow => ?_) (by simp [fires, hasProto, hb])
  obtain ⟨hmem, hname, _⟩ := rowFor_mem hrow
  have := List.all_eq_true.1 gated_rows row hmem
  rw [hname, hg] at this
  exact List.contains_iff_mem.1 this

/-- the protocol-feature exchange itself is refused until the backend has offered VHOST_USER_F_PROTOCOL_FEATURES -/
theorem frontend_proto_exchange_needs_offer (s : FSt) (op : Op) (h : bitSet s.virtio 30 = false)
    (hn : op.name = "get_protocol_features" ∨ op.name = "set_protocol_features") :
    ∃ e, request s op = .error e :=
  refused_of_check s op (.virtioMissing 30 false, "InactiveFeature")
    (mem_checks_of_rowsCheck (names := ["get_protocol_features", "set_protocol_features"]) (by decide +kernel) (by simpa using hn))
    (by simp [fires, h])

/-- ring enable is refused until VHOST_USER_F_PROTOCOL_FEATURES is among the acknowledged virtio features -/
theorem frontend_ring_enable_needs_protocol_features (s : FSt) (op : Op) (h : bitSet s.acked 30 = false)
    (hn : op.name = "set_vring_enable") : ∃ e, request s op = .error e :=
  refused_of_check s op (.virtioMissing 30 true, "InactiveFeature")
    (mem_checks_of_rowsCheck (names := ["set_vring_enable"]) (by decide +kernel) (by simpa using hn))
    (by simp [fires, h])

/-- device-state transfer is gated by DEVICE_STATE (bit 19) -/
theorem frontend_device_state_gate : Spec.Frontend.gateBit "set_device_state_fd" = some 19 ∧
    Spec.Frontend.gateBit "check_device_state" = some 19 := ⟨rfl, rfl⟩

end Frontend

end Props.C07
