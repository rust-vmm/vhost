import VhostModel.Lemmas.Vring
import VhostModel.Gen.Adapters

/-!
# C14 — ring configuration and negotiated features reach queues and backend unchanged

`Model.Vring` transcribes the ring part of `vhost-user-backend/src/handler.rs`, `vring.rs`, the `u8` index path of
`backend_req_handler.rs` and the setter rules of virtio-queue 0.17.0; `Spec.Vring` is the property statement;
`Gen.Adapters` is the delegation table regenerated from the adapter impls on every run.

* `num_applied`        a power of two up to the maximum is accepted and becomes the ring's size
* `num_rejected`       zero or a value above the maximum is refused with `InvalidParam`, nothing changes
* `num_other_ignored`  (recorded ambiguity, DESIGN.md "Limits") a value within the maximum that is not a power of two is
                       accepted by the handler and ignored by virtio-queue: answer Ok, ring unchanged
* `addr_applied`       after a successful SET_VRING_ADDR the three ring addresses are the translations of the three user
                       addresses (admissible for the current table in the sense of C13) and next-used is the 16-bit
                       little-endian value at `used + 2` of the *current* guest memory
* `base_roundtrip`     after SET_VRING_BASE b and any messages that are not a SET_VRING_BASE for that ring, GET_VRING_BASE
                       answers b (b ≤ 65535)
* `bad_index_rejected` every per-ring message (NUM, ADDR, BASE, GET_BASE, KICK, CALL, ERR, ENABLE — the `u32` index path and
                       the `payload as u8` path) with an index that is not a ring is refused and changes nothing
* `features_subset`    SET_FEATURES f is accepted iff f ⊆ offered
* `features_delivered` then the handler holds f, every ring's event-index flag is bit 29 of f, and the backend is told
                       `set_event_idx(bit 29)` and `acked_features(f)` — exactly these two calls
* `channel_inherits`   SET_BACKEND_REQ_FD hands the backend a channel with reply-ack / shared-object / shared-memory set to
                       bits 3 / 18 / 21 of the protocol features most recently set
* `ops_use_latest_table_and_call_fd`  after any history the memory the ring operations work on is the table of C13's fold
                       of the successful updates; `add_used` writes the element through that table at
                       `used + 4 + 8·(next_used % size)` and stores the new index at `used + 2`; `signal_used_queue`
                       increments exactly the counter of `Spec.Vring.currentCall` of the history, and nothing when there is none
* `adapters_delegate`  every method of the `Arc`/`Mutex`/`RwLock` adapter impls calls the same-named inner method with the
                       same arguments in the same order (generated table, `decide`)

Assumed: virtio-queue / vm-memory rules listed in the header of `Model/Vring.lean`; eventfd counter semantics.
-/

namespace Props.C14
open Model.Vring Lemmas.Vring
open Model.MemTable (translate)

/-! ### SET_VRING_NUM -/

/-- invariant established by `Daemon.new`: every queue's maximum is the backend's `max_queue_size` (which fits `u16`) -/
def MaxInv (d : Daemon) : Prop := ∀ v ∈ d.vrings, v.queue.maxSize = d.maxQueueSize

theorem maxInv_new (n max : Nat) (off : BitVec 64) (d : Daemon) (h : Daemon.new n max off = some d) (hm : max < 65536) :
    MaxInv d ∧ d.vrings.length = n ∧ d.maxQueueSize = max := by
  unfold Daemon.new at h
  cases hq : Queue.new (max % 65536) with
  | none => simp [hq] at h
  | some q =>
    simp only [hq, Option.map_some, Option.some.injEq] at h
    subst h
    refine ⟨?_, by simp, rfl⟩
    intro v hv
    simp only [List.mem_replicate] at hv
    rw [hv.2]
    unfold Queue.new at hq
    split at hq
    · cases hq
    · cases hq; simp; omega

/-- an accepted SET_VRING_NUM hands the value to `Queue::set_size` of that ring -/
theorem num_accepted (d : Daemon) (i n : BitVec 32) (hi : i.toNat < d.vrings.length) (h0 : n.toNat ≠ 0)
    (hle : n.toNat ≤ d.maxQueueSize) (hmax : d.maxQueueSize ≤ 32768) :
    step d (.setVringNum i n) = (d.setRing i.toNat fun v => { v with queue := v.queue.setSize n.toNat }, .ok .unit) := by
  have hmod : n.toNat % 65536 = n.toNat := by omega
  simp [step, List.getElem?_eq_getElem hi, h0, hmod, Nat.not_lt.2 hle]

/-- **a power of two up to the maximum is applied** -/
theorem num_applied (d : Daemon) (hinv : MaxInv d) (i n : BitVec 32) (hi : i.toNat < d.vrings.length)
    (hp : Spec.Vring.IsPow2 n.toNat) (hle : n.toNat ≤ d.maxQueueSize) (hmax : d.maxQueueSize ≤ 32768) :
    (step d (.setVringNum i n)).2 = .ok .unit ∧
    ((step d (.setVringNum i n)).1.vrings[i.toNat]?).map (·.queue.size) = some n.toNat ∧
    ∀ j, j ≠ i.toNat → (step d (.setVringNum i n)).1.vrings[j]? = d.vrings[j]? := by
  have hv : d.vrings[i.toNat]? = some d.vrings[i.toNat] := List.getElem?_eq_getElem hi
  have hn0 : n.toNat ≠ 0 := by
    obtain ⟨k, hk⟩ := hp; rw [hk]; exact Nat.ne_of_gt (Nat.two_pow_pos k)
  rw [num_accepted d i n hi hn0 hle hmax]
  refine ⟨rfl, ?_, fun j hj => setRing_get_ne (Ne.symm hj)⟩
  have hq : d.vrings[i.toNat].queue.maxSize = d.maxQueueSize := hinv _ (List.getElem_mem hi)
  rw [setRing_get_self, hv]
  simp [setSize_pow2 _ _ (by omega : n.toNat ≤ d.vrings[i.toNat].queue.maxSize) hp]
example : ∃ d, Daemon.new 3 1024 0 = some d ∧
    ((step d (.setVringNum 2 256)).1.vrings.map (·.queue.size)) = [1024, 1024, 256] := ⟨_, rfl, by decide⟩

/-- **zero or a value above the maximum is rejected, nothing changes** -/
theorem num_rejected (d : Daemon) (i n : BitVec 32) (h : n.toNat = 0 ∨ n.toNat > d.maxQueueSize) :
    (step d (.setVringNum i n)).2 = .error .invalidParam ∧ (step d (.setVringNum i n)).1 = d := by
  have hc : (n.toNat == 0 || decide (n.toNat > d.maxQueueSize)) = true := by
    rcases h with h | h <;> simp [h]
  simp only [step]
  cases d.vrings[i.toNat]? with
  | none => exact ⟨rfl, rfl⟩
  | some v => simp [hc]
example : ∃ d, Daemon.new 3 1024 0 = some d ∧ (step d (.setVringNum 1 1025)).2 = .error .invalidParam ∧
    (step d (.setVringNum 1 0)).2 = .error .invalidParam := ⟨_, rfl, by decide, by decide⟩

/-- **recorded ambiguity**: within the maximum but not a power of two — the handler answers Ok and the ring keeps its size
(virtio-queue logs and ignores the value).  The property statement is read as not covering this case. -/
theorem num_other_ignored (d : Daemon) (i n : BitVec 32) (hi : i.toNat < d.vrings.length)
    (h0 : n.toNat ≠ 0) (hle : n.toNat ≤ d.maxQueueSize) (hmax : d.maxQueueSize ≤ 32768) (hp : ¬ Spec.Vring.IsPow2 n.toNat) :
    (step d (.setVringNum i n)).2 = .ok .unit ∧ (step d (.setVringNum i n)).1.vrings = d.vrings := by
  rw [num_accepted d i n hi h0 hle hmax]
  refine ⟨rfl, List.ext_getElem? fun j => ?_⟩
  by_cases e : i.toNat = j
  · subst e; simp [setRing_get_self, List.getElem?_eq_getElem hi, setSize_not_pow2 _ _ hp]
  · exact setRing_get_ne e
example : ∃ d, Daemon.new 2 1024 0 = some d ∧ (step d (.setVringNum 0 768)).2 = .ok .unit ∧
    ((step d (.setVringNum 0 768)).1.vrings.map (·.queue.size)) = [1024, 1024] := ⟨_, rfl, by decide, by decide⟩

/-! ### SET_VRING_ADDR -/

/-- **the ring addresses are the translated user addresses and next-used is the used index in guest memory** -/
theorem addr_applied (d d' : Daemon) (i : BitVec 32) (desc used avail : BitVec 64)
    (h : step d (.setVringAddr i desc used avail) = (d', .ok .unit)) :
    ∃ v dt ar ur idx, d.vrings[i.toNat]? = some v ∧
      translate d.mem.mappings desc.toNat = some dt ∧ translate d.mem.mappings avail.toNat = some ar ∧
      translate d.mem.mappings used.toNat = some ur ∧
      dt % 16 = 0 ∧ ar % 2 = 0 ∧ ur % 4 = 0 ∧
      d.guestMem.loadU16 (ur + 2) = some idx ∧
      d'.vrings[i.toNat]? = some { v with queue := { v.queue with descTable := dt, availRing := ar, usedRing := ur, nextUsed := idx } } ∧
      (∀ j, j ≠ i.toNat → d'.vrings[j]? = d.vrings[j]?) ∧ d'.mem = d.mem := by
  simp only [step] at h
  split at h
  · cases h
  · rename_i v hv
    split at h
    · cases h
    · split at h
      · cases h
      · rename_i dt hdt
        split at h
        · cases h
        · rename_i ar har
          split at h
          · cases h
          · rename_i ur hur
            split at h
            · cases h
            · rename_i q1 hq
              split at h
              · cases h
              · rename_i idx hidx
                cases h
                obtain ⟨_, _, _, _, e, hok⟩ := setQueueInfo_cases v.queue dt ar ur
                rw [hq] at e
                cases e
                obtain ⟨h1, h2, h3, rfl, rfl, rfl⟩ := hok rfl
                have hidx' : d.guestMem.loadU16 (ur + 2) = some idx := by
                  unfold Queue.usedIdx at hidx
                  split at hidx
                  · exact hidx
                  · cases hidx
                refine ⟨v, dt, ar, ur, idx, hv, hdt, har, hur, h1, h2, h3, hidx', ?_, ?_, rfl⟩
                · rw [setRing_get_self, hv]; rfl
                · exact fun j hj => setRing_get_ne (Ne.symm hj)

/-- the installed addresses are answers the property admits for the table the state represents (C13) -/
theorem addr_applied_spec (d d' : Daemon) (T : List Spec.MemTable.Region) (hT : Lemmas.MemTable.Rel d.mem T)
    (i : BitVec 32) (desc used avail : BitVec 64) (h : step d (.setVringAddr i desc used avail) = (d', .ok .unit)) :
    ∃ v', d'.vrings[i.toNat]? = some v' ∧
      Spec.MemTable.translateOk T desc.toNat (some v'.queue.descTable) ∧
      Spec.MemTable.translateOk T avail.toNat (some v'.queue.availRing) ∧
      Spec.MemTable.translateOk T used.toNat (some v'.queue.usedRing) := by
  obtain ⟨v, dt, ar, ur, idx, _, h1, h2, h3, _, _, _, _, hv', _, _⟩ := addr_applied d d' i desc used avail h
  refine ⟨_, hv', ?_, ?_, ?_⟩
  · have := (Lemmas.MemTable.translate_ok hT desc.toNat); rw [h1] at this; exact this
  · have := (Lemmas.MemTable.translate_ok hT avail.toNat); rw [h2] at this; exact this
  · have := (Lemmas.MemTable.translate_ok hT used.toNat); rw [h3] at this; exact this

/-! ### SET_VRING_BASE / GET_VRING_BASE -/

/-- **GET_VRING_BASE returns the base unchanged when nothing was processed**: after `SET_VRING_BASE i b` and any further
messages and ring operations of the model other than a `SET_VRING_BASE` for ring `i` (none of them consumes an available
buffer), `GET_VRING_BASE i` answers `b` -/
theorem base_roundtrip (d : Daemon) (i b : BitVec 32) (ms : List Msg) (hi : i.toNat < d.vrings.length)
    (hb : b.toNat < 65536) (hms : ∀ m ∈ ms, setsBase i.toNat m = false) :
    (step d (.setVringBase i b)).2 = .ok .unit ∧
    (step (run (step d (.setVringBase i b)).1 ms).1 (.getVringBase i)).2 = .ok (.vringState i.toNat b.toNat) := by
  have hv : d.vrings[i.toNat]? = some d.vrings[i.toNat] := List.getElem?_eq_getElem hi
  have h1 : (step d (.setVringBase i b)).2 = .ok .unit := by simp [step, hv]
  refine ⟨h1, ?_⟩
  have hna : ((step d (.setVringBase i b)).1.vrings[i.toNat]?).map (·.queue.nextAvail) = some b.toNat := by
    simp only [step, hv]
    rw [setRing_get_self, hv]
    simp; omega
  have hrun := run_nextAvail (step d (.setVringBase i b)).1 ms i.toNat hms
  rw [hna] at hrun
  generalize (run (step d (.setVringBase i b)).1 ms).1 = d1 at hrun ⊢
  cases hv2 : d1.vrings[i.toNat]? with
  | none => rw [hv2] at hrun; simp at hrun
  | some v2 =>
    rw [hv2] at hrun
    simp only [Option.map_some, Option.some.injEq] at hrun
    simp [step, hv2, hrun]
example : ∃ d, Daemon.new 2 256 0 = some d ∧
    (step (run (step d (.setVringBase 1 0xfffe)).1 [.setVringNum 1 64, .setVringBase 0 7, .setVringKick 1 (some 3)]).1
      (.getVringBase 1)).2 = .ok (.vringState 1 0xfffe) := ⟨_, rfl, by decide⟩

/-! ### ring indexes -/

/-- the ring index the server derives from a per-ring message (`index as usize` for the `u32` messages, `payload as u8`
for the descriptor messages) -/
def ringIndex : Msg → Option Nat
  | .setVringNum i _ => some i.toNat
  | .setVringAddr i _ _ _ => some i.toNat
  | .setVringBase i _ => some i.toNat
  | .getVringBase i => some i.toNat
  | .setVringKick p _ => some (p.toNat % 256)
  | .setVringCall p _ => some (p.toNat % 256)
  | .setVringErr p _ => some (p.toNat % 256)
  | .setVringEnable i _ => some i.toNat
  | _ => none

theorem fdIndex_eq (p : BitVec 64) : fdIndex p = Spec.Vring.fdIndex p.toNat := by
  unfold fdIndex Spec.Vring.fdIndex
  rw [BitVec.toNat_setWidth]

/-- **an out-of-range ring index is rejected by every per-ring message**, and nothing changes -/
theorem bad_index_rejected (d : Daemon) (m : Msg) (i : Nat) (hm : ringIndex m = some i) (hi : d.vrings.length ≤ i) :
    (∃ e, (step d m).2 = .error e) ∧ (step d m).1 = d := by
  -- the lookup of the ring fails, whichever way the index was derived
  have hn : ∀ j, j = i → d.vrings[j]? = none := fun j e => List.getElem?_eq_none (e ▸ hi)
  have hfd : ∀ p : BitVec 64, some (p.toNat % 256) = some i → d.vrings[fdIndex p]? = none :=
    fun p e => hn _ ((fdIndex_eq p).trans (Option.some.inj e))
  cases m with
  | setVringNum idx n => simp [step, hn _ (Option.some.inj hm)]
  | setVringAddr idx a b c => simp [step, hn _ (Option.some.inj hm)]
  | setVringBase idx n => simp [step, hn _ (Option.some.inj hm)]
  | getVringBase idx => simp [step, hn _ (Option.some.inj hm)]
  | setVringKick p fd => simp [step, hfd p hm]
  | setVringCall p fd => simp [step, hfd p hm]
  | setVringErr p fd => simp [step, hfd p hm]
  | setVringEnable idx en =>
    simp only [step, hn _ (Option.some.inj hm)]
    split <;> exact ⟨⟨_, rfl⟩, rfl⟩
  | _ => cases hm
example : ∃ d, Daemon.new 3 256 0 = some d ∧ (step d (.setVringKick 0x103 (some 1))).2 = .error .invalidParam ∧
    (step d (.setVringKick 0x102 (some 1))).2 = .ok .unit ∧ (step d (.setVringNum 3 16)).2 = .error .invalidParam :=
  ⟨_, rfl, by decide, by decide, by decide⟩

/-! ### SET_FEATURES -/

/-- **SET_FEATURES is accepted only for a subset of the offered features** (iff) -/
theorem features_subset (d : Daemon) (f : BitVec 64) :
    ((step d (.setFeatures f)).2 = .ok .unit ↔ f &&& ~~~d.offered = 0#64) ∧
    ((step d (.setFeatures f)).2 = .ok .unit ↔ Spec.Vring.FeaturesSubset d.offered.toNat f.toNat) ∧
    ((step d (.setFeatures f)).2 ≠ .ok .unit → (step d (.setFeatures f)).1 = d) := by
  have key : (step d (.setFeatures f)).2 = .ok .unit ↔ f &&& ~~~d.offered = 0#64 := by
    simp only [step]
    by_cases h : f &&& ~~~d.offered = 0#64
    · simp [h]
    · simp [h]
  refine ⟨key, key.trans (and_not_eq_zero_iff_subset f d.offered), ?_⟩
  intro hne
  have : ¬ f &&& ~~~d.offered = 0#64 := fun h => hne (key.mpr h)
  simp [step, this]
example : ∃ d, Daemon.new 2 256 0x1_7000_0000 = some d ∧ (step d (.setFeatures 0x1_2000_0000)).2 = .ok .unit ∧
    (step d (.setFeatures 0x1_2000_0001)).2 = .error .invalidParam := ⟨_, rfl, by decide, by decide⟩

/-- **an accepted SET_FEATURES delivers exactly those bits to the backend and the EVENT_IDX setting to every queue and to
the backend** -/
theorem features_delivered (d : Daemon) (f : BitVec 64) (h : (step d (.setFeatures f)).2 = .ok .unit) :
    let d' := (step d (.setFeatures f)).1
    d'.ackedFeatures = f ∧
    (∀ v ∈ d'.vrings, v.queue.eventIdx = Spec.Vring.eventIdx f.toNat) ∧
    d'.vrings.length = d.vrings.length ∧
    d'.log = d.log ++ [.setEventIdx (Spec.Vring.eventIdx f.toNat), .ackedFeatures f] := by
  have hz : f &&& ~~~d.offered = 0#64 := (features_subset d f).1.mp h
  have hev : f.getLsbD eventIdxBit = Spec.Vring.eventIdx f.toNat := by
    unfold Spec.Vring.eventIdx eventIdxBit; rw [BitVec.testBit_toNat]
  have hcond : (f &&& ~~~d.offered != 0) = false := by rw [hz]; rfl
  simp only [step, hcond, Bool.false_eq_true, if_false]
  refine ⟨trivial, ?_, by simp, by rw [hev]⟩
  intro v hv
  simp only [List.mem_map] at hv
  obtain ⟨w, _, rfl⟩ := hv
  exact hev
example : ∃ d, Daemon.new 3 256 0x1_7000_0000 = some d ∧
    ((step d (.setFeatures 0x1_2000_0000)).1.vrings.map (·.queue.eventIdx)) = [true, true, true] ∧
    (step d (.setFeatures 0x1_2000_0000)).1.log = [.setEventIdx true, .ackedFeatures 0x1_2000_0000] := ⟨_, rfl, by decide, by decide⟩

/-! ### backend-request channel -/

theorem run_ackedProto (d : Daemon) (ms : List Msg) (h : ∀ m ∈ ms, ∀ p, m ≠ .setProtocolFeatures p) :
    (run d ms).1.ackedProto = d.ackedProto := by
  induction ms generalizing d with
  | nil => rfl
  | cons m ms ih =>
    simp only [run]
    rw [ih _ (fun x hx => h x (List.mem_cons_of_mem _ hx))]
    have hm := h m (by simp)
    cases m <;> simp only [step] <;> (repeat' split) <;> first | rfl | (exact absurd rfl (hm _))

/-- **a newly attached backend-request channel inherits the negotiated reply-ack, shared-object and shared-memory
settings**: the flags handed to the backend are bits 3, 18 and 21 of the protocol features most recently set -/
theorem channel_inherits (d : Daemon) (p : BitVec 64) (ms : List Msg) (h : ∀ m ∈ ms, ∀ q, m ≠ .setProtocolFeatures q) :
    let d1 := (run (step d (.setProtocolFeatures p)).1 ms).1
    (step d1 .setBackendReqFd).2 = .ok .unit ∧
    (step d1 .setBackendReqFd).1.log = d1.log ++
      [.setBackendReqFd (Spec.Vring.channelFlags p.toNat).1 (Spec.Vring.channelFlags p.toNat).2.1
        (Spec.Vring.channelFlags p.toNat).2.2] := by
  intro d1
  have hp : d1.ackedProto = p := by
    show (run (step d (.setProtocolFeatures p)).1 ms).1.ackedProto = p
    rw [run_ackedProto _ ms h]; rfl
  have b3 : protoBit d1 Gen.Flags.VhostUserProtocolFeatures.REPLY_ACK = p.toNat.testBit 3 := by
    have := protoBit_eq d1 3 (by decide); rw [hp, ← BitVec.testBit_toNat] at this; exact this
  have b18 : protoBit d1 Gen.Flags.VhostUserProtocolFeatures.SHARED_OBJECT = p.toNat.testBit 18 := by
    have := protoBit_eq d1 18 (by decide); rw [hp, ← BitVec.testBit_toNat] at this; exact this
  have b21 : protoBit d1 Gen.Flags.VhostUserProtocolFeatures.SHMEM = p.toNat.testBit 21 := by
    have := protoBit_eq d1 21 (by decide); rw [hp, ← BitVec.testBit_toNat] at this; exact this
  simp only [step, Spec.Vring.channelFlags, b3, b18, b21]
  exact ⟨trivial, trivial⟩
example : ∃ d, Daemon.new 1 256 0 = some d ∧
    (step (step d (.setProtocolFeatures 0x240008)).1 .setBackendReqFd).1.log = [.setBackendReqFd true true true] ∧
    (step (step d (.setProtocolFeatures 0x200000)).1 .setBackendReqFd).1.log = [.setBackendReqFd false false true] :=
  ⟨_, rfl, by decide, by decide⟩

/-! ### ring operations -/

/-- **ring operations act on the guest memory of the latest accepted table and signal the call descriptor most recently
installed.**  For every history `ms` from a fresh daemon `d0`, with `d` the state reached:
(1) the memory the ring operations use represents `Spec.MemTable.foldSuccesses` of the memory requests of the history with the
    handler's own outcomes (C13);
(2) a successful `add_used(head, len)` on ring `ring` wrote the element `le32 head ++ le32 len` through that table at
    `used + 4 + 8·(next_used % size)` — every one of the 8 byte addresses is a cell the property's table names — then stored
    the incremented index at `used + 2`, where it reads back;
(3) `signal_used_queue` on ring `ring` adds 1 to the counter of `Spec.currentCall ring` of the history's accepted
    SET_VRING_CALL / GET_VRING_BASE messages and changes no other counter; when that is `none` no counter changes. -/
theorem ops_use_latest_table_and_call_fd (n max : Nat) (off : BitVec 64) (d0 : Daemon)
    (h0 : Daemon.new n max off = some d0) (ms : List Msg) :
    let d := (run d0 ms).1
    let outs := (Model.MemTable.run Model.MemTable.St.init (memOps ms)).2
    let T := Spec.MemTable.foldSuccesses [] ((memOps ms).zip outs)
    Lemmas.MemTable.Rel d.mem T ∧
    (∀ ring v head len d', d.vrings[ring]? = some v → step d (.addUsed ring head len) = (d', .ok .unit) →
      ∃ m1, d.guestMem.writeBytes (Spec.Vring.usedSlot v.queue.usedRing v.queue.nextUsed v.queue.size)
              (le32 head ++ le32 len) = (true, m1) ∧
        (∀ k, k < 8 → ∃ f o, Spec.MemTable.backedBy T
            (Spec.Vring.usedSlot v.queue.usedRing v.queue.nextUsed v.queue.size + k) f o) ∧
        d'.guestMem.loadU16 (Spec.Vring.usedIdxAddr v.queue.usedRing) = some ((v.queue.nextUsed + 1) % 65536) ∧
        (d'.vrings[ring]?).map (·.queue.nextUsed) = some ((v.queue.nextUsed + 1) % 65536) ∧ d'.mem = d.mem) ∧
    (∀ ring, ring < n →
      (step d (.signalUsed ring)).2 = .ok .unit ∧
      (step d (.signalUsed ring)).1.counters =
        match Spec.Vring.currentCall ring (callEvs n ms) with
        | none => d.counters
        | some fd => fun x => if x = fd then d.counters x + 1 else d.counters x) := by
  intro d outs T
  -- facts about the fresh daemon
  have hd0 : d0.mem = Model.MemTable.St.init ∧ d0.vrings.length = n ∧ ∀ v ∈ d0.vrings, v.call = none := by
    unfold Daemon.new at h0
    cases hq : Queue.new (max % 65536) with
    | none => simp [hq] at h0
    | some q =>
      simp only [hq, Option.map_some, Option.some.injEq] at h0
      subst h0
      refine ⟨rfl, by simp, ?_⟩
      intro v hv
      simp only [List.mem_replicate] at hv
      rw [hv.2]
  have hmem : d.mem = (Model.MemTable.run Model.MemTable.St.init (memOps ms)).1 := by
    have := run_mem d0 ms; rw [hd0.1] at this; exact this
  have hrel : Lemmas.MemTable.Rel d.mem T := by
    rw [hmem]; exact Lemmas.MemTable.rel_run Lemmas.MemTable.rel_init (memOps ms)
  refine ⟨hrel, ?_, ?_⟩
  · intro ring v head len d' hv hstep
    simp only [step, hv] at hstep
    obtain ⟨_, _, _, e⟩ | ⟨_, m1, m2, hw, hs, e⟩ := addUsed_cases v.queue d.guestMem head len <;> rw [e] at hstep
    · simp at hstep
    · simp only [if_true, Prod.mk.injEq, and_true] at hstep
      subst hstep
      have hreg1 : m1.regions = d.mem.regions := by
        have := writeBytes_regions d.guestMem (Spec.Vring.usedSlot v.queue.usedRing v.queue.nextUsed v.queue.size)
          (le32 head ++ le32 len)
        rw [hw] at this; exact this
      obtain ⟨hload, hreg2⟩ := storeU16_load m1 m2 _ _ (Nat.mod_lt _ (by decide)) hs
      refine ⟨m1, hw, ?_, ?_, ?_, rfl⟩
      · intro k hk
        have hl := writeBytes_ok_located _ _ _ _ hw k (by simpa [le32] using hk)
        obtain ⟨f, o, _, hb⟩ := locate_some_backed hrel (g := _) hl
        exact ⟨f, o, hb⟩
      · show (⟨d.mem.regions, m2.files⟩ : GuestMem).loadU16 _ = _
        rw [← hreg1, ← hreg2]; exact hload
      · show ((d.setRing ring _).vrings[ring]?).map _ = _
        rw [setRing_get_self, hv]; rfl
  · intro ring hring
    have hlen : d.vrings.length = n := by
      show (run d0 ms).1.vrings.length = n
      rw [run_length, hd0.2.1]
    have hlt0 : ring < d0.vrings.length := by rw [hd0.2.1]; exact hring
    have hcall := run_call d0 ms ring
    rw [List.getElem?_eq_getElem hlt0] at hcall
    have hnone : d0.vrings[ring].call = none := hd0.2.2 _ (List.getElem_mem hlt0)
    simp only [Option.map_some, hnone, hd0.2.1] at hcall
    have hlt : ring < d.vrings.length := by rw [hlen]; exact hring
    have hv : d.vrings[ring]? = some d.vrings[ring] := List.getElem?_eq_getElem hlt
    have hc : d.vrings[ring].call = Spec.Vring.currentCall ring (callEvs n ms) := by
      have : (run d0 ms).1.vrings[ring]? = some d.vrings[ring] := hv
      rw [this] at hcall
      simpa [Spec.Vring.currentCall] using hcall
    simp only [step, hv]
    rw [hc]
    cases Spec.Vring.currentCall ring (callEvs n ms) with
    | none => exact ⟨rfl, rfl⟩
    | some fd => exact ⟨rfl, rfl⟩
example : Spec.Vring.currentCall 1 [.install 1 (some 7), .install 0 (some 8), .install 1 (some 9), .stop 0] = some 9 ∧
    Spec.Vring.currentCall 0 [.install 1 (some 7), .install 0 (some 8), .install 1 (some 9), .stop 0] = none := by decide

/-! ### adapter table -/

/-- **every adapter method calls the same-named inner method with the same arguments in the same order** (table
regenerated from `vhost-user-backend/src/backend.rs` (`Arc`, `Mutex`, `RwLock`), `backend_req_handler.rs` (`Mutex`) and
`frontend_req_handler.rs` (`Mutex`) on every run) -/
theorem adapters_delegate : ∀ row ∈ Gen.Adapters.table, row.inner = row.outer ∧ row.args = row.params := by
  decide
example : Gen.Adapters.table.length ≥ 90 ∧
    (Gen.Adapters.table.filter fun r => r.outer == "set_vring_addr").map (·.args) =
      [["index", "flags", "descriptor", "used", "available", "log"]] := by decide

end Props.C14
