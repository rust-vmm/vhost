import VhostModel.Props.C19Tables
/-!
# C19: the scenario vocabulary, argument images, and one ioctl-issuing method against the Spec's verdict

`Env`/`inp`/`Meets`, with `blanket` and `features` (which impl a backend hands an operation to); `arg_bytes_carry_values`;
`ioCall_meets_uapi` and its instances for the argument shapes (none, scalar, pair of words; set or get), `ioCall_image`.
Rests on `issued_is_uapi` of `Props/C19Tables.lean` and the verdict lemmas of `Lemmas/Kern.lean`.
-/
namespace Props.C19
open Base Base.K Gen.Ioctl Model.Kern Lemmas.Kern

/-- everything of a scenario that is not the backend, the operation and its arguments -/
structure Env where
  buf : Bytes
  mem : List (Nat × Nat × Nat)
  feat : Nat
  wb : Bytes
  rc : Nat

def inp (be op : String) (a : List Nat) (e : Env) : Inp :=
  { be, op, a, buf := e.buf, mem := e.mem, feat := e.feat, wb := e.wb, rc := e.rc }
/-- result of an operation that returns `()` -/
def unitR (e : Env) : Ret := if e.rc ≠ 0 then .err "ioctl" else .ok
/-- the argument object after the stand-in kernel handled `req` -/
def after (e : Env) (req : Nat) (obj : Bytes) : Bytes := afterCall (inp "" "" [] e) req obj
/-- the four backends (`kern` = the blanket impls on a plain `VhostKernBackend` type) -/
def BES : List String := ["kern", "net", "vsock", "vdpa"]
/-- the backends with `VhostKernFeatures` / `VhostIotlbBackend` -/
def FBES : List String := ["kern", "vdpa"]

/-- **argument bytes carry the caller's values**: whatever the member offsets and widths are, if the members lie inside
    the object and do not overlap, the image built from `(offset, width, value)` triples has the object's size, reads
    back each value (modulo the member's width) at the member's offset, and is zero everywhere else -/
theorem arg_bytes_carry_values (size : Nat) (ls : List Leaf)
    (hb : ∀ l ∈ ls, l.1 + l.2.1 ≤ size) (hd : ls.Pairwise LeafDisjoint) :
    (imageOf size ls).length = size ∧
    (∀ l ∈ ls, peek (imageOf size ls) l.1 l.2.1 = l.2.2 % 256 ^ l.2.1) ∧
    (∀ o w, (∀ l ∈ ls, l.1 + l.2.1 ≤ o ∨ o + w ≤ l.1) → peek (imageOf size ls) o w = 0) :=
  ⟨imageOf_length size ls hb, peek_imageOf size ls hb hd, fun o w h => peek_imageOf_untouched size ls o w hb h⟩

/-- the hypotheses are met by the `vhost_vring_addr` image: six members, 40 bytes -/
example (q f d u a l : Nat) : (imageOf 40 [(0, 4, q), (4, 4, f), (8, 8, d), (16, 8, u), (24, 8, a), (32, 8, l)]).length = 40 ∧
    peek (imageOf 40 [(0, 4, q), (4, 4, f), (8, 8, d), (16, 8, u), (24, 8, a), (32, 8, l)]) 16 8 = u % 256 ^ 8 := by
  obtain ⟨h1, h2, _⟩ := arg_bytes_carry_values 40 [(0, 4, q), (4, 4, f), (8, 8, d), (16, 8, u), (24, 8, a), (32, 8, l)]
    (by simp) (by simp [LeafDisjoint])
  exact ⟨h1, h2 (16, 8, u) (by simp)⟩

/-- a method that hands a struct image to one ioctl, in closed form, from the row's issued request: no lookup is evaluated -/
theorem ioCall_image (i : Inp) {scope method s : String} {req size : Nat} (hs : issued scope method = some (req, size))
    {vals : List (List String × Nat)} {img : Bytes} (him : structImage s vals = some img)
    (hl : img.length ≤ Model.Kern.iocSize req) :
    (structImage s vals).bind (fun o => ioCall i scope method (some o) unitRet) =
      some ⟨[.io req img], if i.rc ≠ 0 then .err "ioctl" else .ok, none⟩ := by
  rw [him, Option.bind_some, ioCall_eq _ _ _ _ _ _ (issued_is_uapi hs).1, captured_some _ _ hl]
  rfl

section
open Spec.Uapi

abbrev Meets (i : Inp) (o₀ : Obs) : Prop := run i = some o₀ ∧ ∀ o, run i = some o → problem i o = none

theorem ioCall_meets_uapi {i : Inp} {scope method : String} {obj : Option Bytes} {value : Bytes → Ret} {req size : Nat}
    {arg : Arg} {rs : RetSpec}
    (hrun : run i = ioCall i scope method obj value)
    (hreq : issued scope method = some (req, size))
    (hexp : expect i = .ioctl (scope ++ "." ++ method) arg rs false)
    (ha : argProblem size arg (captured req obj) = none)
    (hr : retProblem i size rs (if i.rc ≠ 0 then .err "ioctl" else value (afterCall i req (obj.getD []))) = none)
    (hk : (i.op == "set_backend_features") = false) :
    Meets i ⟨[.io req (captured req obj)], if i.rc ≠ 0 then .err "ioctl" else value (afterCall i req (obj.getD [])), none⟩ := by
  obtain ⟨hq, u, hu, hur, hus⟩ := issued_is_uapi hreq
  have hcf := hrun.trans (ioCall_eq i scope method obj value req hq)
  refine ⟨hcf, fun o ho => ?_⟩
  cases hcf.symm.trans ho
  exact problem_ioctl i _ _ arg rs false u req size _ hexp hu hur hus rfl ha hr (Or.inl hk)

/-- operation names that some backend does not hand to the blanket `VhostBackend` impl -/
def ownOps : List String :=
  "set_vring_addr" :: "set_backend" :: "set_guest_cid" :: "start" :: "stop" :: (featuresOps ++ vdpaOps)

theorem expect_backend {be op : String} (hbe : be ∈ BES) (hop : op ≠ "set_vring_addr") (a : List Nat) (e : Env) :
    expect (inp be op a e) = expect (inp "kern" op a e) := by
  have hv : ∀ b, ((inp b op a e).op == "set_vring_addr") = false := fun _ => beq_false_of_ne hop
  have hs : scopeOf (inp be op a e).be (inp be op a e).op = scopeOf (inp "kern" op a e).be (inp "kern" op a e).op := by
    unfold scopeOf
    rw [hv, hv]
    rfl
  have hb : ((inp be op a e).be == "none") = ((inp "kern" op a e).be == "none") := by
    simp only [BES, List.mem_cons, List.mem_nil_iff, or_false] at hbe
    rcases hbe with rfl | rfl | rfl | rfl <;> rfl
  -- the backend occurs in `expect` as `be == "none"`, in the scope, and in the `set_vring_addr` branch
  unfold expect
  rw [hs, hb, hv, hv]
  rfl

theorem blanket {be op : String} (hbe : be ∈ BES) (hop : op ∉ ownOps) (a : List Nat) (e : Env) :
    run (inp be op a e) = backendOp (inp be op a e) ∧ expect (inp be op a e) = expect (inp "kern" op a e) ∧
    (op == "set_backend_features") = false := by
  simp only [ownOps, featuresOps, vdpaOps, List.cons_append, List.nil_append, List.mem_cons, List.mem_nil_iff, or_false,
    not_or] at hop
  refine ⟨?_, expect_backend hbe hop.1 a e, beq_false_of_ne hop.2.2.2.2.2.2.1⟩
  simp only [BES, List.mem_cons, List.mem_nil_iff, or_false] at hbe
  rcases hbe with rfl | rfl | rfl | rfl <;> simp [run, inp, featuresOps, vdpaOps, hop]

theorem features {be op : String} (hbe : be ∈ FBES) (hop : op ∈ featuresOps) (a : List Nat) (e : Env) :
    run (inp be op a e) = featuresOp (inp be op a e) ∧ expect (inp be op a e) = expect (inp "kern" op a e) := by
  simp only [FBES, List.mem_cons, List.mem_nil_iff, or_false] at hbe
  simp only [featuresOps, List.mem_cons, List.mem_nil_iff, or_false] at hop
  refine ⟨?_, expect_backend (by rcases hbe with rfl | rfl <;> decide) (by rcases hop with rfl | rfl | rfl <;> decide) a e⟩
  rcases hbe with rfl | rfl <;> rcases hop with rfl | rfl | rfl <;> rfl

variable {be op : String} {a : List Nat} {e : Env} {scope method : String} {req : Nat}

theorem set_meets_uapi {size : Nat} {bs : Bytes} {arg : Arg}
    (hrun : run (inp be op a e) = ioCall (inp be op a e) scope method (some bs) unitRet)
    (hreq : issued scope method = some (req, size))
    (hexp : expect (inp be op a e) = .ioctl (scope ++ "." ++ method) arg .unit false)
    (hlen : bs.length ≤ Model.Kern.iocSize req)
    (ha : argProblem size arg bs = none)
    (hk : (op == "set_backend_features") = false) :
    Meets (inp be op a e) ⟨[.io req bs], unitR e, none⟩ := by
  have h := ioCall_meets_uapi hrun hreq hexp (by rw [captured_some req bs hlen]; exact ha) (retProblem_unit _ _ _) hk
  rwa [captured_some req bs hlen] at h

theorem set_scalar_meets_uapi {size v : Nat}
    (hrun : run (inp be op a e) = ioCall (inp be op a e) scope method (some (leBytes size v)) unitRet)
    (hreq : issued scope method = some (req, size))
    (hexp : expect (inp be op a e) = .ioctl (scope ++ "." ++ method) (.scalar v) .unit false)
    (hsz : size ≤ Model.Kern.iocSize req)
    (hk : (op == "set_backend_features") = false) :
    Meets (inp be op a e) ⟨[.io req (leBytes size v)], unitR e, none⟩ :=
  set_meets_uapi hrun hreq hexp (Nat.le_trans (Nat.le_of_eq (leBytes_length size v)) hsz) (argProblem_scalar_le size v) hk

theorem noarg_meets_uapi
    (hrun : run (inp be op a e) = ioCall (inp be op a e) scope method none unitRet)
    (hreq : issued scope method = some (req, 0))
    (hexp : expect (inp be op a e) = .ioctl (scope ++ "." ++ method) .none .unit false)
    (hd : Model.Kern.iocDir req = 0)
    (hk : (op == "set_backend_features") = false) :
    Meets (inp be op a e) ⟨[.io req (zeros 8)], unitR e, none⟩ := by
  have hc : captured req none = zeros 8 := if_pos hd
  have h := ioCall_meets_uapi hrun hreq hexp rfl (retProblem_unit _ _ _) hk
  rwa [hc] at h

theorem get_scalar_meets_uapi {size : Nat}
    (hrun : run (inp be op a e) = ioCall (inp be op a e) scope method (some (leBytes size 0)) scalarRet)
    (hreq : issued scope method = some (req, size))
    (hexp : expect (inp be op a e) = .ioctl (scope ++ "." ++ method) (.fields "" []) .scalar false)
    (hq : Model.Kern.iocDir req / 2 ≠ 0 ∧ req ≠ VDPA_GET_CONFIG ∧ Model.Kern.iocSize req = size)
    (hk : (op == "set_backend_features") = false) :
    Meets (inp be op a e) ⟨[.io req (leBytes size 0)],
      if e.rc ≠ 0 then .err "ioctl" else .okv (leVal (after e req (leBytes size 0))), none⟩ := by
  obtain ⟨hd, hne, rfl⟩ := hq
  have hc := captured_some req (leBytes (Model.Kern.iocSize req) 0) (Nat.le_of_eq (leBytes_length _ _))
  have h := ioCall_meets_uapi hrun hreq hexp
    (by rw [hc]; exact argProblem_fields _ "" [] _ (leBytes_length _ _) (fun _ h => nomatch h))
    (retProblem_scalar _ req _ hd hne (leBytes_length _ _)) hk
  rwa [hc] at h

structure PairLayout (s f g : String) : Prop where
  image : ∀ x y, structImage s [([f], x), ([g], y)] = some (imageOf 8 [(0, 4, x), (4, 4, y)])
  leaf : leafAt s [g] = some (4, 4)
  fst : fieldAt s [f] = some (0, 4)
  snd : fieldAt s [g] = some (4, 4)

theorem vring_state_layout : PairLayout "vhost_vring_state" "index" "num" :=
  ⟨fun _ _ => rfl, by decide +kernel, by decide +kernel, by decide +kernel⟩

theorem vring_file_layout : PairLayout "vhost_vring_file" "index" "fd" :=
  ⟨fun _ _ => rfl, by decide +kernel, by decide +kernel, by decide +kernel⟩

theorem pair_length (x y : Nat) : (imageOf 8 [(0, 4, x), (4, 4, y)]).length = 8 := imageOf_length 8 _ (by simp)

theorem PairLayout.fieldsOk {s f g : String} (h : PairLayout s f g) (x y : Nat) :
    FieldsOk s [(0, 4, x), (4, 4, y)] [([f], x), ([g], y)] :=
  ⟨⟨(0, 4, x), by simp [leafFor, h.fst], rfl⟩, ⟨(4, 4, y), by simp [leafFor, h.snd], rfl⟩, trivial⟩

theorem set_pair_meets_uapi {s f g : String}
    (hl : PairLayout s f g) {x y : Nat}
    (hrun : run (inp be op a e) = do ioCall (inp be op a e) scope method (← structImage s [([f], x), ([g], y)]) unitRet)
    (hreq : issued scope method = some (req, 8))
    (hexp : expect (inp be op a e) = .ioctl (scope ++ "." ++ method) (.fields s [([f], x), ([g], y)]) .unit false)
    (hsz : 8 ≤ Model.Kern.iocSize req)
    (hk : (op == "set_backend_features") = false) :
    Meets (inp be op a e) ⟨[.io req (imageOf 8 [(0, 4, x), (4, 4, y)])], unitR e, none⟩ :=
  set_meets_uapi (hrun.trans (by rw [hl.image]; rfl)) hreq hexp (Nat.le_trans (Nat.le_of_eq (pair_length x y)) hsz)
    (argProblem_image 8 s _ _ (by simp) (by simp [LeafDisjoint]) (hl.fieldsOk x y)) hk

theorem get_pair_meets_uapi {s f g : String}
    (hl : PairLayout s f g) {x : Nat}
    (hrun : run (inp be op a e) = do
      let (no, nw) ← leafAt s [g]
      ioCall (inp be op a e) scope method (← structImage s [([f], x), ([g], 0)]) fun o => .okv (peek o no nw))
    (hreq : issued scope method = some (req, 8))
    (hexp : expect (inp be op a e) = .ioctl (scope ++ "." ++ method) (.fields s [([f], x)]) (.field s g) false)
    (hq : Model.Kern.iocDir req / 2 ≠ 0 ∧ req ≠ VDPA_GET_CONFIG ∧ Model.Kern.iocSize req = 8)
    (hk : (op == "set_backend_features") = false) :
    Meets (inp be op a e) ⟨[.io req (imageOf 8 [(0, 4, x), (4, 4, 0)])],
      if e.rc ≠ 0 then .err "ioctl" else .okv (peek (after e req (imageOf 8 [(0, 4, x), (4, 4, 0)])) 4 4), none⟩ := by
  obtain ⟨hd, hne, hs⟩ := hq
  have hc := captured_some req _ (Nat.le_of_eq ((pair_length x 0).trans hs.symm))
  have hrun' : run (inp be op a e) =
      ioCall (inp be op a e) scope method (some (imageOf 8 [(0, 4, x), (4, 4, 0)])) fun o => .okv (peek o 4 4) := by
    rw [hrun, hl.leaf, hl.image]
    rfl
  have hret := retProblem_field (inp be op a e) req (imageOf 8 [(0, 4, x), (4, 4, 0)]) s g 4 4 hd hne
    ((pair_length x 0).trans hs.symm) hl.snd (by omega)
  rw [hs] at hret
  have h := ioCall_meets_uapi hrun' hreq hexp
    (by rw [hc]; exact argProblem_image 8 s _ _ (by simp) (by simp [LeafDisjoint]) ⟨(hl.fieldsOk x 0).1, trivial⟩) hret hk
  rwa [hc] at h

end

end Props.C19
