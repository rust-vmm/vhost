import VhostModel.Gen.ErrClass
/-!
# How a raw socket errno becomes a vhost-user error class (C08, C16)

`Gen.ErrClass` is regenerated on every run by `tools/rs2lean_errno.py` from
`impl From<vmm_sys_util::errno::Error> for Error` (`vhost_user/mod.rs`): the arms of the `match err.errno()`.
The models use three facts about it as rules (`Model/BackendSrv.lean`, `Model/Frontend.lean`, `Model/FrontendSrv.lean`:
`ENOBUFS ↦ sockRetry`; `Model/Shutdown.lean`, the proxies: `EPIPE` / `ECONNRESET ↦ sockBroken`; everything the
kernel reports otherwise is `sockError`), and the correspondence harness prints exactly these classes.  Here they are
theorems about the generated table, for **every** errno value:

* `arms_are_model`          — the generated arms are the expected ones, in order, and the scrutinee is `err.errno()`;
* `classify_eq`             — the class and the errno carried, as a function of the errno, for all `e`; from it
* `classify_keeps_errno`    — for every errno `e` the error built carries `e` itself (no arm substitutes another code);
* `retry_iff`, `broken_iff`, `connect_iff`, `error_otherwise` — the errnos of each class;
* `model_rules`             — the three facts the models rely on.

Trusted here: the numeric values of the Linux errno constants (`errnoVal`, from `<asm-generic/errno*.h>`; on Linux
`EWOULDBLOCK = EAGAIN`).  Core Lean only.  Facts about the table are closed by evaluation in the kernel alone
(`decide +kernel`): the elaborator's own evaluator is slow on `String` comparisons.
-/
namespace Props.ErrClass

/-- Linux (asm-generic) values of the errno constants that occur in the table -/
def errnoVal : String → Option Nat
  | "EINTR" => some 4 | "EAGAIN" => some 11 | "EWOULDBLOCK" => some 11 | "ENOMEM" => some 12 | "EACCES" => some 13
  | "EPIPE" => some 32 | "ECONNRESET" => some 104 | "ENOBUFS" => some 105
  | _ => none

theorem arms_are_model :
    Gen.ErrClass.scrutinee = "err.errno()" ∧
    Gen.ErrClass.arms = [("EAGAIN", "SocketRetry", "EAGAIN"), ("EWOULDBLOCK", "SocketRetry", "EWOULDBLOCK"),
      ("EINTR", "SocketRetry", "EINTR"), ("ENOBUFS", "SocketRetry", "ENOBUFS"), ("ENOMEM", "SocketRetry", "ENOMEM"),
      ("ECONNRESET", "SocketBroken", "ECONNRESET"), ("EPIPE", "SocketBroken", "EPIPE"),
      ("EACCES", "SocketConnect", "EACCES")] ∧
    Gen.ErrClass.dflt = ("SocketError", "=") := ⟨by rfl, by rfl, by rfl⟩

/-- every constant of the table has a known value -/
theorem constants_known : ∀ a ∈ Gen.ErrClass.arms, (errnoVal a.1).isSome ∧ (errnoVal a.2.2).isSome := by decide +kernel

/-- first arm whose constant has value `e`: (variant, errno carried); the catch-all carries `e` -/
def classifyWith (arms : List (String × String × String)) (dflt : String × String) (e : Nat) : String × Option Nat :=
  match arms.find? (fun a => errnoVal a.1 == some e) with
  | some a => (a.2.1, errnoVal a.2.2)
  | none => (dflt.1, if dflt.2 == "=" then some e else none)

def classify (e : Nat) : String × Option Nat := classifyWith Gen.ErrClass.arms Gen.ErrClass.dflt e

/-- the constants the arms match on take these values and no others -/
theorem arm_values : ∀ a ∈ Gen.ErrClass.arms, ∃ v ∈ [4, 11, 12, 13, 32, 104, 105], errnoVal a.1 = some v := by
  decide +kernel

/-- the class, and the errno carried, for every errno: the seven values that have an arm by evaluation, any other
value falls through to the catch-all -/
theorem classify_eq (e : Nat) : classify e =
    (if e = 4 ∨ e = 11 ∨ e = 12 ∨ e = 105 then "SocketRetry" else if e = 32 ∨ e = 104 then "SocketBroken"
     else if e = 13 then "SocketConnect" else "SocketError", some e) := by
  by_cases h : e ∈ [4, 11, 12, 13, 32, 104, 105]
  · revert e; decide +kernel
  · have hnone : Gen.ErrClass.arms.find? (fun a => errnoVal a.1 == some e) = none :=
      List.find?_eq_none.2 fun a ha hv => by
        obtain ⟨v, hv', ev⟩ := arm_values a ha
        rw [ev, beq_iff_eq, Option.some.injEq] at hv
        exact h (hv ▸ hv')
    simp only [classify, classifyWith, hnone, arms_are_model.2.2]
    simp at h; simp [h]

/-- the error carries the errno it was built from — for every errno -/
theorem classify_keeps_errno (e : Nat) : (classify e).2 = some e := by rw [classify_eq]

theorem retry_iff (e : Nat) : (classify e).1 = "SocketRetry" ↔ (e = 4 ∨ e = 11 ∨ e = 12 ∨ e = 105) := by
  rw [classify_eq]; dsimp only
  repeat' split
  all_goals simp [*]

theorem broken_iff (e : Nat) : (classify e).1 = "SocketBroken" ↔ (e = 32 ∨ e = 104) := by
  rw [classify_eq]; dsimp only
  repeat' split
  all_goals simp [*] <;> omega

theorem connect_iff (e : Nat) : (classify e).1 = "SocketConnect" ↔ e = 13 := by
  rw [classify_eq]; dsimp only
  repeat' split
  all_goals simp [*] <;> omega

theorem error_otherwise (e : Nat) (h : e ≠ 4 ∧ e ≠ 11 ∧ e ≠ 12 ∧ e ≠ 13 ∧ e ≠ 32 ∧ e ≠ 104 ∧ e ≠ 105) :
    (classify e).1 = "SocketError" := by
  simp [classify_eq, h]

/-- the rules the models use: a full queue (`ENOBUFS`) and a would-block are "retry", a reset or closed peer is
"broken", anything else (e.g. `EBADF` 9, `ENOTCONN` 107, `EMSGSIZE` 90) is a plain socket error -/
theorem model_rules :
    classify 105 = ("SocketRetry", some 105) ∧ classify 11 = ("SocketRetry", some 11) ∧
    classify 104 = ("SocketBroken", some 104) ∧ classify 32 = ("SocketBroken", some 32) ∧
    classify 9 = ("SocketError", some 9) ∧ classify 107 = ("SocketError", some 107) ∧ classify 90 = ("SocketError", some 90) := by
  decide +kernel

end Props.ErrClass
