-- GENERATED by tools/rs2lean.py from /repo — do not edit.

import VhostModel.Base.ImpFe
import VhostModel.Gen.ConnLoops

set_option linter.unusedVariables false

/-! The reply readers of `vhost/src/vhost_user/frontend.rs` (`impl FrontendInternal`), the header accessors of `vhost/src/vhost_user/message.rs` they use,
`take_single_file` (`vhost/src/vhost_user/mod.rs`) and, per API method, the statements from the reader call to the end of the method,
as terms of the imperative language of `VhostModel/Base/ImpFe.lean` (variables named as in the source).  Calls of
`self.main_sock.<f>` are calls of the generated `Gen.ConnLoops` terms.  Tied to `Model.Frontend.recv` / `finish` /
`isReplyFor` by `VhostModel/Props/FeRecv.lean` (the header accessors: `Props/FeRecvHdr.lean`). -/
namespace Gen.FeRecv
open Imp (Var)
open ImpFe

local infixr:60 " ;; " => FStmt.seq

/-! ### `impl<R: Req> VhostUserMsgHeader<R>`: accessors (`get_code()` is `Ok` ⇔ `codeOk request`) -/
namespace Hdr
/-- `VhostUserMsgHeader::get_size` (vhost/src/vhost_user/message.rs) -/
def getSize (self_ : Var) : FExp :=
  (.field self_ "VhostUserMsgHeader" ["size"])
/-- `VhostUserMsgHeader::is_reply` (vhost/src/vhost_user/message.rs) -/
def isReply (self_ : Var) : FCond :=
  (.ne (.band (.field self_ "VhostUserMsgHeader" ["flags"]) (.lit 0x4 /- VhostUserHeaderFlag::REPLY -/)) (.lit 0))
/-- `VhostUserMsgHeader::is_need_reply` (vhost/src/vhost_user/message.rs) -/
def isNeedReply (self_ : Var) : FCond :=
  (.ne (.band (.field self_ "VhostUserMsgHeader" ["flags"]) (.lit 0x8 /- VhostUserHeaderFlag::NEED_REPLY -/)) (.lit 0))
/-- `VhostUserMsgHeader::is_reply_for` (vhost/src/vhost_user/message.rs) -/
def isReplyFor (self_ req : Var) : FCond :=
  (.ite (.and (.codeOk (.field self_ "VhostUserMsgHeader" ["request"])) (.codeOk (.field req "VhostUserMsgHeader" ["request"]))) (.and (.and (Hdr.isReply self_) (.not (Hdr.isReply req))) (.eq (.field self_ "VhostUserMsgHeader" ["request"]) (.field req "VhostUserMsgHeader" ["request"]))) .ff)
end Hdr

/-! ### `VhostUserMsgHeader::new` -/
namespace HdrNew
@[reducible] def request : Var := ⟨0, "request"⟩   -- nat
@[reducible] def flags : Var := ⟨1, "flags"⟩   -- nat
@[reducible] def size : Var := ⟨2, "size"⟩   -- nat
@[reducible] def fl : Var := ⟨3, "fl"⟩   -- nat
@[reducible] def out : Var := ⟨0, "out"⟩   -- buf
def fnBody : FStmt :=
  (.assign fl (.bor (.band (.var flags) (.lit 0xc /- VhostUserHeaderFlag::ALL_FLAGS -/)) (.lit 1)) ;;
   (.mkBuf out [(4, (.var request)), (4, (.var fl)), (4, (.var size))] ;;
   .ret [] .none [out] none))
end HdrNew
/-- `VhostUserMsgHeader::new` (vhost/src/vhost_user/message.rs) -/
def hdrNew : FStmt := HdrNew.fnBody

/-! ### `take_single_file` -/
namespace TakeSingleFile
@[reducible] def files : Var := ⟨0, "files"⟩   -- fd
@[reducible] def files_fd : Var := ⟨1, "files"⟩   -- fd
@[reducible] def file : Var := ⟨0, "file"⟩   -- nat
def fnBody : FStmt :=
  (.ite (.not (.fIsSome files))
    (.ret [] .none [] none)
    .skip ;;
   .assignF files_fd (.move files) ;;
   .ite (.ne (.lenF files_fd) (.lit 1))
    (.dropF files_fd ;;
     .ret [] .none [] none)
    .skip ;;
   (.takeFd file files_fd (.lit 0) ;;
   .dropF files_fd ;;
   .ret [] .none [] (some file)))
end TakeSingleFile
/-- `take_single_file` (vhost/src/vhost_user/mod.rs) -/
def takeSingleFile : FStmt := TakeSingleFile.fnBody

/-! ### `check_state` -/
namespace CheckState
@[reducible] def e : Var := ⟨0, "e"⟩   -- nat
def fnBody : FStmt :=
  .matchSelfError e
    (.retErr (.sockBroken (.var e)))
    (.ret [] .none [] none)
end CheckState
/-- `check_state` (vhost/src/vhost_user/frontend.rs) -/
def checkState : FStmt := CheckState.fnBody

/-! ### `check_feature` -/
namespace CheckFeature
@[reducible] def feat : Var := ⟨0, "feat"⟩   -- nat
def fnBody : FStmt :=
  .ite (.ne (.band (.self .virtio_features) (.var feat)) (.lit 0))
    (.ret [] .none [] none)
    (.retErr (.inactiveFeature (.var feat)))
end CheckFeature
/-- `check_feature` (vhost/src/vhost_user/frontend.rs) -/
def checkFeature : FStmt := CheckFeature.fnBody

/-! ### `check_proto_feature` -/
namespace CheckProtoFeature
@[reducible] def feat : Var := ⟨0, "feat"⟩   -- nat
def fnBody : FStmt :=
  .ite (.ne (.band (.self .acked_protocol_features) (.var feat)) (.lit 0))
    (.ret [] .none [] none)
    (.retErr (.inactiveOperation (.var feat)))
end CheckProtoFeature
/-- `check_proto_feature` (vhost/src/vhost_user/frontend.rs) -/
def checkProtoFeature : FStmt := CheckProtoFeature.fnBody

/-! ### `new_request_header` -/
namespace NewRequestHeader
@[reducible] def request : Var := ⟨0, "request"⟩   -- nat
@[reducible] def size : Var := ⟨1, "size"⟩   -- nat
@[reducible] def r_tail : Var := ⟨0, "r_tail"⟩   -- res
@[reducible] def v0 : Var := ⟨0, "v0"⟩   -- buf
def fnBody : FStmt :=
  (.callFe "VhostUserMsgHeader::new" HdrNew.fnBody [(HdrNew.request, (.var request)), (HdrNew.flags, (.bor (.self .hdr_flags) (.lit 1))), (HdrNew.size, (.var size))] [] [] r_tail ;;
   .matchOk r_tail [] none [v0] none .skip .fault ;;
   .ret [] .none [v0] none)
end NewRequestHeader
/-- `new_request_header` (vhost/src/vhost_user/frontend.rs) -/
def newRequestHeader : FStmt := NewRequestHeader.fnBody

/-! ### `recv_reply` -/
namespace RecvReply
@[reducible] def hdr : Var := ⟨0, "hdr"⟩   -- buf
@[reducible] def r_check_state : Var := ⟨0, "r_check_state"⟩   -- res
@[reducible] def r_reply : Var := ⟨1, "r_reply"⟩   -- res
@[reducible] def reply : Var := ⟨1, "reply"⟩   -- buf
@[reducible] def body : Var := ⟨2, "body"⟩   -- buf
@[reducible] def rfds : Var := ⟨0, "rfds"⟩   -- fd
def fnBody (T : String) : FStmt :=
  (.ite (.or (.gt (.sizeOf T) (.lit 4096 /- MAX_MSG_SIZE -/)) (Hdr.isReply hdr))
    (.retErr (.const .invalidParam))
    .skip ;;
   .callFe "check_state" CheckState.fnBody [] [] [] r_check_state ;;
   .matchOk r_check_state [] none [] none .skip (.retErr (.ofRes r_check_state)) ;;
   .callConn "recv_body" T Gen.ConnLoops.RecvBody.fnBody [] r_reply ;;
   .matchOk r_reply [] (some rfds) [reply, body] none .skip (.retErr (.ofRes r_reply)) ;;
   .ite (.or (.or (.not (Hdr.isReplyFor reply hdr)) (.fIsSome rfds)) (.not (.valid T body)))
    (.dropF rfds ;;
     .retErr (.const (.conn .invalidMessage)))
    .skip ;;
   (.dropF rfds ;;
   .ret [] .none [body] none))
end RecvReply
/-- `recv_reply` (vhost/src/vhost_user/frontend.rs) -/
def recvReply (T : String) : FStmt := RecvReply.fnBody T

/-! ### `recv_reply_with_optional_files` -/
namespace RecvReplyWithOptionalFiles
@[reducible] def hdr : Var := ⟨0, "hdr"⟩   -- buf
@[reducible] def r_check_state : Var := ⟨0, "r_check_state"⟩   -- res
@[reducible] def r_reply : Var := ⟨1, "r_reply"⟩   -- res
@[reducible] def reply : Var := ⟨1, "reply"⟩   -- buf
@[reducible] def body : Var := ⟨2, "body"⟩   -- buf
@[reducible] def files : Var := ⟨0, "files"⟩   -- fd
def fnBody (T : String) : FStmt :=
  (.ite (.or (.gt (.sizeOf T) (.lit 4096 /- MAX_MSG_SIZE -/)) (Hdr.isReply hdr))
    (.retErr (.const .invalidParam))
    .skip ;;
   .callFe "check_state" CheckState.fnBody [] [] [] r_check_state ;;
   .matchOk r_check_state [] none [] none .skip (.retErr (.ofRes r_check_state)) ;;
   .callConn "recv_body" T Gen.ConnLoops.RecvBody.fnBody [] r_reply ;;
   .matchOk r_reply [] (some files) [reply, body] none .skip (.retErr (.ofRes r_reply)) ;;
   .ite (.or (.not (Hdr.isReplyFor reply hdr)) (.not (.valid T body)))
    (.dropF files ;;
     .retErr (.const (.conn .invalidMessage)))
    .skip ;;
   .ret [] (.move files) [body] none)
end RecvReplyWithOptionalFiles
/-- `recv_reply_with_optional_files` (vhost/src/vhost_user/frontend.rs) -/
def recvReplyWithOptionalFiles (T : String) : FStmt := RecvReplyWithOptionalFiles.fnBody T

/-! ### `recv_reply_with_files` -/
namespace RecvReplyWithFiles
@[reducible] def hdr : Var := ⟨0, "hdr"⟩   -- buf
@[reducible] def r_body : Var := ⟨0, "r_body"⟩   -- res
@[reducible] def body : Var := ⟨1, "body"⟩   -- buf
@[reducible] def files : Var := ⟨0, "files"⟩   -- fd
def fnBody (T : String) : FStmt :=
  (.callFe "recv_reply_with_optional_files" (RecvReplyWithOptionalFiles.fnBody T) [] [(RecvReplyWithOptionalFiles.hdr, hdr)] [] r_body ;;
   .matchOk r_body [] (some files) [body] none .skip (.retErr (.ofRes r_body)) ;;
   .ite (.not (.fIsSome files))
    (.dropF files ;;
     .retErr (.const (.conn .invalidMessage)))
    .skip ;;
   .ret [] (.move files) [body] none)
end RecvReplyWithFiles
/-- `recv_reply_with_files` (vhost/src/vhost_user/frontend.rs) -/
def recvReplyWithFiles (T : String) : FStmt := RecvReplyWithFiles.fnBody T

/-! ### `recv_reply_with_payload` -/
namespace RecvReplyWithPayload
@[reducible] def hdr : Var := ⟨0, "hdr"⟩   -- buf
@[reducible] def r_check_state : Var := ⟨0, "r_check_state"⟩   -- res
@[reducible] def r_reply : Var := ⟨1, "r_reply"⟩   -- res
@[reducible] def reply : Var := ⟨1, "reply"⟩   -- buf
@[reducible] def body : Var := ⟨2, "body"⟩   -- buf
@[reducible] def files : Var := ⟨0, "files"⟩   -- fd
@[reducible] def expected : Var := ⟨0, "expected"⟩   -- nat
@[reducible] def payload_size : Var := ⟨1, "payload_size"⟩   -- nat
@[reducible] def r_bytes : Var := ⟨2, "r_bytes"⟩   -- res
@[reducible] def bytes : Var := ⟨2, "bytes"⟩   -- nat
@[reducible] def buf : Var := ⟨3, "buf"⟩   -- buf
def fnBody (T : String) : FStmt :=
  (.ite (.or (.or (.or (.gt (.sizeOf T) (.lit 4096 /- MAX_MSG_SIZE -/)) (.le (Hdr.getSize hdr) (.sizeOf T))) (.gt (Hdr.getSize hdr) (.lit 4096 /- MAX_MSG_SIZE -/))) (Hdr.isReply hdr))
    (.retErr (.const .invalidParam))
    .skip ;;
   .callFe "check_state" CheckState.fnBody [] [] [] r_check_state ;;
   .matchOk r_check_state [] none [] none .skip (.retErr (.ofRes r_check_state)) ;;
   .callConn "recv_body" T Gen.ConnLoops.RecvBody.fnBody [] r_reply ;;
   .matchOk r_reply [] (some files) [reply, body] none .skip (.retErr (.ofRes r_reply)) ;;
   .ite (.or (.or (.not (Hdr.isReplyFor reply hdr)) (.fIsSome files)) (.not (.valid T body)))
    (.dropF files ;;
     .retErr (.const (.conn .invalidMessage)))
    .skip ;;
   .assign expected (.sub (Hdr.getSize hdr) (.sizeOf T)) ;;
   .ite (.lt (Hdr.getSize reply) (.sizeOf T))
    (.dropF files ;;
     .retErr (.const (.conn .invalidMessage)))
    (.assign payload_size (.sub (Hdr.getSize reply) (.sizeOf T))) ;;
   .ite (.gt (.var payload_size) (.var expected))
    (.dropF files ;;
     .retErr (.const (.conn .invalidMessage)))
    .skip ;;
   .callConn "recv_data" "VhostUserEmpty" Gen.ConnLoops.RecvData.fnBody [(Gen.ConnLoops.RecvData.len, (.var payload_size))] r_bytes ;;
   .matchOk r_bytes [bytes] none [buf] none .skip (.dropF files ;;
   .retErr (.ofRes r_bytes)) ;;
   .ite (.ne (.var bytes) (.var payload_size))
    (.dropF files ;;
     .retErr (.const (.conn .partialMessage)))
    .skip ;;
   .ret [] (.move files) [body, buf] none)
end RecvReplyWithPayload
/-- `recv_reply_with_payload` (vhost/src/vhost_user/frontend.rs) -/
def recvReplyWithPayload (T : String) : FStmt := RecvReplyWithPayload.fnBody T

/-! ### `wait_for_ack` -/
namespace WaitForAck
@[reducible] def hdr : Var := ⟨0, "hdr"⟩   -- buf
@[reducible] def r_check_state : Var := ⟨0, "r_check_state"⟩   -- res
@[reducible] def r_reply : Var := ⟨1, "r_reply"⟩   -- res
@[reducible] def reply : Var := ⟨1, "reply"⟩   -- buf
@[reducible] def body : Var := ⟨2, "body"⟩   -- buf
@[reducible] def rfds : Var := ⟨0, "rfds"⟩   -- fd
def fnBody : FStmt :=
  (.ite (.or (.eq (.band (.self .acked_protocol_features) (.lit 0x8 /- VhostUserProtocolFeatures::REPLY_ACK -/)) (.lit 0)) (.not (Hdr.isNeedReply hdr)))
    (.ret [] .none [] none)
    .skip ;;
   .callFe "check_state" CheckState.fnBody [] [] [] r_check_state ;;
   .matchOk r_check_state [] none [] none .skip (.retErr (.ofRes r_check_state)) ;;
   .callConn "recv_body" "VhostUserU64" Gen.ConnLoops.RecvBody.fnBody [] r_reply ;;
   .matchOk r_reply [] (some rfds) [reply, body] none .skip (.retErr (.ofRes r_reply)) ;;
   .ite (.or (.or (.not (Hdr.isReplyFor reply hdr)) (.fIsSome rfds)) (.not (.valid "VhostUserU64" body)))
    (.dropF rfds ;;
     .retErr (.const (.conn .invalidMessage)))
    .skip ;;
   .ite (.ne (.field body "VhostUserU64" ["value"]) (.lit 0))
    (.dropF rfds ;;
     .retErr (.const .backendInternalError))
    .skip ;;
   (.dropF rfds ;;
   .ret [] .none [] none))
end WaitForAck
/-- `wait_for_ack` (vhost/src/vhost_user/frontend.rs) -/
def waitForAck : FStmt := WaitForAck.fnBody

/-! ### API methods: from the reader call to the end of the method -/
namespace Api
/-! #### `VhostBackend::get_features` -/
namespace GetFeatures
@[reducible] def hdr : Var := ⟨0, "hdr"⟩   -- buf
@[reducible] def r_val : Var := ⟨0, "r_val"⟩   -- res
@[reducible] def val : Var := ⟨1, "val"⟩   -- buf
/-- the reader call: `recv_reply::<VhostUserU64>` -/
def readCall : FStmt :=
  (.callFe "recv_reply" (RecvReply.fnBody "VhostUserU64") [] [(RecvReply.hdr, hdr)] [] r_val ;;
   .matchOk r_val [] none [val] none .skip (.retErr (.ofRes r_val)))
/-- what the method does with the reply -/
def finish : FStmt :=
  (.assignSelf .virtio_features (.field val "VhostUserU64" ["value"]) ;;
   .ret [(.self .virtio_features)] .none [] none)
def post : FStmt := readCall ;; finish
end GetFeatures

/-! #### `VhostBackend::set_features` -/
namespace SetFeatures
@[reducible] def features : Var := ⟨0, "features"⟩   -- nat
@[reducible] def val : Var := ⟨0, "val"⟩   -- buf
@[reducible] def hdr : Var := ⟨1, "hdr"⟩   -- buf
@[reducible] def r_wait_for_ack : Var := ⟨0, "r_wait_for_ack"⟩   -- res
/-- the reader call: `wait_for_ack` -/
def readCall : FStmt :=
  .callFe "wait_for_ack" WaitForAck.fnBody [] [(WaitForAck.hdr, hdr)] [] r_wait_for_ack
/-- what the method does with the reply -/
def finish : FStmt :=
  .matchOk r_wait_for_ack [] none [] none
    (.ret [] .none [] none)
    (.retErr (.ofRes r_wait_for_ack))
def post : FStmt := readCall ;; finish
end SetFeatures

/-! #### `VhostBackend::set_owner` -/
namespace SetOwner
@[reducible] def hdr : Var := ⟨0, "hdr"⟩   -- buf
@[reducible] def r_wait_for_ack : Var := ⟨0, "r_wait_for_ack"⟩   -- res
/-- the reader call: `wait_for_ack` -/
def readCall : FStmt :=
  .callFe "wait_for_ack" WaitForAck.fnBody [] [(WaitForAck.hdr, hdr)] [] r_wait_for_ack
/-- what the method does with the reply -/
def finish : FStmt :=
  .matchOk r_wait_for_ack [] none [] none
    (.ret [] .none [] none)
    (.retErr (.ofRes r_wait_for_ack))
def post : FStmt := readCall ;; finish
end SetOwner

/-! #### `VhostBackend::reset_owner` -/
namespace ResetOwner
@[reducible] def hdr : Var := ⟨0, "hdr"⟩   -- buf
@[reducible] def r_wait_for_ack : Var := ⟨0, "r_wait_for_ack"⟩   -- res
/-- the reader call: `wait_for_ack` -/
def readCall : FStmt :=
  .callFe "wait_for_ack" WaitForAck.fnBody [] [(WaitForAck.hdr, hdr)] [] r_wait_for_ack
/-- what the method does with the reply -/
def finish : FStmt :=
  .matchOk r_wait_for_ack [] none [] none
    (.ret [] .none [] none)
    (.retErr (.ofRes r_wait_for_ack))
def post : FStmt := readCall ;; finish
end ResetOwner

/-! #### `VhostBackend::set_mem_table` -/
namespace SetMemTable
@[reducible] def body : Var := ⟨0, "body"⟩   -- buf
@[reducible] def hdr : Var := ⟨1, "hdr"⟩   -- buf
@[reducible] def r_wait_for_ack : Var := ⟨0, "r_wait_for_ack"⟩   -- res
/-- the reader call: `wait_for_ack` -/
def readCall : FStmt :=
  .callFe "wait_for_ack" WaitForAck.fnBody [] [(WaitForAck.hdr, hdr)] [] r_wait_for_ack
/-- what the method does with the reply -/
def finish : FStmt :=
  .matchOk r_wait_for_ack [] none [] none
    (.ret [] .none [] none)
    (.retErr (.ofRes r_wait_for_ack))
def post : FStmt := readCall ;; finish
end SetMemTable

/-! #### `VhostBackend::set_log_base` -/
namespace SetLogBase
@[reducible] def base : Var := ⟨0, "base"⟩   -- nat
@[reducible] def val : Var := ⟨0, "val"⟩   -- buf
@[reducible] def log : Var := ⟨1, "log"⟩   -- buf
@[reducible] def hdr : Var := ⟨2, "hdr"⟩   -- buf
@[reducible] def r_ign : Var := ⟨0, "r_ign"⟩   -- res
@[reducible] def ign : Var := ⟨3, "ign"⟩   -- buf
@[reducible] def ign_buf : Var := ⟨4, "_"⟩   -- buf
/-- the reader call: `recv_reply::<VhostUserLog>` -/
def readCall : FStmt :=
  (.callFe "recv_reply" (RecvReply.fnBody "VhostUserLog") [] [(RecvReply.hdr, hdr)] [] r_ign ;;
   .matchOk r_ign [] none [ign] none .skip (.retErr (.ofRes r_ign)))
/-- what the method does with the reply -/
def finish : FStmt :=
  .ret [] .none [] none
def post : FStmt := readCall ;; finish
end SetLogBase

/-! #### `VhostBackend::set_log_fd` -/
namespace SetLogFd
@[reducible] def hdr : Var := ⟨0, "hdr"⟩   -- buf
@[reducible] def r_wait_for_ack : Var := ⟨0, "r_wait_for_ack"⟩   -- res
/-- the reader call: `wait_for_ack` -/
def readCall : FStmt :=
  .callFe "wait_for_ack" WaitForAck.fnBody [] [(WaitForAck.hdr, hdr)] [] r_wait_for_ack
/-- what the method does with the reply -/
def finish : FStmt :=
  .matchOk r_wait_for_ack [] none [] none
    (.ret [] .none [] none)
    (.retErr (.ofRes r_wait_for_ack))
def post : FStmt := readCall ;; finish
end SetLogFd

/-! #### `VhostBackend::set_vring_num` -/
namespace SetVringNum
@[reducible] def queue_index : Var := ⟨0, "queue_index"⟩   -- nat
@[reducible] def num : Var := ⟨1, "num"⟩   -- nat
@[reducible] def val : Var := ⟨0, "val"⟩   -- buf
@[reducible] def hdr : Var := ⟨1, "hdr"⟩   -- buf
@[reducible] def r_wait_for_ack : Var := ⟨0, "r_wait_for_ack"⟩   -- res
/-- the reader call: `wait_for_ack` -/
def readCall : FStmt :=
  .callFe "wait_for_ack" WaitForAck.fnBody [] [(WaitForAck.hdr, hdr)] [] r_wait_for_ack
/-- what the method does with the reply -/
def finish : FStmt :=
  .matchOk r_wait_for_ack [] none [] none
    (.ret [] .none [] none)
    (.retErr (.ofRes r_wait_for_ack))
def post : FStmt := readCall ;; finish
end SetVringNum

/-! #### `VhostBackend::set_vring_addr` -/
namespace SetVringAddr
@[reducible] def queue_index : Var := ⟨0, "queue_index"⟩   -- nat
@[reducible] def hdr : Var := ⟨0, "hdr"⟩   -- buf
@[reducible] def r_wait_for_ack : Var := ⟨0, "r_wait_for_ack"⟩   -- res
/-- the reader call: `wait_for_ack` -/
def readCall : FStmt :=
  .callFe "wait_for_ack" WaitForAck.fnBody [] [(WaitForAck.hdr, hdr)] [] r_wait_for_ack
/-- what the method does with the reply -/
def finish : FStmt :=
  .matchOk r_wait_for_ack [] none [] none
    (.ret [] .none [] none)
    (.retErr (.ofRes r_wait_for_ack))
def post : FStmt := readCall ;; finish
end SetVringAddr

/-! #### `VhostBackend::set_vring_base` -/
namespace SetVringBase
@[reducible] def queue_index : Var := ⟨0, "queue_index"⟩   -- nat
@[reducible] def base : Var := ⟨1, "base"⟩   -- nat
@[reducible] def val : Var := ⟨0, "val"⟩   -- buf
@[reducible] def hdr : Var := ⟨1, "hdr"⟩   -- buf
@[reducible] def r_wait_for_ack : Var := ⟨0, "r_wait_for_ack"⟩   -- res
/-- the reader call: `wait_for_ack` -/
def readCall : FStmt :=
  .callFe "wait_for_ack" WaitForAck.fnBody [] [(WaitForAck.hdr, hdr)] [] r_wait_for_ack
/-- what the method does with the reply -/
def finish : FStmt :=
  .matchOk r_wait_for_ack [] none [] none
    (.ret [] .none [] none)
    (.retErr (.ofRes r_wait_for_ack))
def post : FStmt := readCall ;; finish
end SetVringBase

/-! #### `VhostBackend::get_vring_base` -/
namespace GetVringBase
@[reducible] def queue_index : Var := ⟨0, "queue_index"⟩   -- nat
@[reducible] def req : Var := ⟨0, "req"⟩   -- buf
@[reducible] def hdr : Var := ⟨1, "hdr"⟩   -- buf
@[reducible] def r_reply : Var := ⟨0, "r_reply"⟩   -- res
@[reducible] def reply : Var := ⟨2, "reply"⟩   -- buf
/-- the reader call: `recv_reply::<VhostUserVringState>` -/
def readCall : FStmt :=
  (.callFe "recv_reply" (RecvReply.fnBody "VhostUserVringState") [] [(RecvReply.hdr, hdr)] [] r_reply ;;
   .matchOk r_reply [] none [reply] none .skip (.retErr (.ofRes r_reply)))
/-- what the method does with the reply -/
def finish : FStmt :=
  .ret [(.field reply "VhostUserVringState" ["num"])] .none [] none
def post : FStmt := readCall ;; finish
end GetVringBase

/-! #### `VhostBackend::set_vring_call` -/
namespace SetVringCall
@[reducible] def queue_index : Var := ⟨0, "queue_index"⟩   -- nat
@[reducible] def hdr : Var := ⟨0, "hdr"⟩   -- buf
@[reducible] def r_wait_for_ack : Var := ⟨0, "r_wait_for_ack"⟩   -- res
/-- the reader call: `wait_for_ack` -/
def readCall : FStmt :=
  .callFe "wait_for_ack" WaitForAck.fnBody [] [(WaitForAck.hdr, hdr)] [] r_wait_for_ack
/-- what the method does with the reply -/
def finish : FStmt :=
  .matchOk r_wait_for_ack [] none [] none
    (.ret [] .none [] none)
    (.retErr (.ofRes r_wait_for_ack))
def post : FStmt := readCall ;; finish
end SetVringCall

/-! #### `VhostBackend::set_vring_kick` -/
namespace SetVringKick
@[reducible] def queue_index : Var := ⟨0, "queue_index"⟩   -- nat
@[reducible] def hdr : Var := ⟨0, "hdr"⟩   -- buf
@[reducible] def r_wait_for_ack : Var := ⟨0, "r_wait_for_ack"⟩   -- res
/-- the reader call: `wait_for_ack` -/
def readCall : FStmt :=
  .callFe "wait_for_ack" WaitForAck.fnBody [] [(WaitForAck.hdr, hdr)] [] r_wait_for_ack
/-- what the method does with the reply -/
def finish : FStmt :=
  .matchOk r_wait_for_ack [] none [] none
    (.ret [] .none [] none)
    (.retErr (.ofRes r_wait_for_ack))
def post : FStmt := readCall ;; finish
end SetVringKick

/-! #### `VhostBackend::set_vring_err` -/
namespace SetVringErr
@[reducible] def queue_index : Var := ⟨0, "queue_index"⟩   -- nat
@[reducible] def hdr : Var := ⟨0, "hdr"⟩   -- buf
@[reducible] def r_wait_for_ack : Var := ⟨0, "r_wait_for_ack"⟩   -- res
/-- the reader call: `wait_for_ack` -/
def readCall : FStmt :=
  .callFe "wait_for_ack" WaitForAck.fnBody [] [(WaitForAck.hdr, hdr)] [] r_wait_for_ack
/-- what the method does with the reply -/
def finish : FStmt :=
  .matchOk r_wait_for_ack [] none [] none
    (.ret [] .none [] none)
    (.retErr (.ofRes r_wait_for_ack))
def post : FStmt := readCall ;; finish
end SetVringErr

/-! #### `VhostUserFrontend::get_protocol_features` -/
namespace GetProtocolFeatures
@[reducible] def hdr : Var := ⟨0, "hdr"⟩   -- buf
@[reducible] def r_val : Var := ⟨0, "r_val"⟩   -- res
@[reducible] def val : Var := ⟨1, "val"⟩   -- buf
/-- the reader call: `recv_reply::<VhostUserU64>` -/
def readCall : FStmt :=
  (.callFe "recv_reply" (RecvReply.fnBody "VhostUserU64") [] [(RecvReply.hdr, hdr)] [] r_val ;;
   .matchOk r_val [] none [val] none .skip (.retErr (.ofRes r_val)))
/-- what the method does with the reply -/
def finish : FStmt :=
  (.assignSelf .protocol_features (.field val "VhostUserU64" ["value"]) ;;
   .ret [(.band (.self .protocol_features) (.lit 0x3fffff /- VhostUserProtocolFeatures::all -/))] .none [] none)
def post : FStmt := readCall ;; finish
end GetProtocolFeatures

/-! #### `VhostUserFrontend::set_protocol_features` -/
namespace SetProtocolFeatures
@[reducible] def features : Var := ⟨0, "features"⟩   -- nat
@[reducible] def val : Var := ⟨0, "val"⟩   -- buf
@[reducible] def hdr : Var := ⟨1, "hdr"⟩   -- buf
@[reducible] def r_wait_for_ack : Var := ⟨0, "r_wait_for_ack"⟩   -- res
/-- the reader call: `wait_for_ack` -/
def readCall : FStmt :=
  .callFe "wait_for_ack" WaitForAck.fnBody [] [(WaitForAck.hdr, hdr)] [] r_wait_for_ack
/-- what the method does with the reply -/
def finish : FStmt :=
  .matchOk r_wait_for_ack [] none [] none
    (.ret [] .none [] none)
    (.retErr (.ofRes r_wait_for_ack))
def post : FStmt := readCall ;; finish
end SetProtocolFeatures

/-! #### `VhostUserFrontend::get_queue_num` -/
namespace GetQueueNum
@[reducible] def hdr : Var := ⟨0, "hdr"⟩   -- buf
@[reducible] def r_val : Var := ⟨0, "r_val"⟩   -- res
@[reducible] def val : Var := ⟨1, "val"⟩   -- buf
/-- the reader call: `recv_reply::<VhostUserU64>` -/
def readCall : FStmt :=
  (.callFe "recv_reply" (RecvReply.fnBody "VhostUserU64") [] [(RecvReply.hdr, hdr)] [] r_val ;;
   .matchOk r_val [] none [val] none .skip (.retErr (.ofRes r_val)))
/-- what the method does with the reply -/
def finish : FStmt :=
  (.ite (.gt (.field val "VhostUserU64" ["value"]) (.lit 32768 /- VHOST_USER_MAX_VRINGS -/))
    (.retErr (.const (.conn .invalidMessage)))
    .skip ;;
   .assignSelf .max_queue_num (.field val "VhostUserU64" ["value"]) ;;
   .ret [(.self .max_queue_num)] .none [] none)
def post : FStmt := readCall ;; finish
end GetQueueNum

/-! #### `VhostUserFrontend::reset_device` -/
namespace ResetDevice
@[reducible] def hdr : Var := ⟨0, "hdr"⟩   -- buf
@[reducible] def r_wait_for_ack : Var := ⟨0, "r_wait_for_ack"⟩   -- res
/-- the reader call: `wait_for_ack` -/
def readCall : FStmt :=
  .callFe "wait_for_ack" WaitForAck.fnBody [] [(WaitForAck.hdr, hdr)] [] r_wait_for_ack
/-- what the method does with the reply -/
def finish : FStmt :=
  .matchOk r_wait_for_ack [] none [] none
    (.ret [] .none [] none)
    (.retErr (.ofRes r_wait_for_ack))
def post : FStmt := readCall ;; finish
end ResetDevice

/-! #### `VhostUserFrontend::set_vring_enable` -/
namespace SetVringEnable
@[reducible] def queue_index : Var := ⟨0, "queue_index"⟩   -- nat
@[reducible] def val : Var := ⟨0, "val"⟩   -- buf
@[reducible] def hdr : Var := ⟨1, "hdr"⟩   -- buf
@[reducible] def r_wait_for_ack : Var := ⟨0, "r_wait_for_ack"⟩   -- res
/-- the reader call: `wait_for_ack` -/
def readCall : FStmt :=
  .callFe "wait_for_ack" WaitForAck.fnBody [] [(WaitForAck.hdr, hdr)] [] r_wait_for_ack
/-- what the method does with the reply -/
def finish : FStmt :=
  .matchOk r_wait_for_ack [] none [] none
    (.ret [] .none [] none)
    (.retErr (.ofRes r_wait_for_ack))
def post : FStmt := readCall ;; finish
end SetVringEnable

/-! #### `VhostUserFrontend::get_config` -/
namespace GetConfig
@[reducible] def offset : Var := ⟨0, "offset"⟩   -- nat
@[reducible] def size : Var := ⟨1, "size"⟩   -- nat
@[reducible] def flags : Var := ⟨2, "flags"⟩   -- nat
@[reducible] def buf : Var := ⟨0, "buf"⟩   -- buf
@[reducible] def body : Var := ⟨1, "body"⟩   -- buf
@[reducible] def hdr : Var := ⟨2, "hdr"⟩   -- buf
@[reducible] def r_body_reply : Var := ⟨0, "r_body_reply"⟩   -- res
@[reducible] def body_reply : Var := ⟨3, "body_reply"⟩   -- buf
@[reducible] def buf_reply : Var := ⟨4, "buf_reply"⟩   -- buf
@[reducible] def rfds : Var := ⟨0, "rfds"⟩   -- fd
/-- the reader call: `recv_reply_with_payload::<VhostUserConfig>` -/
def readCall : FStmt :=
  (.callFe "recv_reply_with_payload" (RecvReplyWithPayload.fnBody "VhostUserConfig") [] [(RecvReplyWithPayload.hdr, hdr)] [] r_body_reply ;;
   .matchOk r_body_reply [] (some rfds) [body_reply, buf_reply] none .skip (.retErr (.ofRes r_body_reply)))
/-- what the method does with the reply -/
def finish : FStmt :=
  (.ite (.fIsSome rfds)
    (.dropF rfds ;;
     .retErr (.const (.conn .invalidMessage)))
    (.ite (.eq (.field body_reply "VhostUserConfig" ["size"]) (.lit 0))
      (.dropF rfds ;;
       .retErr (.const .backendInternalError))
      (.ite (.or (.or (.or (.ne (.field body_reply "VhostUserConfig" ["size"]) (.field body "VhostUserConfig" ["size"])) (.ne (.field body_reply "VhostUserConfig" ["size"]) (.lenB buf))) (.ne (.field body_reply "VhostUserConfig" ["offset"]) (.field body "VhostUserConfig" ["offset"]))) (.ne (.lenB buf_reply) (.lenB buf)))
        (.dropF rfds ;;
         .retErr (.const (.conn .invalidMessage)))
        .skip)) ;;
   (.dropF rfds ;;
   .ret [] .none [body_reply, buf_reply] none))
def post : FStmt := readCall ;; finish
end GetConfig

/-! #### `VhostUserFrontend::set_config` -/
namespace SetConfig
@[reducible] def offset : Var := ⟨0, "offset"⟩   -- nat
@[reducible] def flags : Var := ⟨1, "flags"⟩   -- nat
@[reducible] def buf : Var := ⟨0, "buf"⟩   -- buf
@[reducible] def body : Var := ⟨1, "body"⟩   -- buf
@[reducible] def hdr : Var := ⟨2, "hdr"⟩   -- buf
@[reducible] def r_wait_for_ack : Var := ⟨0, "r_wait_for_ack"⟩   -- res
/-- the reader call: `wait_for_ack` -/
def readCall : FStmt :=
  .callFe "wait_for_ack" WaitForAck.fnBody [] [(WaitForAck.hdr, hdr)] [] r_wait_for_ack
/-- what the method does with the reply -/
def finish : FStmt :=
  .matchOk r_wait_for_ack [] none [] none
    (.ret [] .none [] none)
    (.retErr (.ofRes r_wait_for_ack))
def post : FStmt := readCall ;; finish
end SetConfig

/-! #### `VhostUserFrontend::set_backend_request_fd` -/
namespace SetBackendRequestFd
@[reducible] def hdr : Var := ⟨0, "hdr"⟩   -- buf
@[reducible] def r_wait_for_ack : Var := ⟨0, "r_wait_for_ack"⟩   -- res
/-- the reader call: `wait_for_ack` -/
def readCall : FStmt :=
  .callFe "wait_for_ack" WaitForAck.fnBody [] [(WaitForAck.hdr, hdr)] [] r_wait_for_ack
/-- what the method does with the reply -/
def finish : FStmt :=
  .matchOk r_wait_for_ack [] none [] none
    (.ret [] .none [] none)
    (.retErr (.ofRes r_wait_for_ack))
def post : FStmt := readCall ;; finish
end SetBackendRequestFd

/-! #### `VhostUserFrontend::get_shared_object` -/
namespace GetSharedObject
@[reducible] def uuid : Var := ⟨0, "uuid"⟩   -- buf
@[reducible] def hdr : Var := ⟨1, "hdr"⟩   -- buf
@[reducible] def r_ign : Var := ⟨0, "r_ign"⟩   -- res
@[reducible] def ign : Var := ⟨2, "ign"⟩   -- buf
@[reducible] def files : Var := ⟨0, "files"⟩   -- fd
@[reducible] def r_match : Var := ⟨1, "r_match"⟩   -- res
@[reducible] def file : Var := ⟨0, "file"⟩   -- nat
/-- the reader call: `recv_reply_with_files::<VhostUserEmpty>` -/
def readCall : FStmt :=
  (.callFe "recv_reply_with_files" (RecvReplyWithFiles.fnBody "VhostUserEmpty") [] [(RecvReplyWithFiles.hdr, hdr)] [] r_ign ;;
   .matchOk r_ign [] (some files) [ign] none .skip (.retErr (.ofRes r_ign)))
/-- what the method does with the reply -/
def finish : FStmt :=
  (.callFe "take_single_file" TakeSingleFile.fnBody [] [] [(TakeSingleFile.files, files)] r_match ;;
   .matchFile r_match file
    (.ret [] .none [] (some file))
    (.retErr (.const (.conn .incorrectFds))))
def post : FStmt := readCall ;; finish
end GetSharedObject

/-! #### `VhostUserFrontend::get_inflight_fd` -/
namespace GetInflightFd
@[reducible] def inflight : Var := ⟨0, "inflight"⟩   -- buf
@[reducible] def hdr : Var := ⟨1, "hdr"⟩   -- buf
@[reducible] def r_inflight : Var := ⟨0, "r_inflight"⟩   -- res
@[reducible] def inflight_buf : Var := ⟨2, "inflight"⟩   -- buf
@[reducible] def files : Var := ⟨0, "files"⟩   -- fd
@[reducible] def r_match : Var := ⟨1, "r_match"⟩   -- res
@[reducible] def file : Var := ⟨0, "file"⟩   -- nat
/-- the reader call: `recv_reply_with_files::<VhostUserInflight>` -/
def readCall : FStmt :=
  (.callFe "recv_reply_with_files" (RecvReplyWithFiles.fnBody "VhostUserInflight") [] [(RecvReplyWithFiles.hdr, hdr)] [] r_inflight ;;
   .matchOk r_inflight [] (some files) [inflight_buf] none .skip (.retErr (.ofRes r_inflight)))
/-- what the method does with the reply -/
def finish : FStmt :=
  (.callFe "take_single_file" TakeSingleFile.fnBody [] [] [(TakeSingleFile.files, files)] r_match ;;
   .matchFile r_match file
    (.ret [] .none [inflight_buf] (some file))
    (.retErr (.const (.conn .incorrectFds))))
def post : FStmt := readCall ;; finish
end GetInflightFd

/-! #### `VhostUserFrontend::set_inflight_fd` -/
namespace SetInflightFd
@[reducible] def inflight : Var := ⟨0, "inflight"⟩   -- buf
@[reducible] def hdr : Var := ⟨1, "hdr"⟩   -- buf
@[reducible] def r_wait_for_ack : Var := ⟨0, "r_wait_for_ack"⟩   -- res
/-- the reader call: `wait_for_ack` -/
def readCall : FStmt :=
  .callFe "wait_for_ack" WaitForAck.fnBody [] [(WaitForAck.hdr, hdr)] [] r_wait_for_ack
/-- what the method does with the reply -/
def finish : FStmt :=
  .matchOk r_wait_for_ack [] none [] none
    (.ret [] .none [] none)
    (.retErr (.ofRes r_wait_for_ack))
def post : FStmt := readCall ;; finish
end SetInflightFd

/-! #### `VhostUserFrontend::get_max_mem_slots` -/
namespace GetMaxMemSlots
@[reducible] def hdr : Var := ⟨0, "hdr"⟩   -- buf
@[reducible] def r_val : Var := ⟨0, "r_val"⟩   -- res
@[reducible] def val : Var := ⟨1, "val"⟩   -- buf
/-- the reader call: `recv_reply::<VhostUserU64>` -/
def readCall : FStmt :=
  (.callFe "recv_reply" (RecvReply.fnBody "VhostUserU64") [] [(RecvReply.hdr, hdr)] [] r_val ;;
   .matchOk r_val [] none [val] none .skip (.retErr (.ofRes r_val)))
/-- what the method does with the reply -/
def finish : FStmt :=
  .ret [(.field val "VhostUserU64" ["value"])] .none [] none
def post : FStmt := readCall ;; finish
end GetMaxMemSlots

/-! #### `VhostUserFrontend::add_mem_region` -/
namespace AddMemRegion
@[reducible] def hdr : Var := ⟨0, "hdr"⟩   -- buf
@[reducible] def r_wait_for_ack : Var := ⟨0, "r_wait_for_ack"⟩   -- res
/-- the reader call: `wait_for_ack` -/
def readCall : FStmt :=
  .callFe "wait_for_ack" WaitForAck.fnBody [] [(WaitForAck.hdr, hdr)] [] r_wait_for_ack
/-- what the method does with the reply -/
def finish : FStmt :=
  .matchOk r_wait_for_ack [] none [] none
    (.ret [] .none [] none)
    (.retErr (.ofRes r_wait_for_ack))
def post : FStmt := readCall ;; finish
end AddMemRegion

/-! #### `VhostUserFrontend::remove_mem_region` -/
namespace RemoveMemRegion
@[reducible] def hdr : Var := ⟨0, "hdr"⟩   -- buf
@[reducible] def r_wait_for_ack : Var := ⟨0, "r_wait_for_ack"⟩   -- res
/-- the reader call: `wait_for_ack` -/
def readCall : FStmt :=
  .callFe "wait_for_ack" WaitForAck.fnBody [] [(WaitForAck.hdr, hdr)] [] r_wait_for_ack
/-- what the method does with the reply -/
def finish : FStmt :=
  .matchOk r_wait_for_ack [] none [] none
    (.ret [] .none [] none)
    (.retErr (.ofRes r_wait_for_ack))
def post : FStmt := readCall ;; finish
end RemoveMemRegion

/-! #### `VhostUserFrontend::get_shmem_config` -/
namespace GetShmemConfig
@[reducible] def hdr : Var := ⟨0, "hdr"⟩   -- buf
@[reducible] def r_config : Var := ⟨0, "r_config"⟩   -- res
@[reducible] def config : Var := ⟨1, "config"⟩   -- buf
/-- the reader call: `recv_reply::<VhostUserShMemConfig>` -/
def readCall : FStmt :=
  (.callFe "recv_reply" (RecvReply.fnBody "VhostUserShMemConfig") [] [(RecvReply.hdr, hdr)] [] r_config ;;
   .matchOk r_config [] none [config] none .skip (.retErr (.ofRes r_config)))
/-- what the method does with the reply -/
def finish : FStmt :=
  .ret [] .none [config] none
def post : FStmt := readCall ;; finish
end GetShmemConfig

/-! #### `VhostUserFrontend::set_device_state_fd` -/
namespace SetDeviceStateFd
@[reducible] def direction : Var := ⟨0, "direction"⟩   -- nat
@[reducible] def phase : Var := ⟨1, "phase"⟩   -- nat
@[reducible] def body : Var := ⟨0, "body"⟩   -- buf
@[reducible] def hdr : Var := ⟨1, "hdr"⟩   -- buf
@[reducible] def r_body : Var := ⟨0, "r_body"⟩   -- res
@[reducible] def body_buf : Var := ⟨2, "body"⟩   -- buf
@[reducible] def files : Var := ⟨0, "files"⟩   -- fd
@[reducible] def msg : Var := ⟨2, "msg"⟩   -- nat
@[reducible] def r_match : Var := ⟨1, "r_match"⟩   -- res
@[reducible] def file : Var := ⟨3, "file"⟩   -- nat
/-- the reader call: `recv_reply_with_optional_files::<VhostUserU64>` -/
def readCall : FStmt :=
  (.callFe "recv_reply_with_optional_files" (RecvReplyWithOptionalFiles.fnBody "VhostUserU64") [] [(RecvReplyWithOptionalFiles.hdr, hdr)] [] r_body ;;
   .matchOk r_body [] (some files) [body_buf] none .skip (.retErr (.ofRes r_body)))
/-- what the method does with the reply -/
def finish : FStmt :=
  (.assign msg (.field body_buf "VhostUserU64" ["value"]) ;;
   .ite (.and (.eq (.var msg) (.lit 256)) (.not (.fIsSome files)))
    (.dropF files ;;
     .ret [] .none [] none)
    (.ite (.and (.eq (.var msg) (.lit 0)) (.fIsSome files))
      (.callFe "take_single_file" TakeSingleFile.fnBody [] [] [(TakeSingleFile.files, files)] r_match ;;
       .matchFile r_match file
        (.ret [] .none [] (some file))
        (.retErr (.const (.conn .incorrectFds))))
      .skip) ;;
   (.dropF files ;;
   .retErr (.const .backendInternalError)))
def post : FStmt := readCall ;; finish
end SetDeviceStateFd

/-! #### `VhostUserFrontend::check_device_state` -/
namespace CheckDeviceState
@[reducible] def hdr : Var := ⟨0, "hdr"⟩   -- buf
@[reducible] def r_body : Var := ⟨0, "r_body"⟩   -- res
@[reducible] def body : Var := ⟨1, "body"⟩   -- buf
/-- the reader call: `recv_reply::<VhostUserU64>` -/
def readCall : FStmt :=
  (.callFe "recv_reply" (RecvReply.fnBody "VhostUserU64") [] [(RecvReply.hdr, hdr)] [] r_body ;;
   .matchOk r_body [] none [body] none .skip (.retErr (.ofRes r_body)))
/-- what the method does with the reply -/
def finish : FStmt :=
  (.ite (.ne (.field body "VhostUserU64" ["value"]) (.lit 0))
    (.retErr (.const .backendInternalError))
    .skip ;;
   .ret [] .none [] none)
def post : FStmt := readCall ;; finish
end CheckDeviceState

/-! #### `VhostUserFrontend::postcopy_advise` -/
namespace PostcopyAdvise
@[reducible] def hdr : Var := ⟨0, "hdr"⟩   -- buf
@[reducible] def r_ign : Var := ⟨0, "r_ign"⟩   -- res
@[reducible] def ign : Var := ⟨1, "ign"⟩   -- buf
@[reducible] def files : Var := ⟨0, "files"⟩   -- fd
@[reducible] def r_match : Var := ⟨1, "r_match"⟩   -- res
@[reducible] def file : Var := ⟨0, "file"⟩   -- nat
/-- the reader call: `recv_reply_with_files::<VhostUserEmpty>` -/
def readCall : FStmt :=
  (.callFe "recv_reply_with_files" (RecvReplyWithFiles.fnBody "VhostUserEmpty") [] [(RecvReplyWithFiles.hdr, hdr)] [] r_ign ;;
   .matchOk r_ign [] (some files) [ign] none .skip (.retErr (.ofRes r_ign)))
/-- what the method does with the reply -/
def finish : FStmt :=
  (.callFe "take_single_file" TakeSingleFile.fnBody [] [] [(TakeSingleFile.files, files)] r_match ;;
   .matchFile r_match file
    (.ret [] .none [] (some file))
    (.retErr (.const (.conn .incorrectFds))))
def post : FStmt := readCall ;; finish
end PostcopyAdvise

/-! #### `VhostUserFrontend::postcopy_listen` -/
namespace PostcopyListen
@[reducible] def hdr : Var := ⟨0, "hdr"⟩   -- buf
@[reducible] def r_wait_for_ack : Var := ⟨0, "r_wait_for_ack"⟩   -- res
/-- the reader call: `wait_for_ack` -/
def readCall : FStmt :=
  .callFe "wait_for_ack" WaitForAck.fnBody [] [(WaitForAck.hdr, hdr)] [] r_wait_for_ack
/-- what the method does with the reply -/
def finish : FStmt :=
  .matchOk r_wait_for_ack [] none [] none
    (.ret [] .none [] none)
    (.retErr (.ofRes r_wait_for_ack))
def post : FStmt := readCall ;; finish
end PostcopyListen

/-! #### `VhostUserFrontend::postcopy_end` -/
namespace PostcopyEnd
@[reducible] def hdr : Var := ⟨0, "hdr"⟩   -- buf
@[reducible] def r_wait_for_ack : Var := ⟨0, "r_wait_for_ack"⟩   -- res
/-- the reader call: `wait_for_ack` -/
def readCall : FStmt :=
  .callFe "wait_for_ack" WaitForAck.fnBody [] [(WaitForAck.hdr, hdr)] [] r_wait_for_ack
/-- what the method does with the reply -/
def finish : FStmt :=
  .matchOk r_wait_for_ack [] none [] none
    (.ret [] .none [] none)
    (.retErr (.ofRes r_wait_for_ack))
def post : FStmt := readCall ;; finish
end PostcopyEnd

end Api

/-- `(API method, reader it calls, type argument)`, in source order -/
def apiReaders : List (String × String × String) := [
  ("get_features", "recv_reply", "VhostUserU64"),
  ("set_features", "wait_for_ack", ""),
  ("set_owner", "wait_for_ack", ""),
  ("reset_owner", "wait_for_ack", ""),
  ("set_mem_table", "wait_for_ack", ""),
  ("set_log_base", "recv_reply", "VhostUserLog"),
  ("set_log_fd", "wait_for_ack", ""),
  ("set_vring_num", "wait_for_ack", ""),
  ("set_vring_addr", "wait_for_ack", ""),
  ("set_vring_base", "wait_for_ack", ""),
  ("get_vring_base", "recv_reply", "VhostUserVringState"),
  ("set_vring_call", "wait_for_ack", ""),
  ("set_vring_kick", "wait_for_ack", ""),
  ("set_vring_err", "wait_for_ack", ""),
  ("get_protocol_features", "recv_reply", "VhostUserU64"),
  ("set_protocol_features", "wait_for_ack", ""),
  ("get_queue_num", "recv_reply", "VhostUserU64"),
  ("reset_device", "wait_for_ack", ""),
  ("set_vring_enable", "wait_for_ack", ""),
  ("get_config", "recv_reply_with_payload", "VhostUserConfig"),
  ("set_config", "wait_for_ack", ""),
  ("set_backend_request_fd", "wait_for_ack", ""),
  ("get_shared_object", "recv_reply_with_files", "VhostUserEmpty"),
  ("get_inflight_fd", "recv_reply_with_files", "VhostUserInflight"),
  ("set_inflight_fd", "wait_for_ack", ""),
  ("get_max_mem_slots", "recv_reply", "VhostUserU64"),
  ("add_mem_region", "wait_for_ack", ""),
  ("remove_mem_region", "wait_for_ack", ""),
  ("get_shmem_config", "recv_reply", "VhostUserShMemConfig"),
  ("set_device_state_fd", "recv_reply_with_optional_files", "VhostUserU64"),
  ("check_device_state", "recv_reply", "VhostUserU64"),
  ("postcopy_advise", "recv_reply_with_files", "VhostUserEmpty"),
  ("postcopy_listen", "wait_for_ack", ""),
  ("postcopy_end", "wait_for_ack", "")
]

/-- the `recv_reply*` functions of `impl FrontendInternal`, in source order -/
def readerNames : List String := ["recv_reply", "recv_reply_with_optional_files", "recv_reply_with_files", "recv_reply_with_payload"]

end Gen.FeRecv
