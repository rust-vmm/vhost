import VhostModel.Spec.KickDelivery
/-!
# Model.Worker — worker thread × control thread × guest, small-step (C12)

Hand-written from `vhost-user-backend/src/{event_loop.rs, vring.rs, handler.rs}`.  One ring, one worker.  The atomic
steps are exactly the code segments between the hold points of feature `verif-hooks` (DESIGN §11):

worker (`VringEpollHandler::run` / `handle_event`), label `w` = "the worker's next segment":

| from hold            | segment                                                                                   | to |
|----------------------|-------------------------------------------------------------------------------------------|----|
| `worker.wait`        | `epoll.wait` returns the ring's event iff its descriptor is registered and readable        | `worker.woken` (or stays) |
| `worker.woken`       | (`fix-c12-stopped-dispatch`: `if !queue.ready() return`)                                   | `worker.pre_read` (or next wait) |
| `worker.pre_read`    | `read_kick`: (`fix-c12-lost-kick`: `if !enabled return false`); `if let Some(k) = kick { k.consume()? }` (`fix-c12-stale-eagain`: `EAGAIN ⇒ false`; pinned: the worker thread ends); `Ok(enabled)`; then `if !enabled return` | `worker.dispatch` (or next wait, or exit) |
| `worker.dispatch`    | `backend.handle_event`                                                                     | next wait |

control thread (`VhostUserHandler`), labels `send m` (a message arrives, only when idle) and `c` = its next segment:

| message | segments (each ends at a hold point `ctl.state` / `ctl.ready` / `ctl.epoll` / `ctl.drop`, the last with the reply) |
|---|---|
| SET_VRING_ENABLE b, RESET_DEVICE (b = 0) | `set_enabled(b)` · `update_vring_registration` · reply |
| GET_VRING_BASE | `set_queue_ready(false)` · `update_vring_registration` · `set_kick(None); set_call(None)` · reply |
| SET_VRING_KICK(fresh fd) | (fix-c11-rekick: unregister the current fd) `set_kick(fd)` · [`set_queue_ready(true)` if `vring_needs_init`] · `update_vring_registration` · reply |
| SET_VRING_KICK(no-descriptor flag) | (unregister the current fd) `set_kick(None)` · [`vring_needs_init` = `!ready && kick.is_some()` is false: nothing; with the *mutated* guard `!ready` (`Cfg.nofdStarts`): `set_queue_ready(true)`] · `update_vring_registration` (no descriptor: nothing to add or delete) · reply |

guest: label `kick d` adds one to the counter of descriptor `d`.

Every segment that touches the ring takes the ring lock for its duration (`get_ref()` / `lock()` inside `read_kick`, `set_*`,
`update_vring_registration`), and no hold point lies inside a critical section: segments are atomic with respect to each
other, which is what `step` expresses.  epoll is level-triggered; `consume` zeroes the counter.  One ring has at most one
registered descriptor (its current kick descriptor — the invariant `Lemmas.Worker.InvC.c3`), so a batch holds at most one event
of the ring; staleness of "events returned by one wait" is the delay between `worker.woken` and the later segments.

`Cfg` selects the pinned code (`all false`) or the repairs; `nofdStarts` is not a repair but a *mutation* kept for the
counterexample `Props.C12.nofd_kick_marks_ready_counterexample`: the guard of `set_vring_kick` weakened from
`vring_needs_init` to `!ready` (false in the pinned and in the repaired code).  The fields `rdStale`, `chkStale`, `clean`, `glog` are ghost
state for the theorems; no non-ghost component depends on them.
-/
namespace Model.Worker
open Spec.KickDelivery

structure Cfg where
  fixLost : Bool        -- fix-c12-lost-kick
  fixEagain : Bool      -- fix-c12-stale-eagain
  fixStopped : Bool     -- fix-c12-stopped-dispatch
  nofdStarts : Bool     -- MUTATION (not in the tree): `set_vring_kick` initialises the ring on `!ready` alone
deriving DecidableEq, Repr

def Cfg.pinned : Cfg := ⟨false, false, false, false⟩
def Cfg.repaired : Cfg := ⟨true, true, true, false⟩
/-- the repaired code with the guard of `set_vring_kick` mutated -/
def Cfg.nofdMutant : Cfg := ⟨true, true, true, true⟩

inductive WPc where
  | wait | woken | checked | toDispatch | dead
deriving DecidableEq, Repr

inductive CPc where
  | idle
  | inMsg (m : CMsg) (stage : Nat)
deriving DecidableEq, Repr

inductive Lbl where
  | kick (d : Evt)
  | w
  | send (m : CMsg)
  | c
deriving DecidableEq, Repr

/-- ghost records -/
inductive GRec where
  | disp (forbD forbS rdStale chkStale : Bool)   -- a handler entry: the periods it fell into, and whether a
                                                  -- disabling / stopping state change overtook its grant / ready-check
  | dropped (clean : Bool)                        -- a wake-up consumed without a handler call
deriving DecidableEq, Repr

def upd {α : Type} (f : Nat → α) (i : Nat) (v : α) : Nat → α := fun j => if j = i then v else f j

structure St where
  cfg : Cfg
  ready : Bool
  enabled : Bool
  kick : Option Evt
  reg : Evt → Bool
  cnt : Evt → Nat
  next : Evt
  wpc : WPc
  cpc : CPc
  trace : List Ev
  rdStale : Bool
  chkStale : Bool
  clean : Bool
  glog : List GRec

/-- a started and enabled ring with descriptor 0 registered, nothing pending, both threads idle -/
def init (cfg : Cfg) : St :=
  { cfg := cfg, ready := true, enabled := true, kick := some 0, reg := fun d => d == 0, cnt := fun _ => 0, next := 1,
    wpc := .wait, cpc := .idle, trace := [], rdStale := false, chkStale := false, clean := true, glog := [] }

def readyAny (s : St) : Bool := (List.range s.next).any fun d => s.reg d && decide (0 < s.cnt d)

/-- the control thread is between a disabling state change and the epoll update that follows it -/
def pendingDel (s : St) : Bool :=
  match s.cpc with
  | .inMsg m 1 => m.disables
  | _ => false

def emit (s : St) (e : Ev) : St := { s with trace := s.trace ++ [e] }

/-- `update_vring_registration` -/
def epollUpdate (s : St) : St :=
  match s.kick with
  | none => s
  | some fd => { s with reg := upd s.reg fd (s.ready && s.enabled) }

/-- fix-c11-rekick: the current kick descriptor leaves the epoll set before it is replaced -/
def unregKick (s : St) : St :=
  match s.kick with
  | some k => { s with reg := upd s.reg k false }
  | none => s

def wStep (s : St) : Option St :=
  match s.wpc with
  | .dead => none
  | .wait => some (if readyAny s then { s with wpc := .woken, clean := !pendingDel s } else s)
  | .woken =>
    some (if s.cfg.fixStopped && !s.ready then { s with wpc := .wait } else { s with wpc := .checked, chkStale := false })
  | .checked =>
    if s.cfg.fixLost && !s.enabled then some { s with wpc := .wait } else
    match s.kick with
    | some k =>
      if s.cnt k = 0 then
        (if s.cfg.fixEagain then some { s with wpc := .wait } else some (emit { s with wpc := .dead } .workerExit))
      else
        let s1 := { s with cnt := upd s.cnt k 0 }
        if s.enabled then some (emit { s1 with wpc := .toDispatch, rdStale := false } (.consumed true))
        else some (emit { s1 with wpc := .wait, glog := s1.glog ++ [.dropped s.clean] } (.consumed false))
    | none =>
      if s.enabled then some { s with wpc := .toDispatch, rdStale := false } else some { s with wpc := .wait }
  | .toDispatch =>
    let p := period s.trace
    some (emit { s with wpc := .wait, glog := s.glog ++ [.disp p.forbD p.forbS s.rdStale s.chkStale] } .dispatch)

/-- ghost: a disabling state change lands -/
def noteDisable (s : St) : St :=
  { s with rdStale := s.rdStale || decide (s.wpc = .toDispatch),
           clean := s.clean && !(decide (s.wpc = .woken) || decide (s.wpc = .checked)) }

/-- ghost: a stopping state change lands -/
def noteStop (s : St) : St :=
  { s with chkStale := s.chkStale || decide (s.wpc = .checked) || decide (s.wpc = .toDispatch) }

def reply (s : St) (m : CMsg) : St := emit { s with cpc := .idle } (.reply m)

def cStep (s : St) : Option St :=
  match s.cpc with
  | .idle => none
  | .inMsg m stage =>
    match m, stage with
    | .disable, 0 => some (noteDisable { s with enabled := false, cpc := .inMsg m 1 })
    | .reset, 0 => some (noteDisable { s with enabled := false, cpc := .inMsg m 1 })
    | .enable, 0 => some { s with enabled := true, cpc := .inMsg m 1 }
    | .disable, 1 => some { epollUpdate s with cpc := .inMsg m 2 }
    | .reset, 1 => some { epollUpdate s with cpc := .inMsg m 2 }
    | .enable, 1 => some { epollUpdate s with cpc := .inMsg m 2 }
    | .disable, 2 => some (reply s m)
    | .reset, 2 => some (reply s m)
    | .enable, 2 => some (reply s m)
    | .stop, 0 => some (noteStop { s with ready := false, cpc := .inMsg m 1 })
    | .stop, 1 => some { epollUpdate s with cpc := .inMsg m 2 }
    | .stop, 2 => some { s with kick := none, cpc := .inMsg m 3 }
    | .stop, 3 => some (reply s m)
    | .restart, 0 =>
      some { unregKick s with kick := some s.next, next := s.next + 1, cpc := .inMsg m (if s.ready then 2 else 1) }
    | .restart, 1 => some { s with ready := true, cpc := .inMsg m 2 }
    | .restart, 2 => some { epollUpdate s with cpc := .inMsg m 3 }
    | .restart, 3 => some (reply s m)
    | .nofd, 0 =>
      some { unregKick s with kick := none, cpc := .inMsg m (if s.cfg.nofdStarts && !s.ready then 1 else 2) }
    | .nofd, 1 => some { s with ready := true, cpc := .inMsg m 2 }
    | .nofd, 2 => some { epollUpdate s with cpc := .inMsg m 3 }
    | .nofd, 3 => some (reply s m)
    | _, _ => none

def step (s : St) : Lbl → Option St
  | .kick d => some (emit { s with cnt := upd s.cnt d (s.cnt d + 1) } (.kick d))
  | .w => wStep s
  | .send m =>
    match s.cpc with
    | .idle => some (emit { s with cpc := .inMsg m 0 } (.start m))
    | _ => none
  | .c => cStep s

def run (s : St) : List Lbl → Option St
  | [] => some s
  | l :: ls =>
    match step s l with
    | none => none
    | some s' => run s' ls

end Model.Worker
